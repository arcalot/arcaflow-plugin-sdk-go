import ArcaModel.Model.Basic
import ArcaModel.Model.Value
import ArcaModel.Model.Scalar
import ArcaModel.Model.Ops
import ArcaModel.Model.Dispatch
import ArcaModel.Model.WF
import ArcaModel.Model.WFCheck
import ArcaModel.Lemmas.Assoc
import ArcaModel.Lemmas.Out
import ArcaModel.Lemmas.Depth
import ArcaModel.Lemmas.Stuck
import ArcaModel.Lemmas.NoPanicRun
import ArcaModel.Lemmas.Termination
import ArcaModel.Props.C04
import ArcaModel.Model.Func
import ArcaModel.Model.DispatchFunc
import ArcaModel.Props.C18
import ArcaModel.Model.Codegen
import ArcaModel.Model.DispatchCodegen
import ArcaModel.Props.C19
import ArcaModel.Lemmas.Traverse
import ArcaModel.Props.C02
import ArcaModel.Props.C03
import ArcaModel.Props.C17
import ArcaModel.Props.C12
import ArcaModel.Model.Step
import ArcaModel.Model.DispatchStep
import ArcaModel.Lemmas.NodupMap
import ArcaModel.Lemmas.Step
import ArcaModel.Props.C11
import ArcaModel.Props.C01
import ArcaModel.Model.Compat
import ArcaModel.Model.Effects
import ArcaModel.Gen.Effects
import ArcaModel.Model.DispatchEffects
import ArcaModel.Props.C13
import ArcaModel.Props.C15
import ArcaModel.Model.Units
import ArcaModel.Model.DispatchUnits
import ArcaModel.Lemmas.Units
import ArcaModel.Props.C16
import ArcaModel.Model.AtpClient
import ArcaModel.Model.DispatchAtpClient
import ArcaModel.Lemmas.AtpClient
import ArcaModel.Gen.AtpClientFacts
import ArcaModel.Props.C06
import ArcaModel.Props.C06Facts
import ArcaModel.Props.C08
import ArcaModel.Model.AtpServer
import ArcaModel.Model.AtpSession
import ArcaModel.Model.DispatchAtpServer
import ArcaModel.Lemmas.AtpServer
import ArcaModel.Lemmas.AtpServerProgress
import ArcaModel.Lemmas.AtpServerRunId
import ArcaModel.Gen.AtpServerFacts
import ArcaModel.Props.C07
import ArcaModel.Props.C07Facts
import ArcaModel.Props.C05
import ArcaModel.Model.Describe
import ArcaModel.Model.DispatchDescribe
import ArcaModel.Gen.Meta
import ArcaModel.Lemmas.DescribeEval
import ArcaModel.Lemmas.DescribeMeta
import ArcaModel.Lemmas.DescribeParse
import ArcaModel.Lemmas.DescribeSchema
import ArcaModel.Lemmas.DescribeCbor
import ArcaModel.Props.C09
import ArcaModel.Props.C10
import ArcaModel.Lemmas.Terminates
import ArcaModel.Lemmas.TerminatesRec
import ArcaModel.Lemmas.UnitsPlain
import ArcaModel.Lemmas.PathLeads
import ArcaModel.Model.Link
import ArcaModel.Model.DispatchLink
import ArcaModel.Lemmas.Link
import ArcaModel.Lemmas.Inline
import ArcaModel.Lemmas.NoFuel
import ArcaModel.Props.C14
import ArcaModel.Lemmas.CompatHalts
import ArcaModel.Lemmas.UnitsFloat
import ArcaModel.Lemmas.CborLeg
import ArcaModel.Lemmas.PermEq
import ArcaModel.Lemmas.PermEqRun
import ArcaModel.Lemmas.PermEqTy
import ArcaModel.Model.StructMap
import ArcaModel.Model.StructMapWF
import ArcaModel.Model.DispatchStruct
import ArcaModel.Lemmas.ValueDecEq
import ArcaModel.Lemmas.StructMap
import ArcaModel.Lemmas.StructMapTotal
import ArcaModel.Props.StructMap
import ArcaModel.Lemmas.StructRoundTrip
import ArcaModel.Lemmas.StructRoundTripObj
import ArcaModel.Lemmas.StructRoundTripColl
import ArcaModel.Lemmas.StructOneOf
import ArcaModel.Lemmas.StructRoundTripAll
import ArcaModel.Props.StructRoundTrip
import ArcaModel.Props.StructOneOf
import ArcaModel.Props.StructNestedDefaults
