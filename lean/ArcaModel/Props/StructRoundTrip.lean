import ArcaModel.Lemmas.StructRoundTripAll
/-
  C01 for struct-mapped objects, end to end: Unserialize, Validate, Serialize, Unserialize,
  Serialize over `srun`, through nested struct-mapped objects, scopes, slices, maps and one-ofs of
  them, and map-backed leaves (`C01_roundtrip_closed_partial` is the leaf case).
-/
namespace Arca
namespace SM

/-- **End-to-end round trip of struct-mapped trees.** For every tree that passes the round-trip
    hypotheses `RTOK d t` (decidable: `rtOKB`, `C01_struct_rtOK_decidable`), every budget
    `fuel ≥ d`, every externals and EVERY raw value `v`: if Unserialize accepts `v` with result `s`,
    then `s` validates, serializes to some `w`, and `w` unserializes to an `s'` that is `s` up to
    exactly the identification `Eqv` - in the field of a treat-empty-as-default property a value that
    reads as unset (the zero value, a pointer to it, a negative zero) has become the absent state
    (the field's zero value, nil for a pointer field); nothing else changes - and `s'` validates and
    serializes to the identical `w` (idempotence on wire forms).

    The trees covered are all of `STy`: map-backed leaves (C01's `WF1`), scopes, slices and maps of
    struct-mapped objects, struct-mapped objects nested to any depth (by value, behind pointers, with
    defaults at every level), and one-ofs over struct-mapped members of pairwise distinct struct
    types (`RTOK.oneOf`: separate discriminator, which Serialize attaches; `RTOK.oneOfInl`: inlined
    discriminator, with or without treat-empty-as-default - a dropped zero discriminator is attached
    again by the one-of; `Eqv.oneOf`: the two structs are identified as values of ONE member).
    `_partial` only because of what the struct model itself leaves out
    (one-ofs mixing struct-mapped and map-backed members, recursive struct types, typed enums) and because `RTOK` is
    a sufficient condition: per pair it asks exact typing (`exactObjB`) and `rtPropB` - the latter's
    last clause is necessary (`C01_struct_needs_zero_accepted` below; for the other two the doc
    comment of `rtPropB` says what would go wrong), the former excludes narrow / unsigned / defined-type fields, whose values come back
    converted (`C01_struct_fromStruct_toStruct_conv`) and are not composed here. -/
theorem C01_struct_end_to_end_partial (x : Ext) (fuel d : Nat) (t : STy) (hok : RTOK d t) (hd : d ≤ fuel)
    (v s : SV) (hU : srun x fuel .U t v = .ok s) :
    srun x fuel .V t s = .ok (.val unitV) ∧
    ∃ w s', srun x fuel .S t s = .ok (.val w) ∧ srun x fuel .U t (.val w) = .ok s' ∧ Eqv t s s' ∧
      srun x fuel .V t s' = .ok (.val unitV) ∧ srun x fuel .S t s' = .ok (.val w) := by
  obtain ⟨hV, w, s', hS, hU2, hE, hS2, hV2, _⟩ := rt_all x fuel d t hok hd v s hU
  exact ⟨hV, w, s', hS, hU2, hE, hV2, hS2⟩

/-- the decidable check implies the hypotheses, for every budget from `n + 2` on -/
theorem C01_struct_rtOK_decidable (n : Nat) (t : STy) (h : rtOKB n t = true) : RTOK (n + 2) t :=
  rtOKB_sound n t h

/-- **Without treat-empty-as-default the round trip is exact**: the value unserialized from the
    serialized form is IDENTICAL to the first one. -/
theorem C01_struct_end_to_end_exact_partial (x : Ext) (fuel d n : Nat) (t : STy) (hok : RTOK d t) (hd : d ≤ fuel)
    (hne : noEmptyB n t = true) (v s : SV) (hU : srun x fuel .U t v = .ok s) :
    srun x fuel .V t s = .ok (.val unitV) ∧
    ∃ w, srun x fuel .S t s = .ok (.val w) ∧ srun x fuel .U t (.val w) = .ok s := by
  obtain ⟨hV, w, s', hS, hU2, hE, _, _⟩ := C01_struct_end_to_end_partial x fuel d t hok hd v s hU
  rw [← Eqv_eq n d t s s' hne hok hE] at hU2
  exact ⟨hV, w, hS, hU2⟩

/-! ### non-vacuity, and the necessity of the zero-value hypothesis -/

namespace RTExample

/-- `type Inner struct { Level int64 `json:"level"`; Tag string `json:"tag"`; P *string `json:"p,omitempty"` }` -/
def stInner : StructTy := ⟨"Inner", [
  ⟨"Level", "level", true, .int .int64, .val (.int .int64 0)⟩,
  ⟨"Tag", "tag", true, .str, .val (.str "")⟩,
  ⟨"P", "p,omitempty", true, .ptr .str, .nilPtr⟩]⟩

def zeroInner : SV := .struct "Inner" [("Level", .val (.int .int64 0)), ("Tag", .val (.str "")), ("P", .nilPtr)]

def stMid : StructTy := ⟨"Mid", [
  ⟨"Inner", "inner", true, .struct "Inner", zeroInner⟩,
  ⟨"InnerP", "innerp", true, .ptr (.struct "Inner"), .nilPtr⟩,
  ⟨"Note", "note,omitempty", true, .ptr .str, .nilPtr⟩,
  ⟨"Flag", "", true, .bool, .val (.bool false)⟩,
  ⟨"Any", "any", true, .iface, .val .nil⟩,
  ⟨"Items", "items", true, .slice .str, .nilSlice⟩,
  ⟨"Inners", "inners", true, .slice (.struct "Inner"), .nilSlice⟩,
  ⟨"ByKey", "bykey", true, .map .str (.struct "Inner"), .nilMap ⟨.string, false⟩⟩,
  ⟨"hidden", "", false, .int .int64, .val (.int .int64 0)⟩]⟩

/-- `level`: optional, no default, on a plain int64 field - its bounds accept 0 (`zeroFine`);
    `tag`: treat-empty-as-default; `p`: behind a pointer, with a default -/
def innerProps : List (String × SProp) := [
  ("level", .mk (.leaf (.int none (some 100) none)) false [] [] [] none false false),
  ("tag", .mk (.leaf (.str none none none)) false [] [] [] none false true),
  ("p", .mk (.leaf (.str (some 1) none none)) false [] [] [] (some ⟨some (.str "x"), none⟩) false false)]

def innerObj : STy := .obj "Inner" stInner false innerProps

/-- a sub-object by value with a default, the same behind a pointer, a pointer property with a
    conflicts rule against an interface property, a treat-empty-as-default flag, a required slice, a
    slice and a map of struct-mapped objects -/
def midProps : List (String × SProp) := [
  ("inner", .mk innerObj false [] [] [] (some ⟨some (toStrAny [("tag", .str "t")]), none⟩) false false),
  ("innerp", .mk innerObj false [] [] [] none false false),
  ("note", .mk (.leaf (.str (some 1) none none)) false [] [] ["any"] none false false),
  ("Flag", .mk (.leaf .bool) false [] [] [] none false true),
  ("any", .mk (.leaf .any) false [] [] [] none false false),
  ("items", .mk (.leaf (.list (.str none none none) none none)) true [] [] [] none false false),
  ("inners", .mk (.list innerObj none (some 3)) true [] [] [] none false false),
  ("bykey", .mk (.map (.str none none none) innerObj none none) true [] [] [] none false false)]

def midObj : STy := .scope (.obj "Mid" stMid false midProps)

theorem midObj_rtOKB : rtOKB 6 midObj = true := by decide +kernel

/-- the instance passes the decidable check ... -/
example : rtOKB 6 midObj = true := midObj_rtOKB
/-- ... so the end-to-end round trip holds of it for every input, externals and budget from 8 on -/
example (x : Ext) (fuel : Nat) (hf : 8 ≤ fuel) (v s : SV) (hU : srun x fuel .U midObj v = .ok s) :
    srun x fuel .V midObj s = .ok (.val unitV) ∧
    ∃ w s', srun x fuel .S midObj s = .ok (.val w) ∧ srun x fuel .U midObj (.val w) = .ok s' ∧ Eqv midObj s s' ∧
      srun x fuel .V midObj s' = .ok (.val unitV) ∧ srun x fuel .S midObj s' = .ok (.val w) :=
  C01_struct_end_to_end_partial x fuel 8 midObj (rtOKB_sound 6 midObj midObj_rtOKB) hf v s hU

/-- The recorded finding `struct-optional-bounded-zero-value`: `tag` optional, string of at least
    one character, on a plain string field. -/
def boundedProps : List (String × SProp) := [
  ("tag", .mk (.leaf (.str (some 1) none none)) false [] [] [] none false false),
  ("level", .mk (.leaf (.int none none none)) false [] [] [] none false false)]

def boundedObj : STy := .obj "Inner" stInner false boundedProps

/-- the pair is well-formed and exactly typed, and only `zeroFine` fails ... -/
example : wfObjB stInner boundedProps = true ∧ exactObjB stInner boundedProps = true ∧ rtOKB 4 boundedObj = false := by
  decide +kernel

/-- since e915fbc a DISABLED property on a plain field reads as unset while the field holds the zero
    value: the same bounded `tag`, disabled, is inside the theorem's scope -/
def disabledProps : List (String × SProp) := [
  ("tag", .mk (.leaf (.str (some 1) none none)) false [] [] [] none true false),
  ("level", .mk (.leaf (.int none none none)) false [] [] [] none false false)]

example : rtOKB 4 (.obj "Inner" stInner false disabledProps) = true := by decide +kernel
example : fromStruct stInner disabledProps [("Level", .val (.int .int64 0)), ("Tag", .val (.str "")), ("P", .nilPtr)] =
    .ok [("level", .val (.int .int64 0))] := by rfl

end RTExample

/-- **The zero-value hypothesis cannot be dropped.** On the well-formed, exactly typed pair
    `boundedObj` (an optional string of at least one character on a plain string field) Unserialize
    accepts the empty map, and its own result fails Validate and Serialize at `tag`: the unset field
    reads back as "" - the recorded finding `struct-optional-bounded-zero-value`. -/
theorem C01_struct_needs_zero_accepted (x : Ext) :
    ∃ s, srun x 5 .U RTExample.boundedObj (.val (toStrAny [])) = .ok s ∧
      srun x 5 .V RTExample.boundedObj s = .err ⟨true, ["tag"]⟩ ∧
      srun x 5 .S RTExample.boundedObj s = .err ⟨true, ["tag"]⟩ :=
  ⟨.struct "Inner" [("Level", .val (.int .int64 0)), ("Tag", .val (.str "")), ("P", .nilPtr)], by
    refine ⟨?_, ?_, ?_⟩ <;> rfl⟩

end SM
end Arca
