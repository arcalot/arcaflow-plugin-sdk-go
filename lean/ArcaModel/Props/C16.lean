import ArcaModel.Lemmas.Units
import ArcaModel.Lemmas.UnitsFloat
/-
  Property C16: unit formatting and parsing are inverse; parsing never returns a wrong number.

  Model: `Units.formatShortInt`, `Units.formatLongInt` (Model/Units.lean) and `Units.parseInt`
  (Model/Scalar.lean: the leftmost-first backtracking matcher of the regexp that
  `getReCache` builds, then the checked int64 accumulation).

  For definitions satisfying the decidable predicate `WFu`: both round trips, and the unit grammar
  with its exact value or rejection on overflow (`C16_roundtrip_short`, `C16_roundtrip_long`,
  `C16_grammar`). For ALL definitions and ALL strings: a successful parse returns the exact sum of
  count × multiplier, and its input is a string of the grammar (`C16_no_wrong_number`,
  `C16_reject`). The float parser, for every externals table `x : Ext` (`x.parseFloat` =
  `strconv.ParseFloat`), is characterised in the same way and relative to `ParseInt`
  (`C16_float_of_int`, `C16_float_no_dot`, `C16_float_reject`, `C16_float_grammar`).
  NOT proved: the FORMATTER side of the float clause - that
  `FormatShortFloat/FormatLongFloat` followed by `ParseFloat` is within floating-point tolerance of
  the original, and any bound on the rounding error of the float accumulation in `C16_float_reject`.
  `fmt.Sprintf("%f")`, `strconv.ParseFloat` and the float arithmetic of the formatter are externals of
  the model; that part is checked by the harness oracle (`harness units`, stream "floats") only.
-/
namespace Arca

/-- **C16 (grammar).** Take the multiplier units in the order the code sorts them (descending), and
    for each one either nothing or a token `digits ws* name ws*` (`PiecesOK`: the digit string is
    non-empty, `ws` is ASCII white space, `name` is any of the unit's four names), then optionally a
    base-unit token whose name may be omitted (`BaseOK`); surround the concatenation by any Unicode
    white space. If at least one token is present, `ParseInt` returns exactly
    `Σ value(digits) × multiplier` (`renderTotal`) when that sum fits int64, and an error otherwise
    (never a wrapped or partial number). -/
theorem C16_grammar (u : Units) (hu : WFu u) (lead trail : List Char) (ps : List (Option Piece))
    (bp : Option Piece) (hlead : AllUni lead) (htrail : AllUni trail)
    (hps : PiecesOK ((sortDesc u.mults).map (·.2.all)) ps) (hbp : BaseOK u.base.all bp)
    (hne : renderAll ps bp ≠ []) :
    u.parseInt (String.ofList (lead ++ (renderAll ps bp ++ trail))) =
      if renderTotal ps bp ((sortDesc u.mults).map (·.1)) ≤ maxInt64
      then some (renderTotal ps bp ((sortDesc u.mults).map (·.1))) else none := by
  obtain ⟨_, _, hms⟩ := hu.groupsWF
  have hA := capSum_nonneg (ps.map capOf) _ hms
  have hV := capVal_nonneg (capOf bp)
  have hbD := hbp.allDigits_capOf
  rw [parseInt_eq, captures_render hu hlead htrail hps hbp.toF hne]
  dsimp only
  rw [go_nonneg _ _ 0 (caps_allDigits hps) hms (Int.le_refl 0) (by decide), Int.zero_add]
  unfold renderTotal
  by_cases h1 : capSum (ps.map capOf) ((sortDesc u.mults).map (·.1)) ≤ maxInt64
  · rw [if_pos h1]
    dsimp only
    rw [baseStage_noDot _ (no_dot_of_digits hbD), capStep_nonneg hbD (Int.le_refl 1) hA h1,
      Int.mul_one]
  · rw [if_neg h1, if_neg (by omega)]

theorem renderTotal_cons (o : Option Piece) (ps : List (Option Piece)) (bp : Option Piece) (m : Int)
    (ms : List Int) :
    renderTotal (o :: ps) bp (m :: ms) = capVal (capOf o) * m + renderTotal ps bp ms := by
  simp [renderTotal, capSum, Int.add_assoc]

theorem capVal_capOf_some (p : Piece) : capVal (capOf (some p)) = (decVal p.ds : Int) := by
  simp [capVal, capOf]

theorem decVal_repr (n : Nat) : decVal (Nat.repr n).toList = n := by
  rw [Nat.toList_repr, decVal_toDigits]

/-- **C16 (overflow is rejected).** A well-formed string whose value does not fit int64 is an
    error. -/
theorem C16_grammar_overflow (u : Units) (hu : WFu u) (lead trail : List Char)
    (ps : List (Option Piece)) (bp : Option Piece) (hlead : AllUni lead) (htrail : AllUni trail)
    (hps : PiecesOK ((sortDesc u.mults).map (·.2.all)) ps) (hbp : BaseOK u.base.all bp)
    (hne : renderAll ps bp ≠ [])
    (hbig : maxInt64 < renderTotal ps bp ((sortDesc u.mults).map (·.1))) :
    u.parseInt (String.ofList (lead ++ (renderAll ps bp ++ trail))) = none := by
  rw [C16_grammar u hu lead trail ps bp hlead htrail hps hbp hne, if_neg (by omega)]

/-- `C16_grammar` for a string that is a rendering without surrounding white space -/
theorem parseInt_rendering (u : Units) (hu : WFu u) (s : String) (ps : List (Option Piece))
    (bp : Option Piece) (hs : s.toList = renderAll ps bp)
    (hps : PiecesOK ((sortDesc u.mults).map (·.2.all)) ps) (hbp : BaseOK u.base.all bp)
    (hne : renderAll ps bp ≠ []) :
    u.parseInt s =
      if renderTotal ps bp ((sortDesc u.mults).map (·.1)) ≤ maxInt64
      then some (renderTotal ps bp ((sortDesc u.mults).map (·.1))) else none := by
  have := C16_grammar u hu [] [] ps bp (fun _ h => nomatch h) (fun _ h => nomatch h) hps hbp hne
  rwa [List.nil_append, List.append_nil, ← hs, String.ofList_toList] at this

/-- every group absent: the rendering is the base token alone, the multiplier part of the sum is 0 -/
theorem pieces_absent (gs : List (List String)) (bp : Option Piece) :
    ∃ ps, PiecesOK gs ps ∧ renderAll ps bp = renderOpt bp ∧ ∀ ms, capSum (ps.map capOf) ms = 0 := by
  induction gs with
  | nil => exact ⟨[], .nil, rfl, fun _ => rfl⟩
  | cons g gs ih =>
    obtain ⟨ps, h1, h2, h3⟩ := ih
    refine ⟨none :: ps, h1.cons_none, h2, fun ms => ?_⟩
    cases ms with
    | nil => rfl
    | cons m ms =>
      rw [List.map_cons, capSum, capOf_none, capVal_empty, Int.zero_mul, Int.zero_add, h3]

theorem parseInt_zero (u : Units) (hu : WFu u) (s n : String) (hn : n ∈ u.base.all)
    (hs : s.toList = '0' :: n.toList) : u.parseInt s = some 0 := by
  have h0 : AllDigits ['0'] := by unfold AllDigits; decide
  have hp : BasePieceOK u.base.all ⟨['0'], [], n.toList, []⟩ :=
    ⟨List.cons_ne_nil _ _, h0, allWS_nil, allWS_nil, .inr ⟨n, hn, rfl⟩⟩
  obtain ⟨ps, hps, hr, hsum⟩ :=
    pieces_absent ((sortDesc u.mults).map (·.2.all)) (some ⟨['0'], [], n.toList, []⟩)
  have hr' : renderAll ps (some ⟨['0'], [], n.toList, []⟩) = '0' :: n.toList := by
    rw [hr, renderOpt, Piece.render, List.nil_append, List.append_nil]
    rfl
  rw [parseInt_rendering u hu s _ _ (hs.trans hr'.symm) hps (baseOK_some.mpr hp)
    (by rw [hr']; exact List.cons_ne_nil _ _), renderTotal, hsum, capVal_capOf_some]
  rfl

/-- Both formatters are `fmtCount` with two of the unit's names: formatting a non-negative int64
    and parsing the result gives the number back, whichever names are chosen. -/
theorem parse_format (u : Units) (hu : WFu u) {one many : UnitNames → String}
    (h1 : ∀ nm, one nm ∈ nm.all) (h2 : ∀ nm, many nm ∈ nm.all) (n : Int) (h0 : 0 ≤ n)
    (hn : inInt64 n = true) :
    u.parseInt (if n == 0 then fmtCount one many n u.base true
      else fmtGroups (fmtCount one many) u.base (sortDesc u.mults) n) = some n := by
  by_cases hz : n = 0
  · subst hz
    rw [if_pos (beq_self_eq_true _)]
    exact parseInt_zero u hu _ _ (h2 u.base) (fmtCount_zero one many _)
  · obtain ⟨_, _, hms⟩ := hu.groupsWF
    have hmax : n ≤ maxInt64 := by
      unfold inInt64 at hn
      simp only [Bool.and_eq_true, decide_eq_true_eq] at hn
      exact hn.2
    obtain ⟨ps, bp, hv, hb, hl, ht, hne⟩ :=
      fmtGroups_render _ (fmtCount_spec h1 h2) u.base (sortDesc u.mults) n h0 hmax
        fun x hx => hms x.1 (List.mem_map.mpr ⟨x, hx, rfl⟩)
    rw [if_neg (by simpa using hz), parseInt_rendering u hu _ ps bp hl hv hb (hne (by omega)), ht,
      if_pos hmax]

/-- **C16 (integers, short form).** Formatting a non-negative int64 in the short form and parsing
    the result gives the number back, for every well-formed definition. -/
theorem C16_roundtrip_short (u : Units) (n : Int) (hu : WFu u) (h0 : 0 ≤ n)
    (hn : inInt64 n = true) : u.parseInt (u.formatShortInt n) = some n := by
  unfold Units.formatShortInt
  rw [fmtCountShort_eq]
  exact parse_format u hu (fun _ => by simp [UnitNames.all]) (fun _ => by simp [UnitNames.all])
    n h0 hn

/-- **C16 (integers, long form).** The same for the long form. -/
theorem C16_roundtrip_long (u : Units) (n : Int) (hu : WFu u) (h0 : 0 ≤ n)
    (hn : inInt64 n = true) : u.parseInt (u.formatLongInt n) = some n := by
  unfold Units.formatLongInt
  rw [fmtCountLong_eq]
  exact parse_format u hu (fun _ => by simp [UnitNames.all]) (fun _ => by simp [UnitNames.all])
    n h0 hn

/-- **C16 (no wrong number).** Whatever the definition and the input: if `ParseInt` returns a number
    then the regexp matched with captures `caps` (one per multiplier, in sorted order) and `b` (base
    unit), each capture is a (possibly empty) string of ASCII digits, and the number is EXACTLY
    `Σ value(caps i) × multiplier i + value(b)` computed in ℤ; it lies in the int64 range. -/
theorem C16_no_wrong_number (u : Units) (s : String) (v : Int) (h : u.parseInt s = some v) :
    ∃ caps b,
      matchGroups ((sortDesc u.mults).map (·.2.all)) u.base.all (skipWS (trimSpace s.toList)) =
        some (caps, b) ∧
      (∀ c ∈ caps, AllDigits c.toList) ∧ AllDigits b.toList ∧ caps.length = u.mults.length ∧
      v = capSum caps ((sortDesc u.mults).map (·.1)) + capVal b ∧ inInt64 v = true := by
  obtain ⟨caps, b, hc, hD, hbD, hlen, _, hv, hin⟩ := parseInt_some h
  exact ⟨caps, b, (captures_eq_some.mp hc).2, hD, hbD, hlen, hv, hin⟩

/-- **C16 (everything else is rejected).** Whatever the definition and the input: if `ParseInt`
    returns a number, then the input with its surrounding white space removed IS a string of the unit
    grammar (one optional `digits ws* name ws*` token per multiplier unit in sorted order, then the
    optional base token; at least one token), and the number is the value of that rendering.
    Contrapositive: every string outside the grammar is an error. Together with `C16_grammar` this
    characterises `ParseInt` on well-formed definitions completely. -/
theorem C16_reject (u : Units) (s : String) (v : Int) (h : u.parseInt s = some v) :
    ∃ ps bp, PiecesOK ((sortDesc u.mults).map (·.2.all)) ps ∧ BaseOK u.base.all bp ∧
      skipWS (trimSpace s.toList) = renderAll ps bp ∧ renderAll ps bp ≠ [] ∧
      skipWS (trimSpace s.toList) = trimSpace s.toList ∧
      v = renderTotal ps bp ((sortDesc u.mults).map (·.1)) ∧ inInt64 v = true := by
  obtain ⟨caps, b, hc, _, hbD, _, _, hv, hin⟩ := parseInt_some h
  obtain ⟨ps, bp, h1, h2, h3, hne, hsk, rfl, rfl⟩ := captures_sound hc
  exact ⟨ps, bp, h1, h2.toInt (no_dot_of_digits hbD), h3, hne, hsk, hv, hin⟩

/-- **C16 as far as it is proved**: the whole integer half of the
    property for a well-formed definition - both round trips, the grammar with exact value or
    rejection on overflow, and rejection of every string outside the grammar.
    MISSING: the float clause ("within floating-point tolerance" for `FormatShortFloat` /
    `FormatLongFloat` followed by `ParseFloat`). Its parser half is characterised exactly by
    `C16_float_of_int`, `C16_float_reject` and `C16_float_grammar` below; what remains unproved is
    the formatter half and the numeric tolerance: `%f`, `strconv.ParseFloat` and the formatter's
    float arithmetic are externals of the model, covered by the harness oracle only. -/
theorem C16_partial (u : Units) (hu : WFu u) :
    (∀ n : Int, 0 ≤ n → inInt64 n = true →
      u.parseInt (u.formatShortInt n) = some n ∧ u.parseInt (u.formatLongInt n) = some n) ∧
    (∀ (lead trail : List Char) (ps : List (Option Piece)) (bp : Option Piece),
      AllUni lead → AllUni trail → PiecesOK ((sortDesc u.mults).map (·.2.all)) ps →
      BaseOK u.base.all bp → renderAll ps bp ≠ [] →
      u.parseInt (String.ofList (lead ++ (renderAll ps bp ++ trail))) =
        if renderTotal ps bp ((sortDesc u.mults).map (·.1)) ≤ maxInt64
        then some (renderTotal ps bp ((sortDesc u.mults).map (·.1))) else none) ∧
    (∀ (s : String) (v : Int), u.parseInt s = some v →
      ∃ ps bp, PiecesOK ((sortDesc u.mults).map (·.2.all)) ps ∧ BaseOK u.base.all bp ∧
        skipWS (trimSpace s.toList) = renderAll ps bp ∧ renderAll ps bp ≠ [] ∧
        v = renderTotal ps bp ((sortDesc u.mults).map (·.1)) ∧ inInt64 v = true) := by
  refine ⟨fun n h0 hn => ⟨C16_roundtrip_short u n hu h0 hn, C16_roundtrip_long u n hu h0 hn⟩,
    fun lead trail ps bp h1 h2 h3 h4 h5 => C16_grammar u hu lead trail ps bp h1 h2 h3 h4 h5, ?_⟩
  intro s v h
  obtain ⟨ps, bp, h1, h2, h3, h4, _, h6, h7⟩ := C16_reject u s v h
  exact ⟨ps, bp, h1, h2, h3, h4, h6, h7⟩

/-- **C16 (ParseFloat agrees with ParseInt).** Whatever the definition, the `strconv.ParseFloat`
    table and the input: if `ParseInt` returns `n`, `ParseFloat` returns exactly `float64(n)` - the
    exact integer sum, rounded once. No representability assumption is needed: the code keeps the
    exact int64 sum as long as no fraction occurs and converts at the end. -/
theorem C16_float_of_int (u : Units) (x : Ext) (s : String) (n : Int) (h : u.parseInt s = some n) :
    u.parseFloat x s = some (F64.ofInt n) := by
  rcases parseFloat_split u x s with ⟨_, _, h2⟩ | ⟨caps, b, _, ⟨_, h2⟩ | ⟨_, h2, _⟩⟩
  · rw [h] at h2; cases h2
  · rw [h2, h]; rfl
  · rw [h] at h2; cases h2

/-- **C16 (ParseFloat without a decimal point is ParseInt).** Explicit decidable hypothesis: the
    input contains no '.'. Then every captured count is an integer literal and `ParseFloat` succeeds
    exactly when `ParseInt` does, with `float64` of its result. -/
theorem C16_float_no_dot (u : Units) (x : Ext) (s : String) (hs : s.toList.contains '.' = false) :
    u.parseFloat x s = (u.parseInt s).map F64.ofInt := by
  rcases parseFloat_split u x s with ⟨_, h1, h2⟩ | ⟨caps, b, hc, ⟨_, h2⟩ | ⟨hd, _, _⟩⟩
  · rw [h1, h2]; rfl
  · exact h2
  · rw [List.contains_iff_mem.mpr (dot_mem_of_captures hc hd)] at hs
    cases hs

/-- **C16 (ParseFloat: no wrong number, everything else rejected).** Whatever the definition, the
    `strconv.ParseFloat` table `x` and the input: if `ParseFloat` returns `f`, then the input with its
    surrounding white space removed IS a string of the float unit grammar - one optional
    `digits ws* name ws*` token per multiplier unit in sorted order (`PiecesOK`), then the optional
    base token whose count is `digits` or `digits.digits` (`BaseOKF`), at least one token - the exact
    integer sum of the multiplier tokens fits int64, and `f` is exactly:
    * no fraction in the base count: `float64` of the exact integer sum `Σ count × multiplier`
      (which fits int64 and is what `ParseInt` returns);
    * a fraction in the base count: the float accumulator of the multiplier tokens - left to right
      from 0, `+ float64(count × multiplier)` with the exact int64 product (`capFSum`) - plus
      `strconv.ParseFloat(base count) × float64(1)`.
    So the only roundings are those of `float64(int64)`, IEEE `+`/`×` and strconv: never a wrong
    token, a skipped token, a wrong multiplier or a reordering; every string outside the grammar,
    and every string whose integer part leaves int64, is an error.
    (The code multiplies integer counts exactly in int64 - it does NOT compute
    `ParseFloat(count) × float64(multiplier)` for them - and this is what is stated.) -/
theorem C16_float_reject (u : Units) (x : Ext) (s : String) (f : Nat)
    (h : u.parseFloat x s = some f) :
    ∃ ps bp, PiecesOK ((sortDesc u.mults).map (·.2.all)) ps ∧ BaseOKF u.base.all bp ∧
      skipWS (trimSpace s.toList) = renderAll ps bp ∧ renderAll ps bp ≠ [] ∧
      skipWS (trimSpace s.toList) = trimSpace s.toList ∧
      inInt64 (capSum (ps.map capOf) ((sortDesc u.mults).map (·.1))) = true ∧
      (((capOf bp).toList.contains '.' = false ∧ BaseOK u.base.all bp ∧
          inInt64 (renderTotal ps bp ((sortDesc u.mults).map (·.1))) = true ∧
          u.parseInt s = some (renderTotal ps bp ((sortDesc u.mults).map (·.1))) ∧
          f = F64.ofInt (renderTotal ps bp ((sortDesc u.mults).map (·.1)))) ∨
       ((capOf bp).toList.contains '.' = true ∧ u.parseInt s = none ∧
          ∃ fb, x.parseFloat (capOf bp) = some fb ∧
            f = F64.add (capFSum (ps.map capOf) ((sortDesc u.mults).map (·.1)) 0)
                  (F64.mul fb (F64.ofInt 1)))) := by
  rcases parseFloat_split u x s with ⟨_, h1, _⟩ | ⟨caps, b, hc, hcase⟩
  · rw [h] at h1; cases h1
  · obtain ⟨ps, bp, h1, h2, h3, hne, hsk, rfl, rfl⟩ := captures_sound hc
    rcases hcase with ⟨hd, hpf⟩ | ⟨hd, hpi, hpf⟩
    · -- integer base count: ParseFloat = float64(ParseInt)
      rw [h] at hpf
      cases hn : u.parseInt s with
      | none => rw [hn] at hpf; cases hpf
      | some n =>
        rw [hn] at hpf
        obtain ⟨caps', b', hc', _, _, _, hsum, hv, hin⟩ := parseInt_some hn
        rw [hc] at hc'
        cases hc'
        have hn' : n = renderTotal ps bp ((sortDesc u.mults).map (·.1)) := hv
        subst hn'
        exact ⟨ps, bp, h1, h2, h3, hne, hsk, hsum,
          .inl ⟨hd, h2.toInt hd, hin, rfl, Option.some.inj hpf⟩⟩
    · -- fractional base count
      rw [h] at hpf
      cases hg : Units.parseInt.go (ps.map capOf) ((sortDesc u.mults).map (·.1)) 0 with
      | none => rw [hg] at hpf; cases hpf
      | some acc =>
        rw [hg] at hpf
        obtain ⟨hacc, hacc'⟩ := go_some _ _ 0 acc (caps_allDigits h1) (by decide) hg
        rw [Int.zero_add] at hacc
        subst hacc
        cases hx : x.parseFloat (capOf bp) with
        | none => rw [hx] at hpf; cases hpf
        | some fb =>
          rw [hx] at hpf
          exact ⟨ps, bp, h1, h2, h3, hne, hsk, hacc', .inr ⟨hd, hpi, fb, hx, Option.some.inj hpf⟩⟩

/-- **C16 (float grammar, well-formed definitions).** A string of the float unit grammar - one
    optional `digits ws* name ws*` token per multiplier unit in sorted order, then the optional base
    token whose count is `digits` or `digits.digits`, at least one token, surrounded by any Unicode
    white space - is accepted by `ParseFloat` exactly when the exact integer sum of the multiplier
    tokens fits int64 (and, without a fraction, the whole sum does; with a fraction, strconv accepts
    the base count), and the result is then the value described in `C16_float_reject`. -/
theorem C16_float_grammar (u : Units) (hu : WFu u) (x : Ext) (lead trail : List Char)
    (ps : List (Option Piece)) (bp : Option Piece) (hlead : AllUni lead) (htrail : AllUni trail)
    (hps : PiecesOK ((sortDesc u.mults).map (·.2.all)) ps) (hbp : BaseOKF u.base.all bp)
    (hne : renderAll ps bp ≠ []) :
    u.parseFloat x (String.ofList (lead ++ (renderAll ps bp ++ trail))) =
      if capSum (ps.map capOf) ((sortDesc u.mults).map (·.1)) ≤ maxInt64 then
        if (capOf bp).toList.contains '.' = true then
          (x.parseFloat (capOf bp)).map fun fb =>
            F64.add (capFSum (ps.map capOf) ((sortDesc u.mults).map (·.1)) 0)
              (F64.mul fb (F64.ofInt 1))
        else if renderTotal ps bp ((sortDesc u.mults).map (·.1)) ≤ maxInt64
          then some (F64.ofInt (renderTotal ps bp ((sortDesc u.mults).map (·.1)))) else none
      else none := by
  obtain ⟨_, _, hms⟩ := hu.groupsWF
  have hA := capSum_nonneg (ps.map capOf) _ hms
  have hV := capVal_nonneg (capOf bp)
  have hcap := captures_render hu hlead htrail hps hbp hne
  rcases parseFloat_split u x (String.ofList (lead ++ (renderAll ps bp ++ trail))) with
    ⟨h0, _, _⟩ | ⟨caps, b, hc, hcase⟩
  · rw [hcap] at h0; cases h0
  · rw [hcap] at hc
    cases hc
    rcases hcase with ⟨hd, hpf⟩ | ⟨hd, _, hpf⟩
    · rw [hpf, C16_grammar u hu lead trail ps bp hlead htrail hps (hbp.toInt hd) hne, hd,
        if_neg Bool.false_ne_true]
      unfold renderTotal
      by_cases h1 : capSum (ps.map capOf) ((sortDesc u.mults).map (·.1)) ≤ maxInt64
      · rw [if_pos h1]
        split <;> rfl
      · rw [if_neg h1, if_neg (by omega)]
        rfl
    · rw [hpf, go_nonneg _ _ 0 (caps_allDigits hps) hms (Int.le_refl 0) (by decide), Int.zero_add,
        hd, if_pos rfl]
      by_cases h1 : capSum (ps.map capOf) ((sortDesc u.mults).map (·.1)) ≤ maxInt64
      · rw [if_pos h1, if_pos h1]
      · rw [if_neg h1, if_neg h1]

/-! ### non-vacuity: the five built-in definitions are well-formed; concrete evaluations -/

example : WFu UnitBytes := by decide +kernel
example : WFu UnitDurationNanoseconds := by decide +kernel
theorem wfu_durationSeconds : WFu UnitDurationSeconds := by decide +kernel
example : WFu UnitDurationSeconds := wfu_durationSeconds
example : WFu UnitCharacters := by decide +kernel
example : WFu UnitPercentage := by decide +kernel

/-- `WFu` is not vacuous on generated definitions either: names that are prefixes of each other and
    names with regexp metacharacters are allowed -/
example : WFu ⟨⟨"m", "ms", "m.", "(m"⟩, [(7, ⟨"msx", "msx", "a|b", "k*"⟩), (8, ⟨"[u", "^", "$", ".."⟩)]⟩ := by
  decide +kernel

/-- a multiplier unit called "." is excluded (its strings are ambiguous: "1.5s") ... -/
example : ¬ WFu ⟨⟨"s", "s", "s", "s"⟩, [(60, ⟨".", ".", ".", "."⟩)]⟩ := by decide +kernel
/-- ... and indeed the round trip fails for it in the model (as it does in the Go code) -/
example : (⟨⟨"s", "s", "s", "s"⟩, [(60, ⟨".", ".", ".", "."⟩)]⟩ : Units).formatShortInt 125 = "2.5s" ∧
    (⟨⟨"s", "s", "s", "s"⟩, [(60, ⟨".", ".", ".", "."⟩)]⟩ : Units).parseInt "2.5s" = none := by decide +kernel

example : UnitDurationSeconds.formatShortInt 64 = "1m4s" := by decide +kernel
example : UnitDurationSeconds.parseInt "1m4s" = some 64 :=
  (by decide +kernel : UnitDurationSeconds.formatShortInt 64 = "1m4s") ▸
    C16_roundtrip_short UnitDurationSeconds 64 wfu_durationSeconds (by decide +kernel) (by decide +kernel)
example : UnitDurationSeconds.formatShortInt 10 = "10s" := by decide +kernel
example : UnitDurationSeconds.formatShortInt 0 = "0s" := by decide +kernel
example : UnitDurationSeconds.formatLongInt 3661 = "1hour1minute1second" := by decide +kernel
example : UnitDurationSeconds.parseInt "1hour1minute1second" = some 3661 :=
  (by decide +kernel : UnitDurationSeconds.formatLongInt 3661 = "1hour1minute1second") ▸
    C16_roundtrip_long UnitDurationSeconds 3661 wfu_durationSeconds (by decide +kernel) (by decide +kernel)
example : UnitDurationNanoseconds.parseInt "9999999999d" = none := by decide +kernel
example : UnitBytes.parseInt " 2 kB 5B " = some 2053 := by decide +kernel
example : UnitDurationSeconds.parseInt "4s1m" = none := by decide +kernel
example : UnitDurationSeconds.parseInt "1m1m" = none := by decide +kernel
example : UnitDurationSeconds.parseInt "1.5m" = none := by decide +kernel
example : UnitDurationSeconds.parseInt "-1m" = none := by decide +kernel

/-- the hypotheses of `C16_grammar` are satisfiable: the string `" 1 m 04seconds "` -/
example : UnitDurationSeconds.parseInt
    (String.ofList ([' '] ++ (renderAll [none, none, some ⟨['1'], [' '], ['m'], [' ']⟩]
      (some ⟨['0', '4'], [], "seconds".toList, [' ']⟩) ++ []))) = some 64 := by
  have hws : AllWS [' '] := by unfold AllWS; decide
  have hm : PieceOK ["m", "m", "minute", "minutes"] ⟨['1'], [' '], ['m'], [' ']⟩ :=
    ⟨by simp, by unfold AllDigits; decide, hws, hws, "m", by simp, rfl⟩
  have hs : BasePieceOK UnitDurationSeconds.base.all ⟨['0', '4'], [], "seconds".toList, [' ']⟩ :=
    ⟨by simp, by unfold AllDigits; decide, allWS_nil, hws, .inr ⟨"seconds", by decide +kernel, rfl⟩⟩
  rw [C16_grammar UnitDurationSeconds wfu_durationSeconds [' '] [] _ _ hws.allUni
    (fun _ h => nomatch h) (.cons_none (.cons_none (.cons_some hm .nil))) (baseOK_some.mpr hs)
    (by decide +kernel)]
  decide +kernel

/-- overflow instance: 2^63 seconds is rejected -/
example : UnitDurationSeconds.parseInt "9223372036854775808s" = none := by decide +kernel
example : UnitDurationSeconds.parseInt "9223372036854775807s" = some 9223372036854775807 := by decide +kernel
example : UnitDurationSeconds.parseInt "106751991167301d" = none := by decide +kernel


/-! ### float parser: non-vacuity and concrete evaluations -/

/-- hypothesis of `C16_float_of_int` met: "1H30m" in seconds, for every externals table -/
example (x : Ext) : UnitDurationSeconds.parseFloat x "1H30m" = some (F64.ofInt 5400) :=
  C16_float_of_int UnitDurationSeconds x "1H30m" 5400 (by decide +kernel)
example : F64.ofInt 5400 = 0x40B5180000000000 := by decide +kernel
/-- hypothesis of `C16_float_no_dot` met -/
example (x : Ext) : UnitDurationSeconds.parseFloat x "1H30m" =
    (UnitDurationSeconds.parseInt "1H30m").map F64.ofInt :=
  C16_float_no_dot UnitDurationSeconds x "1H30m" (by decide +kernel)
example (x : Ext) : UnitDurationSeconds.parseFloat x "9223372036854775808s" = none := by
  rw [C16_float_no_dot UnitDurationSeconds x _ (by decide +kernel)]; decide +kernel

/-- an externals table that knows "1.5" (= 0x3FF8000000000000) -/
def extOneAndHalf : Ext :=
  { parseFloat := fun s => if s == "1.5" then some 0x3FF8000000000000 else none
    fmtF := fun _ => ""
    reCompiles := fun _ => false
    reMatch := fun _ _ => false }

/-- hypothesis of `C16_float_reject` met with a fraction: 61.5 = 0x404EC00000000000 -/
example : UnitDurationSeconds.parseFloat extOneAndHalf "1m1.5s" = some 0x404EC00000000000 := by
  decide +kernel
/-- a fraction in front of a multiplier unit is outside the grammar -/
example : UnitDurationSeconds.parseFloat extOneAndHalf "1.5m" = none := by decide +kernel

/-- the hypotheses of `C16_float_grammar` are satisfiable with a fractional base count: "1m1.5s" -/
example (x : Ext) : UnitDurationSeconds.parseFloat x
    (String.ofList ([] ++ (renderAll [none, none, some ⟨['1'], [], ['m'], []⟩]
      (some ⟨['1', '.', '5'], [], ['s'], []⟩) ++ []))) =
    (x.parseFloat "1.5").map fun fb => F64.add (F64.add 0 (F64.ofInt 60)) (F64.mul fb (F64.ofInt 1)) := by
  have hm : PieceOK ["m", "m", "minute", "minutes"] ⟨['1'], [], ['m'], []⟩ :=
    ⟨by simp, by unfold AllDigits; decide, allWS_nil, allWS_nil, "m", by simp, rfl⟩
  have hd : AllDigits ['1'] ∧ AllDigits ['5'] := by unfold AllDigits; decide
  have hs : BasePieceOKF UnitDurationSeconds.base.all ⟨['1', '.', '5'], [], ['s'], []⟩ :=
    ⟨.inr ⟨['1'], ['5'], rfl, by simp, hd.1, by simp, hd.2⟩, allWS_nil, allWS_nil,
      .inr ⟨"s", by decide +kernel, rfl⟩⟩
  rw [C16_float_grammar UnitDurationSeconds wfu_durationSeconds x [] [] _ _ (fun _ h => nomatch h)
    (fun _ h => nomatch h) (.cons_none (.cons_none (.cons_some hm .nil))) (baseOKF_some.mpr hs)
    (by decide +kernel)]
  have h1 : capSum (List.map capOf [none, none, some (⟨['1'], [], ['m'], []⟩ : Piece)])
      ((sortDesc UnitDurationSeconds.mults).map (·.1)) = 60 := by decide +kernel
  have h2 : (capOf (some (⟨['1', '.', '5'], [], ['s'], []⟩ : Piece))).toList.contains '.' = true := by
    decide +kernel
  have h3 : capFSum (List.map capOf [none, none, some (⟨['1'], [], ['m'], []⟩ : Piece)])
      ((sortDesc UnitDurationSeconds.mults).map (·.1)) 0 = F64.add 0 (F64.ofInt 60) := by
    decide +kernel
  have h4 : capOf (some (⟨['1', '.', '5'], [], ['s'], []⟩ : Piece)) = "1.5" := by decide +kernel
  rw [h1, h2, h3, h4]
  simp [maxInt64]

end Arca

#print axioms Arca.C16_roundtrip_short
#print axioms Arca.C16_roundtrip_long
#print axioms Arca.C16_grammar
#print axioms Arca.C16_grammar_overflow
#print axioms Arca.C16_no_wrong_number
#print axioms Arca.C16_reject
#print axioms Arca.C16_partial
#print axioms Arca.C16_float_of_int
#print axioms Arca.C16_float_no_dot
#print axioms Arca.C16_float_reject
#print axioms Arca.C16_float_grammar
