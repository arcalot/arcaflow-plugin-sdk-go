import ArcaModel.Lemmas.Step
import ArcaModel.Lemmas.NodupMap
import ArcaModel.Props.C04
import ArcaModel.Props.C01
/-
  C11  Step calls: the handler runs iff the input is valid; outputs are checked; bad IDs are errors.

  All statements are about `callStep` / `callSignal` (ArcaModel/Model/Step.lean), the path-by-path
  model of `CallableSchema.CallStep` / `CallSignal` with `CallableStepSchema.Call` / `CallSignal`
  and `CallableSignalSchema.Call` as repaired, and about the transition system `apply` / `exec` of
  the per-run step data. They hold for ALL plugins, step and signal IDs, raw inputs, handler
  behaviours, externals and fuel budgets; nothing is assumed about the schemas except where `WF`
  is stated.

  What the code does and the theorems therefore say:
  * "accepted by the input schema" is `Accepts`: `Unserialize` succeeds with `v` AND `v` passes the
    `Validate` that `Call` repeats on it. That the second follows from the first is the round-trip
    property C01 of the schema operations: `C11_handler_iff_unser_partial` states the property in
    the wording of C11 under that hypothesis, `C11_handler_iff_unser` discharges it by C01 for
    input schemas the Go constructors accept (`WF1`).
  * a step handler `func(ctx, data, input) (string, any)` has no error result: it returns or
    panics; a panic of the handler propagates out of `CallStep` (the ATP server recovers it).
  * error kinds and Go types: unknown step -> `BadArgumentError`; rejected input ->
    `InvalidInputError`; undeclared output ID -> `InvalidOutputError`; declared ID whose data fails
    `Validate` -> that schema's own error, unwrapped; data that passes `Validate` but not
    `Serialize` -> `InvalidOutputError` (no generated case reaches this last path).
-/
namespace Arca.Step

section calls
variable (x : Ext) (fuel : Nat) (p : Plugin) (beh : String → HandlerBeh) (stepID : String) (raw : V)

theorem C11_handler_at_most_once :
    (callStep x fuel p beh stepID raw).2 = [] ∨ ∃ v, (callStep x fuel p beh stepID raw).2 = [v] := by
  have hp := callStep_path x fuel p beh stepID raw
  generalize callStep x fuel p beh stepID raw = r at hp
  cases hp <;> simp

/-- The handler invocations of a `CallStep` are exactly `[v]` iff the step exists and the raw input
    is accepted with unserialized value `v`. -/
theorem C11_handler_iff (v : V) :
    (callStep x fuel p beh stepID raw).2 = [v] ↔
      ∃ st, lookupS stepID p = some st ∧ Accepts x fuel st.input raw v := by
  constructor
  · intro h
    obtain ⟨_, hp⟩ := callStep_snd_iff.mp h
    cases hp <;> exact ⟨_, ‹_›, ‹_›⟩
  · rintro ⟨st, hl, ha⟩
    exact callStep_calls hl ha

/-- ... and otherwise the handler is not invoked at all: never twice, never with another value. -/
theorem C11_handler_else :
    (callStep x fuel p beh stepID raw).2 = [] ↔
      ¬ ∃ st v, lookupS stepID p = some st ∧ Accepts x fuel st.input raw v := by
  constructor
  · rintro h ⟨st, v, hl, ha⟩
    rw [(C11_handler_iff x fuel p beh stepID raw v).mpr ⟨st, hl, ha⟩] at h
    cases h
  · intro hn
    refine (C11_handler_at_most_once x fuel p beh stepID raw).resolve_right fun ⟨v, hv⟩ => hn ?_
    obtain ⟨st, hl, ha⟩ := (C11_handler_iff x fuel p beh stepID raw v).mp hv
    exact ⟨st, v, hl, ha⟩

/-- C11 in its own wording ("the raw input is accepted by the step's input schema" = Unserialize
    succeeds). PARTIAL: assumes for this input schema that a value produced by `Unserialize` passes
    `Validate` (C01, round trip of the schema operations); without it the code - and the model -
    does not call the handler when the repeated `Validate` in `Call` rejects the value. -/
theorem C11_handler_iff_unser_partial (v : V)
    (hC01 : ∀ st, lookupS stepID p = some st → ∀ v, run x fuel .U [] st.input raw = .ok v →
      ∃ u, run x fuel .V [] st.input v = .ok u) :
    (callStep x fuel p beh stepID raw).2 = [v] ↔
      ∃ st, lookupS stepID p = some st ∧ run x fuel .U [] st.input raw = .ok v := by
  rw [C11_handler_iff]
  constructor
  · rintro ⟨st, hl, hu, _⟩
    exact ⟨st, hl, hu⟩
  · rintro ⟨st, hl, hu⟩
    exact ⟨st, hl, hu, hC01 st hl v hu⟩

/-- C11 in its own wording, with the round-trip hypothesis discharged by C01: for every plugin whose
    step input schemas are what the Go constructors accept (`WF1`, decidable by `wf1B`), the handler
    runs exactly once, on `v`, iff the step exists and `Unserialize` of the raw input yields `v`. -/
theorem C11_handler_iff_unser (v : V)
    (hwf : ∀ st, lookupS stepID p = some st → WF1 [] st.input) :
    (callStep x fuel p beh stepID raw).2 = [v] ↔
      ∃ st, lookupS stepID p = some st ∧ run x fuel .U [] st.input raw = .ok v :=
  C11_handler_iff_unser_partial x fuel p beh stepID raw v (fun st hl v' hu =>
    ⟨unitV, (C01_roundtrip_closed_partial x fuel st.input raw v' (hwf st hl) hu).1⟩)

/-- Success with output `(oid, w)` iff: the step exists, the input is accepted, the handler returned
    `oid` with data `d`, `oid` is declared, `d` passes `Validate` of the declared schema and `w` is
    its serialization. -/
theorem C11_result (oid : String) (w : V) :
    (callStep x fuel p beh stepID raw).1 = .ok oid w ↔
      ∃ st v d ot, lookupS stepID p = some st ∧ Accepts x fuel st.input raw v ∧
        beh stepID v = some (oid, d) ∧ lookupS oid st.outputs = some ot ∧
        (∃ u, run x fuel .V [] ot d = .ok u) ∧ run x fuel .S [] ot d = .ok w := by
  rw [callStep_fst_iff]
  constructor
  · rintro ⟨_, h⟩
    cases h with | serOk hl ha hb ho hV hS => exact ⟨_, _, _, _, hl, ha, hb, ho, ⟨_, hV⟩, hS⟩
  · rintro ⟨st, v, d, ot, hl, ha, hb, ho, ⟨u, hV⟩, hS⟩
    exact ⟨_, .serOk hl ha hb ho hV hS⟩

/-- unknown step ↔ no such ID -/
theorem C11_result_unknownStep :
    (callStep x fuel p beh stepID raw).1 = .err .unknownStep ↔ lookupS stepID p = none := by
  rw [callStep_fst_iff]
  constructor
  · rintro ⟨_, h⟩
    cases h with | unknownStep hl => exact hl
  · intro hl
    exact ⟨_, .unknownStep hl⟩

/-- invalid input ↔ the step exists and its input schema rejects the raw input (in `Unserialize`, or
    in the `Validate` of the unserialized value) -/
theorem C11_result_invalidInput :
    (callStep x fuel p beh stepID raw).1 = .err .invalidInput ↔
      ∃ st, lookupS stepID p = some st ∧
        ((∃ e, run x fuel .U [] st.input raw = .err e) ∨
         (∃ v e, run x fuel .U [] st.input raw = .ok v ∧ run x fuel .V [] st.input v = .err e)) := by
  rw [callStep_fst_iff]
  constructor
  · rintro ⟨_, h⟩
    cases h with
    | unserErr hl hu => exact ⟨_, hl, .inl ⟨_, hu⟩⟩
    | validErr hl hu hv => exact ⟨_, hl, .inr ⟨_, _, hu, hv⟩⟩
  · rintro ⟨st, hl, ⟨e, hu⟩ | ⟨v, e, hu, hv⟩⟩
    · exact ⟨_, .unserErr hl hu⟩
    · exact ⟨_, .validErr hl hu hv⟩

/-- undeclared output ↔ the handler ran and returned an ID the step does not declare -/
theorem C11_result_undeclaredOutput :
    (callStep x fuel p beh stepID raw).1 = .err .undeclaredOutput ↔
      ∃ st v oid d, lookupS stepID p = some st ∧ Accepts x fuel st.input raw v ∧
        beh stepID v = some (oid, d) ∧ lookupS oid st.outputs = none := by
  rw [callStep_fst_iff]
  constructor
  · rintro ⟨_, h⟩
    cases h with | undeclared hl ha hb ho => exact ⟨_, _, _, _, hl, ha, hb, ho⟩
  · rintro ⟨st, v, oid, d, hl, ha, hb, ho⟩
    exact ⟨_, .undeclared hl ha hb ho⟩

/-- invalid output ↔ the handler returned a declared ID whose data fails `Validate` -/
theorem C11_result_invalidOutput :
    (callStep x fuel p beh stepID raw).1 = .err .invalidOutput ↔
      ∃ st v oid d ot e, lookupS stepID p = some st ∧ Accepts x fuel st.input raw v ∧
        beh stepID v = some (oid, d) ∧ lookupS oid st.outputs = some ot ∧
        run x fuel .V [] ot d = .err e := by
  rw [callStep_fst_iff]
  constructor
  · rintro ⟨_, h⟩
    cases h with | outErr hl ha hb ho hV => exact ⟨_, _, _, _, _, _, hl, ha, hb, ho, hV⟩
  · rintro ⟨st, v, oid, d, ot, e, hl, ha, hb, ho, hV⟩
    exact ⟨_, .outErr hl ha hb ho hV⟩

/-- unserializable output ↔ declared ID, data passes `Validate`, `Serialize` fails -/
theorem C11_result_unserializableOutput :
    (callStep x fuel p beh stepID raw).1 = .err .unserializableOutput ↔
      ∃ st v oid d ot e, lookupS stepID p = some st ∧ Accepts x fuel st.input raw v ∧
        beh stepID v = some (oid, d) ∧ lookupS oid st.outputs = some ot ∧
        (∃ u, run x fuel .V [] ot d = .ok u) ∧ run x fuel .S [] ot d = .err e := by
  rw [callStep_fst_iff]
  constructor
  · rintro ⟨_, h⟩
    cases h with | serErr hl ha hb ho hV hS => exact ⟨_, _, _, _, _, _, hl, ha, hb, ho, ⟨_, hV⟩, hS⟩
  · rintro ⟨st, v, oid, d, ot, e, hl, ha, hb, ho, ⟨u, hV⟩, hS⟩
    exact ⟨_, .serErr hl ha hb ho hV hS⟩

/-- `CallStep` returns no other kind of error. -/
theorem C11_result_kinds (k : ErrKind) (h : (callStep x fuel p beh stepID raw).1 = .err k) :
    k = .unknownStep ∨ k = .invalidInput ∨ k = .undeclaredOutput ∨ k = .invalidOutput ∨
      k = .unserializableOutput := by
  obtain ⟨_, hp⟩ := callStep_fst_iff.mp h
  cases hp <;> simp

variable (sbeh : String → String → SignalBeh) (sigID : String)

/-- The signal handler runs exactly once, with the unserialized data, iff step and signal exist and
    the raw data is accepted by the signal's data schema. -/
theorem C11_signal_handler_iff (v : V) :
    (callSignal x fuel p sbeh stepID sigID raw).2 = [v] ↔
      ∃ st dt, lookupS stepID p = some st ∧ lookupS sigID st.signals = some dt ∧
        SigAccepts x fuel dt raw v := by
  constructor
  · intro h
    obtain ⟨_, hp⟩ := callSignal_snd_iff.mp h
    cases hp <;> exact ⟨_, _, ‹_›, ‹_›, ‹_›⟩
  · rintro ⟨st, dt, hl, hs, ha⟩
    exact callSignal_calls hl hs ha

theorem C11_signal_handler_at_most_once :
    (callSignal x fuel p sbeh stepID sigID raw).2 = [] ∨
      ∃ v, (callSignal x fuel p sbeh stepID sigID raw).2 = [v] := by
  have hp := callSignal_path x fuel p sbeh stepID sigID raw
  generalize callSignal x fuel p sbeh stepID sigID raw = r at hp
  cases hp <;> simp

theorem C11_signal_result_ok :
    (callSignal x fuel p sbeh stepID sigID raw).1 = .ok ↔
      ∃ st dt v, lookupS stepID p = some st ∧ lookupS sigID st.signals = some dt ∧
        SigAccepts x fuel dt raw v ∧ sbeh stepID sigID v = true := by
  rw [callSignal_fst_iff]
  constructor
  · rintro ⟨_, h⟩
    cases h with | ok hl hs ha hb => exact ⟨_, _, _, hl, hs, ha, hb⟩
  · rintro ⟨st, dt, v, hl, hs, ha, hb⟩
    exact ⟨_, .ok hl hs ha hb⟩

theorem C11_signal_result_unknownStep :
    (callSignal x fuel p sbeh stepID sigID raw).1 = .err .unknownStep ↔ lookupS stepID p = none := by
  rw [callSignal_fst_iff]
  constructor
  · rintro ⟨_, h⟩
    cases h with | unknownStep hl => exact hl
  · intro hl
    exact ⟨_, .unknownStep hl⟩

theorem C11_signal_result_unknownSignal :
    (callSignal x fuel p sbeh stepID sigID raw).1 = .err .unknownSignal ↔
      ∃ st, lookupS stepID p = some st ∧ lookupS sigID st.signals = none := by
  rw [callSignal_fst_iff]
  constructor
  · rintro ⟨_, h⟩
    cases h with | unknownSignal hl hs => exact ⟨_, hl, hs⟩
  · rintro ⟨st, hl, hs⟩
    exact ⟨_, .unknownSignal hl hs⟩

theorem C11_signal_result_invalidInput :
    (callSignal x fuel p sbeh stepID sigID raw).1 = .err .invalidInput ↔
      ∃ st dt, lookupS stepID p = some st ∧ lookupS sigID st.signals = some dt ∧
        ((∃ e, run x fuel .U [] dt raw = .err e) ∨
         (∃ v e, run x fuel .U [] dt raw = .ok v ∧ run x fuel .V [] dt v = .err e)) := by
  rw [callSignal_fst_iff]
  constructor
  · rintro ⟨_, h⟩
    cases h with
    | unserErr hl hs hu => exact ⟨_, _, hl, hs, .inl ⟨_, hu⟩⟩
    | validErr hl hs hu hv => exact ⟨_, _, hl, hs, .inr ⟨_, _, hu, hv⟩⟩
  · rintro ⟨st, dt, hl, hs, ⟨e, hu⟩ | ⟨v, e, hu, hv⟩⟩
    · exact ⟨_, .unserErr hl hs hu⟩
    · exact ⟨_, .validErr hl hs hu hv⟩

/-- Unknown step and signal IDs yield the errors, with no handler invoked - for every plugin, with
    no well-formedness assumption. -/
theorem C11_unknown_ids :
    (lookupS stepID p = none →
      callStep x fuel p beh stepID raw = (.err .unknownStep, []) ∧
      callSignal x fuel p sbeh stepID sigID raw = (.err .unknownStep, [])) ∧
    (∀ st, lookupS stepID p = some st → lookupS sigID st.signals = none →
      callSignal x fuel p sbeh stepID sigID raw = (.err .unknownSignal, [])) :=
  ⟨fun hl => ⟨callStep_eq_iff.mpr (.unknownStep hl), callSignal_eq_iff.mpr (.unknownStep hl)⟩,
   fun _ hl hs => callSignal_eq_iff.mpr (.unknownSignal hl hs)⟩

/-- every schema of the plugin is well-formed (what the SDK's constructors enforce) -/
def PluginWF (p : Plugin) : Prop :=
  ∀ id st, (id, st) ∈ p →
    WF [] st.input ∧ (∀ o, o ∈ st.outputs → WF [] o.2) ∧ (∀ s, s ∈ st.signals → WF [] s.2)

/-- On a well-formed plugin `CallStep` panics only if the step's handler was invoked and panicked
    itself: no step ID, input, output ID or output data makes the SDK's own code panic. -/
theorem C11_no_panic (hwf : PluginWF p) (h : (callStep x fuel p beh stepID raw).1 = .panic) :
    ∃ v, (callStep x fuel p beh stepID raw).2 = [v] ∧ beh stepID v = none := by
  obtain ⟨_, hp⟩ := callStep_fst_iff.mp h
  rw [hp.eq_callStep]
  cases hp with
  | unserPanic hl hu =>
    exact absurd hu (C04_no_panic_closed x fuel .U _ raw (hwf _ _ (lookupS_mem hl)).1)
  | validPanic hl hu hv =>
    exact absurd hv (C04_no_panic_closed x fuel .V _ _ (hwf _ _ (lookupS_mem hl)).1)
  | handlerPanic hl ha hb => exact ⟨_, rfl, hb⟩
  | outPanic hl ha hb ho hV =>
    exact absurd hV (C04_no_panic_closed x fuel .V _ _ ((hwf _ _ (lookupS_mem hl)).2.1 _ (lookupS_mem ho)))
  | serPanic hl ha hb ho hV hS =>
    exact absurd hS (C04_no_panic_closed x fuel .S _ _ ((hwf _ _ (lookupS_mem hl)).2.1 _ (lookupS_mem ho)))

/-- in particular: no panic at all when the handler does not panic -/
theorem C11_no_panic_total (hwf : PluginWF p) (hb : ∀ v, beh stepID v ≠ none) :
    (callStep x fuel p beh stepID raw).1 ≠ .panic := by
  intro h
  obtain ⟨v, _, hv⟩ := C11_no_panic x fuel p beh stepID raw hwf h
  exact hb v hv

/-- the same for signals -/
theorem C11_signal_no_panic (hwf : PluginWF p)
    (h : (callSignal x fuel p sbeh stepID sigID raw).1 = .panic) :
    ∃ v, (callSignal x fuel p sbeh stepID sigID raw).2 = [v] ∧ sbeh stepID sigID v = false := by
  obtain ⟨_, hp⟩ := callSignal_fst_iff.mp h
  rw [hp.eq_callSignal]
  cases hp with
  | unserPanic hl hs hu =>
    exact absurd hu (C04_no_panic_closed x fuel .U _ raw ((hwf _ _ (lookupS_mem hl)).2.2 _ (lookupS_mem hs)))
  | validPanic hl hs hu hv =>
    exact absurd hv (C04_no_panic_closed x fuel .V _ _ ((hwf _ _ (lookupS_mem hl)).2.2 _ (lookupS_mem hs)))
  | handlerPanic hl hs ha hb => exact ⟨_, rfl, hb⟩

end calls

/-! ### the per-run step data

`exec hasInit acts` is the state after ANY finite history `acts` of the three actions - a step call
or a signal call of any run ID passing through `setupStepData` (one atomic action, as the whole
function body holds `initializerMutex`), and any pending call invoking its handler - so the
statement covers every arrival order and interleaving, for the same and for different run IDs. -/

/-- Over all interleavings:
    (1) the initialiser ran at most once per run ID;
    (2) a handler (of the step or of a signal) invoked for run `r` got the object made by the
        initialiser call for `r` - no other run's;
    (3) all handlers of one run got the same data;
    (4) with an initialiser no handler ever got the zero value. -/
theorem C11_stepdata_once (hasInit : Bool) (acts : List Act) :
    (∀ r, ((exec hasInit acts).inits.filter (fun i => i.1 == r)).length ≤ 1) ∧
    (∀ c, c ∈ (exec hasInit acts).seen → ∀ n, c.data = some n →
      (c.run, n) ∈ (exec hasInit acts).inits ∧
      ∀ r', (r', n) ∈ (exec hasInit acts).inits → r' = c.run) ∧
    (∀ c c', c ∈ (exec hasInit acts).seen → c' ∈ (exec hasInit acts).seen →
      c.run = c'.run → c.data = c'.data) ∧
    (hasInit = true → ∀ c, c ∈ (exec hasInit acts).seen → c.data ≠ none) := by
  have inv := inv_exec hasInit acts
  generalize exec hasInit acts = σ at inv
  have own : ∀ c, c ∈ σ.seen → lookupS c.run σ.store = some c.data := fun c hc => inv.calls_own c (.inr hc)
  refine ⟨fun r => filter_fst_le_one r _ inv.runs_nodup, fun c hc n hn => ?_, fun c c' hc hc' hr => ?_,
    fun hi c hc => inv.nonzero hi _ _ (own c hc)⟩
  · have h1 : (c.run, n) ∈ σ.inits := (inv.init_iff_store _ _).mpr (hn ▸ own c hc)
    -- two initialiser calls with the same ordinal are the same call
    exact ⟨h1, fun r' hr' => congrArg Prod.fst (eq_of_map_eq_of_nodup inv.ords_nodup hr' h1 rfl)⟩
  · have h1 := own c hc
    rw [hr, own c' hc'] at h1
    exact (Option.some.inj h1).symm

/-- Whichever of the step call or a signal call of run `r` arrives first creates the entry; an
    arrival that finds the entry changes neither the store nor the initialiser count. -/
theorem C11_stepdata_first_arrival (hasInit : Bool) (σ : St) (r : String) (a : Act)
    (ha : a = .stepArrives r ∨ ∃ s, a = .signalArrives r s) :
    lookupS r (apply hasInit σ a).store ≠ none ∧
    (∀ d, lookupS r σ.store = some d →
      (apply hasInit σ a).store = σ.store ∧ (apply hasInit σ a).inits = σ.inits ∧
      (apply hasInit σ a).next = σ.next) := by
  have key : lookupS r (setup hasInit σ r).1.store ≠ none ∧
      (∀ d, lookupS r σ.store = some d → (setup hasInit σ r).1 = σ) := by
    refine ⟨by rw [setup_lookup]; simp, fun d hd => ?_⟩
    simp [setup, hd]
  rcases ha with rfl | ⟨s, rfl⟩
  · exact ⟨key.1, fun d hd => by simp [apply, key.2 d hd]⟩
  · exact ⟨key.1, fun d hd => by simp [apply, key.2 d hd]⟩

section examples

def noExt : Ext := ⟨fun _ => none, fun _ => "", fun _ => false, fun _ _ => false⟩

def nameScope (id : String) (min : Int) : Ty :=
  .scope [(id, .obj id [("name", .mk (.str (some min) none none) true [] [] [] none false),
                        ("n", .mk (.int none none none) false [] [] [] none false)])] id

/-- one step "hello": input `{name: string (min 1), n?: int}`, outputs `success` / `error`,
    one signal handler -/
def helloPlugin : Plugin :=
  [("hello", ⟨nameScope "in" 1, [("success", nameScope "out" 2), ("error", nameScope "err" 1)],
              [("cancel", nameScope "sig" 1)]⟩)]

def rawName (s : String) : V := .map .strAny [(.str "name", .str s)]

def greet : String → HandlerBeh := fun _ _ => some ("success", rawName "hi")
def undeclaredBeh : String → HandlerBeh := fun _ _ => some ("nope", rawName "hi")
def shortBeh : String → HandlerBeh := fun _ _ => some ("success", rawName "x")

example : PluginWF helloPlugin := by
  intro id st h
  simp only [helloPlugin, List.mem_singleton, Prod.mk.injEq] at h
  obtain ⟨rfl, rfl⟩ := h
  refine ⟨wfB_sound 10 [] _ (by decide +kernel), ?_, ?_⟩
  · intro o ho
    simp only [List.mem_cons, List.not_mem_nil, or_false] at ho
    rcases ho with rfl | rfl <;> exact wfB_sound 10 [] _ (by decide +kernel)
  · intro s hs
    simp only [List.mem_singleton] at hs
    subst hs
    exact wfB_sound 10 [] _ (by decide +kernel)

-- the hypothesis of `C11_handler_iff_unser` holds for the example plugin
example : ∀ st, lookupS "hello" helloPlugin = some st → WF1 [] st.input := by
  intro st h
  simp only [helloPlugin, lookupS] at h
  simp at h
  subst h
  exact wf1B_sound 10 [] _ (by decide +kernel)

-- every path is inhabited: success, each error kind, handler panic
example : callStep noExt 20 helloPlugin greet "hello" (rawName "Arca") =
    (.ok "success" (rawName "hi"), [rawName "Arca"]) := by rfl
example : callStep noExt 20 helloPlugin greet "bye" (rawName "Arca") = (.err .unknownStep, []) := by
  rfl
example : callStep noExt 20 helloPlugin greet "hello" (rawName "") = (.err .invalidInput, []) := by
  rfl
example : callStep noExt 20 helloPlugin greet "hello" .nil = (.err .invalidInput, []) := by
  rfl
example : callStep noExt 20 helloPlugin undeclaredBeh "hello" (rawName "Arca") =
    (.err .undeclaredOutput, [rawName "Arca"]) := by rfl
example : callStep noExt 20 helloPlugin shortBeh "hello" (rawName "Arca") =
    (.err .invalidOutput, [rawName "Arca"]) := by rfl
example : callStep noExt 20 helloPlugin (fun _ _ => none) "hello" (rawName "Arca") =
    (.panic, [rawName "Arca"]) := by rfl
example : callSignal noExt 20 helloPlugin (fun _ _ _ => true) "hello" "cancel" (rawName "now") =
    (.ok, [rawName "now"]) := by rfl
example : callSignal noExt 20 helloPlugin (fun _ _ _ => true) "hello" "stop" (rawName "now") =
    (.err .unknownSignal, []) := by rfl
example : callSignal noExt 20 helloPlugin (fun _ _ _ => true) "bye" "cancel" (rawName "now") =
    (.err .unknownStep, []) := by rfl

-- the hypothesis of `C11_handler_iff`'s right-hand side is satisfiable
example : Accepts noExt 20 (nameScope "in" 1) (rawName "Arca") (rawName "Arca") :=
  ⟨by rfl, .nil, by rfl⟩

-- a history in which a signal of run r1 arrives before the step, run r2 interleaves, and the
-- handlers are invoked out of arrival order: one initialisation per run, each sees its own
def history : List Act :=
  [.signalArrives "r1" "cancel", .stepArrives "r2", .stepArrives "r1", .signalArrives "r2" "cancel",
   .invoke 2, .invoke 0, .invoke 1, .invoke 0]

example : (exec true history).inits = [("r2", 1), ("r1", 0)] := by decide +kernel
example : (exec true history).seen =
    [⟨.step, "r1", some 0⟩, ⟨.signal "cancel", "r1", some 0⟩, ⟨.signal "cancel", "r2", some 1⟩,
     ⟨.step, "r2", some 1⟩] := by rfl
example : (exec true history).pending = [] := by decide +kernel

end examples

end Arca.Step

#print axioms Arca.Step.C11_handler_iff
#print axioms Arca.Step.C11_handler_else
#print axioms Arca.Step.C11_handler_at_most_once
#print axioms Arca.Step.C11_handler_iff_unser_partial
#print axioms Arca.Step.C11_handler_iff_unser
#print axioms Arca.Step.C11_result
#print axioms Arca.Step.C11_result_unknownStep
#print axioms Arca.Step.C11_result_invalidInput
#print axioms Arca.Step.C11_result_undeclaredOutput
#print axioms Arca.Step.C11_result_invalidOutput
#print axioms Arca.Step.C11_result_unserializableOutput
#print axioms Arca.Step.C11_result_kinds
#print axioms Arca.Step.C11_signal_handler_iff
#print axioms Arca.Step.C11_signal_handler_at_most_once
#print axioms Arca.Step.C11_signal_result_ok
#print axioms Arca.Step.C11_signal_result_unknownStep
#print axioms Arca.Step.C11_signal_result_unknownSignal
#print axioms Arca.Step.C11_signal_result_invalidInput
#print axioms Arca.Step.C11_unknown_ids
#print axioms Arca.Step.C11_no_panic
#print axioms Arca.Step.C11_no_panic_total
#print axioms Arca.Step.C11_signal_no_panic
#print axioms Arca.Step.C11_stepdata_once
#print axioms Arca.Step.C11_stepdata_first_arrival
