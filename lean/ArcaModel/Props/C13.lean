import ArcaModel.Model.Effects
import ArcaModel.Gen.Effects
/-
  Property C13: "Schemas are safe for concurrent use, as the ATP server uses them."

  The argument has three parts.

  1. `C13_closed`, `C13_reach_sound` (table, regenerated from the working tree on every run): the set
     `reach` of the table contains every function reachable over the extracted call edges (static calls,
     class-hierarchy edges for interface and function-value calls, functions used as values, methods
     looked up by name) from the schema operations Unserialize / Validate / Serialize /
     ValidateCompatibility (and their typed forms) of every schema type, CallableSchema.CallStep /
     CallSignal, the unit definitions' Parse* / Format*, and the methods library code calls back.

  2. `C13_race_free_partial` (same table): in those functions every write to memory that is shared
     between calls - and every read of a location that has such a write - is dominated by a Lock of a
     mutex of the same receiver or of a package-level mutex that is released only afterwards, or is on
     the allow-list of `Model/Effects.lean` with its reason; none of them starts a goroutine; every
     library function handed a reference to shared memory is a known reader.
     PARTIAL: *which* stores are to shared memory, and which lock dominates them, is the extractor's
     dataflow classification (/verif/effects/origin.go: local allocation vs parameter / captured
     variable / global origin, call summaries); it is trusted, not proved. Reads of immutable schema
     fields are not listed: without a write they cannot race.

  3. `C13_isolation` (abstract machine, proved for every interleaving and any number of operations):
     operations whose only shared effects are guarded, idempotent cache fills that are a function of the
     immutable schema observe - and therefore return - in any interleaving exactly what they observe
     when run alone. `C13_unguarded_not_isolated` shows the guard is needed: the two-step fill the units
     code used to perform (publish an empty map, then insert) lets another operation see a value it
     could never see alone.

  The dynamic side (harness sub-command `race`: `-race` binaries, fresh and freshly rebuilt schema
  instances per process, 2..16 goroutines, results compared with a sequential run) searches for what
  the classification could have missed.
-/
namespace Arca

open Arca.Effects

/-- `closedFrom` with the subset test written with `Nat.beq`: on bit masks of a thousand bits the
    kernel evaluates `==` (which goes through `Nat.decEq`) several times more slowly -/
def Effects.closedFromB (reach : Nat) : Nat → List Nat → Bool
  | _, [] => true
  | i, s :: rest => (!(inSet reach i) || Nat.beq (Nat.land s reach) s) && closedFromB reach (i + 1) rest

theorem Effects.closedFromB_eq (reach : Nat) :
    ∀ (l : List Nat) (i : Nat), closedFromB reach i l = closedFrom reach i l := by
  intro l
  induction l with
  | nil => intro i; rfl
  | cons s rest ih =>
    intro i
    rw [closedFromB, closedFrom, ih]
    congr 2
    cases h : Nat.beq (Nat.land s reach) s
    · exact (beq_eq_false_iff_ne.mpr (Nat.ne_of_beq_eq_false h)).symm
    · exact (beq_iff_eq.mpr (Nat.eq_of_beq_eq_true h)).symm

/-- `reach` contains the roots and is closed under the extracted call edges -/
theorem C13_closed : closed Gen.effects = true := by
  unfold closed
  rw [← closedFromB_eq]
  decide +kernel

/-- hence it contains everything reachable from the roots -/
theorem C13_reach_sound : ∀ n, Reachable Gen.effects n → inSet Gen.effects.reach n = true :=
  closed_sound Gen.effects C13_closed

/-- `List.contains` on names with the byte lengths compared first: the kernel compares two strings
    byte by byte, and most names of the table differ in length -/
def Effects.containsB (l : List String) (e : String) : Bool :=
  l.any fun a => Nat.beq a.utf8ByteSize e.utf8ByteSize && a == e

theorem Effects.containsB_eq (l : List String) (e : String) : containsB l e = l.contains e := by
  induction l with
  | nil => rfl
  | cons a l ih =>
    rw [containsB, List.any_cons, ← containsB, ih, List.contains_cons]
    congr 1
    by_cases h : a = e
    · subst h; rw [Nat.beq_refl]; rfl
    · rw [beq_false_of_ne h, beq_false_of_ne (Ne.symm h), Bool.and_false]

theorem Effects.all_containsB (l es : List String) :
    es.all (containsB l) = es.all fun e => l.contains e := by
  induction es with
  | nil => rfl
  | cons e es ih => rw [List.all_cons, List.all_cons, ih, containsB_eq]

/-- every shared write (and read of a written location) in a reachable function is guarded or
    allow-listed with a reason; no reachable function spawns a goroutine; library callees are readers.
    PARTIAL: the classification of the accesses is the extractor's (see the header). -/
theorem C13_race_free_partial : raceFree Gen.effects = true := by
  unfold raceFree raceFreeWith
  rw [← all_containsB]
  decide +kernel

/-- the check is not vacuous: the table has roots, guarded writes in reachable functions, and the
    allow-list is needed -/
example : Gen.effects.roots.length > 100 ∧
    (Gen.effects.writes.filter fun a => inSet Gen.effects.reach a.fn && a.guard != 0).length ≥ 1 ∧
    raceFreeWith [] readOnlyExterns Gen.effects = false := by decide +kernel

/-! ## Isolation on an abstract machine

  A schema is an immutable value plus cache slots (`sortedMultipliersCache`, `reCache`, `defaultValues`,
  the step data of a run ...). `fill k` is what slot `k` holds once filled: a function of the immutable
  part only. An operation is a list of slots it consults and a pure result function of its argument and
  of what it read. Consulting a slot is ONE atomic action (the critical section): fill the slot if it
  is empty, read it. A schedule interleaves the actions of any number of operations arbitrarily.
-/
namespace Isolation

variable {Slot Val : Type} [DecidableEq Slot]

abbrev Cache (Slot Val : Type) := Slot → Option Val

def touch (fill : Slot → Val) (c : Cache Slot Val) (k : Slot) : Cache Slot Val × Val :=
  match c k with
  | some v => (c, v)
  | none => (fun j => if j = k then some (fill k) else c j, fill k)

structure Thread (Slot Val : Type) where
  todo : List Slot
  seen : List (Slot × Val)

def stepThread (fill : Slot → Val) (c : Cache Slot Val) (t : Thread Slot Val) :
    Cache Slot Val × Thread Slot Val :=
  match t.todo with
  | [] => (c, t)
  | k :: rest => ((touch fill c k).1, { todo := rest, seen := t.seen ++ [(k, (touch fill c k).2)] })

/-- run a schedule (thread indexes; an index out of range or a finished thread is a no-op) -/
def run (fill : Slot → Val) : Cache Slot Val → List (Thread Slot Val) → List Nat →
    Cache Slot Val × List (Thread Slot Val)
  | c, ts, [] => (c, ts)
  | c, ts, i :: sched =>
    match ts[i]? with
    | none => run fill c ts sched
    | some t => run fill (stepThread fill c t).1 (ts.set i (stepThread fill c t).2) sched

def Consistent (fill : Slot → Val) (c : Cache Slot Val) : Prop := ∀ k v, c k = some v → v = fill k

/-- what the operation has read and will read; when it has finished (`todo = []`) this is `seen`, the
    only input of its result besides its own argument -/
def view (fill : Slot → Val) (t : Thread Slot Val) : List (Slot × Val) :=
  t.seen ++ t.todo.map fun k => (k, fill k)

theorem touch_val (fill : Slot → Val) (c : Cache Slot Val) (hc : Consistent fill c) (k : Slot) :
    (touch fill c k).2 = fill k := by
  unfold touch
  split
  · next v h => exact hc k v h
  · rfl

theorem touch_consistent (fill : Slot → Val) (c : Cache Slot Val) (hc : Consistent fill c) (k : Slot) :
    Consistent fill (touch fill c k).1 := by
  unfold touch
  split
  · exact hc
  · intro j v hj
    by_cases hjk : j = k
    · subst hjk; simp at hj; exact hj.symm
    · simp [hjk] at hj; exact hc j v hj

theorem step_view (fill : Slot → Val) (c : Cache Slot Val) (hc : Consistent fill c)
    (t : Thread Slot Val) : view fill (stepThread fill c t).2 = view fill t := by
  unfold stepThread
  cases h : t.todo with
  | nil => simp
  | cons k rest => simp [view, h, touch_val fill c hc k]

theorem step_consistent (fill : Slot → Val) (c : Cache Slot Val) (hc : Consistent fill c)
    (t : Thread Slot Val) : Consistent fill (stepThread fill c t).1 := by
  unfold stepThread
  cases t.todo with
  | nil => exact hc
  | cons k rest => exact touch_consistent fill c hc k

theorem map_set_of_eq {α β : Type} (f : α → β) (l : List α) (i : Nat) (a b : α) (h : l[i]? = some a)
    (hab : f b = f a) : (l.set i b).map f = l.map f := by
  induction l generalizing i with
  | nil => simp
  | cons x xs ih =>
    cases i with
    | zero => simp at h; subst h; simp [hab]
    | succ i => simp at h; simp [ih i h]

theorem run_inv (fill : Slot → Val) (sched : List Nat) :
    ∀ (c : Cache Slot Val) (ts : List (Thread Slot Val)), Consistent fill c →
      Consistent fill (run fill c ts sched).1 ∧
      (run fill c ts sched).2.map (view fill) = ts.map (view fill) := by
  induction sched with
  | nil => intro c ts hc; exact ⟨hc, rfl⟩
  | cons i sched ih =>
    intro c ts hc
    unfold run
    split
    · exact ih c ts hc
    · next t ht =>
      have h := ih (stepThread fill c t).1 (ts.set i (stepThread fill c t).2)
        (step_consistent fill c hc t)
      refine ⟨h.1, ?_⟩
      rw [h.2]
      exact map_set_of_eq (view fill) ts i t _ ht (step_view fill c hc t)

end Isolation

open Isolation in
/-- **Isolation.** Start any number of operations on a schema whose cache is consistent (for instance
    empty: first use), and run any schedule. Then the cache is still consistent, and an operation that
    has finished has read, slot by slot, exactly the values `fill` determines - the same list it reads
    when it runs alone (`C13_isolation_alone`), whatever the other operations did in between. Its result
    is a function of its argument and of that list. -/
theorem C13_isolation {Slot Val : Type} [DecidableEq Slot] (fill : Slot → Val)
    (c : Cache Slot Val) (hc : Consistent fill c) (ops : List (List Slot)) (sched : List Nat) :
    let ts : List (Thread Slot Val) := ops.map fun needs => { todo := needs, seen := [] }
    Consistent fill (run fill c ts sched).1 ∧
    ∀ (i : Nat) (t : Thread Slot Val), (run fill c ts sched).2[i]? = some t → t.todo = [] →
      ∃ needs, ops[i]? = some needs ∧ t.seen = needs.map fun k => (k, fill k) := by
  intro ts
  have h := run_inv fill sched c ts hc
  refine ⟨h.1, ?_⟩
  intro i t hi hdone
  have hv : ((run fill c ts sched).2.map (view fill))[i]? = some (view fill t) := by
    simp [hi]
  rw [h.2] at hv
  simp only [ts, List.map_map, List.getElem?_map, Option.map_eq_some_iff] at hv
  obtain ⟨needs, hn, hview⟩ := hv
  refine ⟨needs, hn, ?_⟩
  simp only [Function.comp, view, List.nil_append, hdone, List.map_nil, List.append_nil] at hview
  exact hview.symm

open Isolation in
/-- running alone from the empty cache yields the same reads -/
theorem C13_isolation_alone {Slot Val : Type} [DecidableEq Slot] (fill : Slot → Val)
    (needs : List Slot) (sched : List Nat) (t : Thread Slot Val)
    (h : (run fill (fun _ => none) [{ todo := needs, seen := [] }] sched).2[0]? = some t)
    (hdone : t.todo = []) : t.seen = needs.map fun k => (k, fill k) := by
  have := (C13_isolation fill (fun _ => none) (by intro k v hk; cases hk) [needs] sched).2 0 t h hdone
  simpa using this

/-- non-vacuity: two operations sharing slot 0 (say the unit expression), racing on first use -/
example :
    let fill : Nat → Nat := fun k => 10 * k + 7
    let r := Isolation.run fill (fun _ => none)
      [{ todo := [0, 1], seen := [] }, { todo := [0, 2], seen := [] }] [0, 1, 1, 0]
    r.2.map (fun t => (t.todo, t.seen)) = [([], [(0, 7), (1, 17)]), ([], [(0, 7), (2, 27)])] := by
  decide

/-! ## The guard is needed

  The unguarded two-step fill: a slot holds a list that is first published empty and then extended
  (`u.reSubExpNames = map[string]int{}` followed by the insertions). A reader between the two steps
  sees the empty list - a value no operation running alone can observe. -/
namespace Isolation

inductive Phase | start | ext | rd | done
deriving DecidableEq

/-- one action of an operation in phase `p` on slot content `c` (`none`: unfilled): new content, next
    phase, and what the operation has read (`seen`) -/
def ustep (c : Option (List Nat)) (seen : Option (List Nat)) :
    Phase → Option (List Nat) × Phase × Option (List Nat)
  | .start => match c with
    | none => (some [], .ext, seen)      -- `if cache == nil`: publish the empty container ...
    | some l => (some l, .rd, seen)      -- ... otherwise use what is there
  | .ext => (some [1, 2], .rd, seen)     -- ... then insert the entries
  | .rd => (c, .done, c)
  | .done => (c, .done, seen)

def urun : Option (List Nat) → List (Phase × Option (List Nat)) → List Nat →
    Option (List Nat) × List (Phase × Option (List Nat))
  | c, ts, [] => (c, ts)
  | c, ts, i :: sched =>
    match ts[i]? with
    | some (p, seen) =>
      urun (ustep c seen p).1 (ts.set i ((ustep c seen p).2.1, (ustep c seen p).2.2)) sched
    | none => urun c ts sched

end Isolation

open Isolation in
/-- alone, the operation reads `[1, 2]`; interleaved with another first use it can read `[]` -/
theorem C13_unguarded_not_isolated :
    (urun none [(.start, none)] [0, 0, 0]).2 = [(.done, some [1, 2])] ∧
    (urun none [(.start, none), (.start, none)] [0, 1, 1, 0, 0]).2
      = [(.done, some [1, 2]), (.done, some [])] := by
  decide

end Arca

#print axioms Arca.C13_closed
#print axioms Arca.C13_reach_sound
#print axioms Arca.C13_race_free_partial
#print axioms Arca.C13_isolation
#print axioms Arca.C13_isolation_alone
#print axioms Arca.C13_unguarded_not_isolated
