import ArcaModel.Model.Func
/-
  Property C18: "Functions: handlers accepted iff signatures match; calls report faithfully."

  All theorems quantify over every handler value, every signature over the type universe `GoType`
  (parameter and result lists of any length), every declaration and every argument list - not over a
  sample. They are statements about the model `Arca.Func` of `/repo/schema/function.go`; the
  correspondence of that model with the Go code is checked by the `funcs` harness sub-command.
-/
namespace Arca.Func

theorem firstMismatch_none : ∀ (i : Nat) (xs ys : List GoType), xs.length = ys.length →
    (firstMismatch i xs ys = none ↔ xs = ys)
  | _, [], [], _ => by simp [firstMismatch]
  | i, x :: xs, y :: ys, h => by
    have ih := firstMismatch_none (i + 1) xs ys (Nat.succ.inj h)
    by_cases hxy : x = y <;> simp [firstMismatch, hxy, ih]

/-- `validateInputTypeCompatibility` succeeds exactly for non-nil functions whose parameter types are
    the reflected types of the declared inputs -/
theorem checkInputs_ok (inputs : List STy) (h : HandlerV) (s : Sig) :
    checkInputs inputs h = .ok s ↔ h = .func s ∧ s.params = inputs.map reflected := by
  cases h with
  | func s' =>
    simp only [checkInputs, HandlerV.func.injEq]
    by_cases hl : inputs.length = s'.params.length
    · have hfm := firstMismatch_none 0 (inputs.map reflected) s'.params (by simpa using hl)
      cases hm : firstMismatch 0 (inputs.map reflected) s'.params with
      | none =>
        have heq := hfm.mp hm
        simp only [hl, bne_self_eq_false, Bool.false_eq_true, ↓reduceIte, Except.ok.injEq]
        exact ⟨fun h => h ▸ ⟨rfl, heq.symm⟩, (·.1)⟩
      | some i =>
        simp only [hl, bne_self_eq_false, Bool.false_eq_true, ↓reduceIte, reduceCtorEq, false_iff, not_and]
        rintro rfl h2
        cases hm.symm.trans (hfm.mpr h2.symm)
    · simp only [bne_iff_ne.mpr hl, ↓reduceIte, reduceCtorEq, false_iff, not_and]
      rintro rfl h2
      exact hl (by rw [h2, List.length_map])
  | _ => simp [checkInputs]

/-- the result list the declaration asks for: `[out?] ++ [error?]`, `error` the predeclared interface -/
def expectedResults (output : Option STy) (outputsError : Bool) : List GoType :=
  (output.map reflected).toList ++ (if outputsError then [GoType.error] else [])

/-- `validateTypedReturnFunc` succeeds exactly when the result list is the expected one -/
theorem checkStaticReturn_ok (s : Sig) (oe : Bool) (out : Option STy) :
    checkStaticReturn s oe out = .ok () ↔ s.results = expectedResults out oe := by
  unfold checkStaticReturn checkStaticReturnWith expectedReturnCount expectedResults isErrorType
  -- the expected list has at most two entries, so the result list is split up to length 3 (`[]`,
  -- `[a]`, `[a, b]`, longer) against the four declarations; the rest compares lengths and entries
  rcases s.results with _ | ⟨a, _ | ⟨b, _ | ⟨c, l⟩⟩⟩ <;> cases out <;> cases oe <;> simp
  split <;> simp [*]

theorem checkDynamicReturn_ok (s : Sig) :
    checkDynamicReturn s = .ok () ↔
      ∃ t, s.results = [t, GoType.error] ∧ t.isInterface = true := by
  unfold checkDynamicReturn
  -- as above, against the one expected shape `[t, error]`
  rcases s.results with _ | ⟨a, _ | ⟨b, _ | ⟨c, l⟩⟩⟩ <;> simp
  split <;> simp [*]

theorem newStatic_ok (d : Decl) (h : HandlerV) (c : Callable) (hacc : newStatic d h = .ok c) :
    h = .func c.sig ∧ c.sig.params = d.inputs.map reflected ∧
      c.sig.results = expectedResults d.output d.outputsError ∧
      c.hasStaticOutput = d.output.isSome ∧ c.dynamic = false ∧ c.outputsError = d.outputsError := by
  unfold newStatic at hacc
  split at hacc
  · cases hacc
  · rename_i s hci
    have ⟨h1, h2⟩ := (checkInputs_ok d.inputs h s).mp hci
    split at hacc
    · cases hacc
    · rename_i hcr
      cases hacc
      exact ⟨h1, h2, (checkStaticReturn_ok s d.outputsError d.output).mp hcr, rfl, rfl, rfl⟩

/-- The static constructor accepts a handler iff it is a (non-nil) function whose parameter types
    equal the reflected types of the declared inputs pairwise and whose result list equals
    `[out?] ++ [error?]`, where `out` is the reflected type of the declared output schema (absent
    if none is declared) and `error` is the predeclared interface (present iff `outputsError`). -/
theorem C18_accept_iff (d : Decl) (h : HandlerV) :
    acceptsStatic d h = true ↔
      ∃ s : Sig, h = .func s ∧ s.params = d.inputs.map reflected ∧
        s.results = expectedResults d.output d.outputsError := by
  unfold acceptsStatic
  constructor
  · intro hacc
    split at hacc
    · rename_i c hn
      have ⟨h1, h2, h3, _⟩ := newStatic_ok d h c hn
      exact ⟨c.sig, h1, h2, h3⟩
    · cases hacc
  · rintro ⟨s, rfl, h2, h3⟩
    simp only [newStatic, (checkInputs_ok d.inputs _ s).mpr ⟨rfl, h2⟩,
      (checkStaticReturn_ok s d.outputsError d.output).mpr h3]

theorem newDynamic_ok (inputs : List STy) (h : HandlerV) (thn : Bool) (c : Callable)
    (hacc : newDynamic inputs h thn = .ok c) :
    thn = false ∧ h = .func c.sig ∧ c.sig.params = inputs.map reflected ∧
      (∃ t, c.sig.results = [t, GoType.error] ∧ t.isInterface = true) ∧
      c.hasStaticOutput = false ∧ c.dynamic = true ∧ c.outputsError = true := by
  unfold newDynamic at hacc
  split at hacc
  · cases hacc
  · rename_i s hci
    have ⟨h1, h2⟩ := (checkInputs_ok inputs h s).mp hci
    cases thn with
    | true => cases hacc
    | false =>
      simp only [Bool.false_eq_true, ↓reduceIte] at hacc
      split at hacc
      · cases hacc
      · rename_i hcr
        cases hacc
        exact ⟨rfl, h1, h2, (checkDynamicReturn_ok s).mp hcr, rfl, rfl, rfl⟩

/-- The dynamic constructor accepts iff a type handler is given, the handler is a (non-nil) function
    whose parameter types equal the reflected types of the declared inputs pairwise, and it has
    exactly two results: first ANY type of interface kind (not necessarily `any`), second the
    predeclared `error` interface. -/
theorem C18_dynamic_iff (inputs : List STy) (h : HandlerV) (typeHandlerNil : Bool) :
    acceptsDynamic inputs h typeHandlerNil = true ↔
      typeHandlerNil = false ∧
      ∃ s : Sig, h = .func s ∧ s.params = inputs.map reflected ∧
        ∃ t, s.results = [t, GoType.error] ∧ t.isInterface = true := by
  unfold acceptsDynamic
  constructor
  · intro hacc
    split at hacc
    · rename_i c hn
      have ⟨h0, h1, h2, h3, _⟩ := newDynamic_ok inputs h _ c hn
      exact ⟨h0, c.sig, h1, h2, h3⟩
    · cases hacc
  · rintro ⟨rfl, s, rfl, h2, h3⟩
    simp only [newDynamic, (checkInputs_ok inputs _ s).mpr ⟨rfl, h2⟩, (checkDynamicReturn_ok s).mpr h3,
      Bool.false_eq_true, ↓reduceIte]

/-- the argument `a` is a value of the parameter type `p`: untyped nil for interface types,
    otherwise a value whose dynamic type is assignable to `p` -/
def ArgOk (p : GoType) (a : AnyV) : Prop :=
  match a with
  | none => p.isInterface = true
  | some dv => assignable dv.ty p = true

theorem forall₂_cons {α β : Type} {R : α → β → Prop} {a : α} {b : β} {as : List α} {bs : List β} :
    Forall₂ R (a :: as) (b :: bs) ↔ R a b ∧ Forall₂ R as bs :=
  ⟨fun | .cons h t => ⟨h, t⟩, fun ⟨h, t⟩ => .cons h t⟩

theorem forall₂_length {α β} {R : α → β → Prop} {xs : List α} {ys : List β}
    (h : Forall₂ R xs ys) : xs.length = ys.length := by
  induction h with
  | nil => rfl
  | cons _ _ ih => simp [ih]

/-- the argument loop lets exactly the well-typed argument lists through, unchanged -/
theorem convertArgs_some : ∀ (ps : List GoType) (as as' : List AnyV),
    convertArgs ps as = some as' ↔ Forall₂ ArgOk ps as ∧ as' = as
  | [], [], _ => by simp [convertArgs, Forall₂.nil, eq_comm]
  | [], _ :: _, _ => by simp [convertArgs]; nofun
  | _ :: _, [], _ => by simp [convertArgs]; nofun
  | p :: ps, a :: as, as' => by
    have ih := convertArgs_some ps as
    cases a <;> simp only [convertArgs, forall₂_cons, ArgOk] <;> split <;>
      simp [*, and_assoc, eq_comm (a := as')]

/-- the result list of a handler with an optional value result and an optional error result -/
def results (v : Option RVal) (e : Option AnyV) : List RVal :=
  v.toList ++ (e.map (RVal.iface .error)).toList

/-- what `Call` must report for such a result list: a non-nil error as function-reported, otherwise
    exactly the value (nil when there is no value result) -/
def faithful (v : Option RVal) (e : Option AnyV) : CallOut :=
  match e with
  | some (some dv) => .errFn dv
  | _ => .value (v.bind RVal.interface)

theorem unpack_faithful (c : Callable) (v : Option RVal) (e : Option AnyV)
    (hv : v.isSome = (c.hasStaticOutput || c.dynamic))
    (herr : ∀ dv, e = some (some dv) → implements dv.ty .error = true) :
    unpack c (results v e) = faithful v e := by
  unfold unpack results faithful
  rw [← hv]
  rcases v with _ | r <;> rcases e with _ | _ | dv <;>
    simp [RVal.isNil?, RVal.interface, isError, herr]

theorem wellTyped_error {r : RVal} (h : r.WellTyped .error) :
    ∃ e, r = .iface .error e ∧ ∀ dv, e = some dv → implements dv.ty .error = true := by
  cases r with
  | iface s e => exact ⟨e, by rw [h.1], h.2.2⟩
  | conc s n d => exact absurd h.2 (by decide)

theorem wellTyped_results {out : Option GoType} {oe : Bool} {res : List RVal}
    (hwt : Forall₂ RVal.WellTyped (out.toList ++ (if oe then [GoType.error] else [])) res) :
    ∃ v e, res = results v e ∧ v.isSome = out.isSome ∧
      ∀ dv, e = some (some dv) → implements dv.ty .error = true := by
  rcases out with _ | t <;> cases oe
  · cases hwt
    exact ⟨none, none, rfl, rfl, nofun⟩
  · obtain _ | ⟨h, _ | _⟩ := hwt
    obtain ⟨e, rfl, he⟩ := wellTyped_error h
    exact ⟨none, some e, rfl, rfl, fun dv hdv => he dv (Option.some.inj hdv)⟩
  · obtain _ | ⟨_, _ | _⟩ := hwt
    exact ⟨some _, none, rfl, rfl, nofun⟩
  · obtain _ | ⟨_, _ | ⟨h, _ | _⟩⟩ := hwt
    obtain ⟨e, rfl, he⟩ := wellTyped_error h
    exact ⟨some _, some e, rfl, rfl, fun dv hdv => he dv (Option.some.inj hdv)⟩

/-- no result list that is well-typed for the signature of an accepted function makes `unpack`
    panic: it is unpacked faithfully -/
theorem unpack_no_panic (c : Callable) (res : List RVal) (out : Option GoType) (oe : Bool)
    (hres : c.sig.results = out.toList ++ (if oe then [GoType.error] else []))
    (hout : out.isSome = (c.hasStaticOutput || c.dynamic))
    (hwt : Forall₂ RVal.WellTyped c.sig.results res) :
    unpack c res ≠ .panic := by
  rw [hres] at hwt
  obtain ⟨v, e, rfl, hv, he⟩ := wellTyped_results hwt
  rw [unpack_faithful c v e (hv.trans hout) he]
  unfold faithful
  split <;> nofun

theorem call_of_not_argOk (c : Callable) (beh : Beh) (args : List AnyV)
    (h : ¬ Forall₂ ArgOk c.sig.params args) : call c beh args = .errCall := by
  unfold call
  split
  · rfl
  · cases hc : convertArgs c.sig.params args with
    | none => rfl
    | some as => exact absurd ((convertArgs_some _ _ _).mp hc).1 h

theorem call_welltyped (c : Callable) (beh : Beh) (args : List AnyV)
    (h : Forall₂ ArgOk c.sig.params args) :
    call c beh args = match beh args with
      | none => .panic
      | some res => unpack c res := by
  unfold call
  rw [if_neg (by simp [forall₂_length h]), (convertArgs_some c.sig.params args args).mpr ⟨h, rfl⟩]
  rfl

theorem call_faithful (c : Callable) (beh : Beh) (args : List AnyV) (v : Option RVal) (e : Option AnyV)
    (hargs : Forall₂ ArgOk c.sig.params args) (hv : v.isSome = (c.hasStaticOutput || c.dynamic))
    (herr : ∀ dv, e = some (some dv) → implements dv.ty .error = true)
    (hbeh : beh args = some (results v e)) : call c beh args = faithful v e := by
  rw [call_welltyped c beh args hargs, hbeh]
  exact unpack_faithful c v e hv herr

theorem call_no_panic (c : Callable) (beh : Beh) (args : List AnyV) (out : Option GoType) (oe : Bool)
    (hres : c.sig.results = out.toList ++ (if oe then [GoType.error] else []))
    (hout : out.isSome = (c.hasStaticOutput || c.dynamic)) (hnp : ∀ as, beh as ≠ none)
    (hwt : ∀ as res, beh as = some res → Forall₂ RVal.WellTyped c.sig.results res) :
    call c beh args ≠ .panic := by
  by_cases hf : Forall₂ ArgOk c.sig.params args
  · rw [call_welltyped c beh args hf]
    cases hb : beh args with
    | none => exact absurd hb (hnp args)
    | some res => exact unpack_no_panic c res out oe hres hout (hwt args res hb)
  · rw [call_of_not_argOk c beh args hf]
    nofun

/-- **C18, calls of an accepted static function.**
    Let `NewCallableFunction` accept `h` for the declaration `d`, giving `c`. Then for every handler
    behaviour `beh` and every argument list `args`:
    1. a wrong number of arguments is an error that is NOT function-reported (never a panic, the
       handler is not consulted);
    2. so is an argument list of the right length with an argument that is not a value of the
       declared type;
    3. if the arguments are values of the declared (reflected) types and the handler returns the
       value `v` (present iff an output is declared) and the error `e` (present iff
       `outputsError`; its dynamic type implements `error`, as Go's typing guarantees), then `Call`
       returns exactly `v` with a nil error when `e` is nil or absent, and reports `e` itself as a
       function-reported error when it is not nil;
    4. if the handler never panics and returns result lists that are well-typed for its signature,
       `Call` never panics, whatever the arguments. -/
theorem C18_call_faithful (d : Decl) (h : HandlerV) (c : Callable)
    (hacc : newStatic d h = .ok c) (beh : Beh) (args : List AnyV) :
    (args.length ≠ d.inputs.length → call c beh args = .errCall) ∧
    (¬ Forall₂ ArgOk (d.inputs.map reflected) args → call c beh args = .errCall) ∧
    (∀ (v : Option RVal) (e : Option AnyV),
        Forall₂ ArgOk (d.inputs.map reflected) args →
        v.isSome = d.output.isSome → e.isSome = d.outputsError →
        (∀ dv, e = some (some dv) → implements dv.ty .error = true) →
        beh args = some (results v e) →
        call c beh args = faithful v e) ∧
    ((∀ as, beh as ≠ none) →
      (∀ as res, beh as = some res → Forall₂ RVal.WellTyped c.sig.results res) →
      call c beh args ≠ .panic) := by
  have ⟨_, hp, hr, hso, hdyn, _⟩ := newStatic_ok d h c hacc
  rw [← hp]
  exact ⟨fun hl => call_of_not_argOk c beh args fun hf => hl (by simpa [hp] using (forall₂_length hf).symm),
    call_of_not_argOk c beh args,
    fun v e hargs hv _ herr hbeh => call_faithful c beh args v e hargs (by simp [hv, hso, hdyn]) herr hbeh,
    call_no_panic c beh args (d.output.map reflected) d.outputsError hr (by simp [hso, hdyn])⟩

/-- **C18, calls of an accepted dynamic function**: the same four statements; a dynamic handler
    always has a value result (of interface type) and an error result. -/
theorem C18_call_faithful_dynamic (inputs : List STy) (h : HandlerV) (c : Callable)
    (hacc : newDynamic inputs h false = .ok c) (beh : Beh) (args : List AnyV) :
    (args.length ≠ inputs.length → call c beh args = .errCall) ∧
    (¬ Forall₂ ArgOk (inputs.map reflected) args → call c beh args = .errCall) ∧
    (∀ (v : RVal) (e : AnyV),
        Forall₂ ArgOk (inputs.map reflected) args →
        (∀ dv, e = some dv → implements dv.ty .error = true) →
        beh args = some (results (some v) (some e)) →
        call c beh args = faithful (some v) (some e)) ∧
    ((∀ as, beh as ≠ none) →
      (∀ as res, beh as = some res → Forall₂ RVal.WellTyped c.sig.results res) →
      call c beh args ≠ .panic) := by
  have ⟨_, _, hp, ⟨t, hr, _⟩, hso, hdyn, _⟩ := newDynamic_ok inputs h false c hacc
  rw [← hp]
  exact ⟨fun hl => call_of_not_argOk c beh args fun hf => hl (by simpa [hp] using (forall₂_length hf).symm),
    call_of_not_argOk c beh args,
    fun v e hargs herr hbeh => call_faithful c beh args (some v) (some e) hargs (by simp [hso, hdyn])
      (fun dv hdv => herr dv (Option.some.inj hdv)) hbeh,
    call_no_panic c beh args (some t) true hr (by simp [hso, hdyn])⟩

/-! ## Non-vacuity: concrete instances -/

/-- `func(int64, []string) (string, error)` for inputs (int, list[string]), output string, error -/
def exSig : Sig := ⟨[.int64, .slice .string], [.string, .error], false⟩
def exDecl : Decl := ⟨[.int, .list .string], some .string, true⟩
def exCallable : Callable := ⟨exSig, true, false, true⟩

example : acceptsStatic exDecl (.func exSig) = true := by decide +kernel
example : ∃ s : Sig, HandlerV.func exSig = .func s ∧ s.params = exDecl.inputs.map reflected ∧
    s.results = expectedResults exDecl.output exDecl.outputsError := ⟨exSig, rfl, rfl, rfl⟩
example : newStatic exDecl (.func exSig) = .ok exCallable := rfl
/-- rejected: the last result is a non-interface type that is only CALLED "error" -/
example : acceptsStatic ⟨[], none, true⟩ (.func ⟨[], [GoType.fakeError], false⟩) = false := by decide +kernel
/-- the check by name that the code used before accepted it (defect D21) ... -/
example : acceptsStaticByName ⟨[], none, true⟩ (.func ⟨[], [GoType.fakeError], false⟩) = true := by
  decide
/-- ... and `Call` on the function so accepted panics in `IsNil` whatever the handler returns -/
example (n : Bool) (d : V) :
    call ⟨⟨[], [GoType.fakeError], false⟩, false, false, true⟩
      (fun _ => some [RVal.conc GoType.fakeError n d]) [] = .panic := rfl
example : acceptsStatic exDecl .untypedNil = false := by decide +kernel
example : acceptsStatic exDecl (.nilFunc exSig) = false := by decide +kernel
example : acceptsStatic exDecl (.func ⟨[.int64, .slice .any], [.string, .error], false⟩) = false := by
  decide
example : acceptsStatic exDecl (.func ⟨[.int64, .slice .string], [.string, .error, .error], false⟩)
    = false := by decide +kernel

/-- dynamic: `func(any) (any, error)` -/
def exDynSig : Sig := ⟨[.any], [.any, .error], false⟩
def exDynCallable : Callable := ⟨exDynSig, false, true, true⟩
example : acceptsDynamic [.any] (.func exDynSig) false = true := by decide +kernel
example : newDynamic [.any] (.func exDynSig) false = .ok exDynCallable := rfl
example : acceptsDynamic [.any] (.func exDynSig) true = false := by decide +kernel
/-- any interface type passes as the first result, e.g. `fmt.Stringer`-like named interfaces -/
example : acceptsDynamic [] (.func ⟨[], [.named "p" "Fooer" .iface .other, .error], false⟩) false
    = true := by decide +kernel
example : acceptsDynamic [] (.func ⟨[], [.int64, .error], false⟩) false = false := by decide +kernel

/-- a handler for `exSig`: the constant "ok", failing when the integer argument is negative -/
def exBeh : Beh := fun as =>
  match as with
  | [some ⟨.int64, .int .int64 n⟩, _] =>
    if n < 0 then
      some (results (some (.conc .string false (.str ""))) (some (some ⟨.named "p" "myErr" .struct .error, .opaque⟩)))
    else some (results (some (.conc .string false (.str "ok"))) (some none))
  | _ => none

def exArgs (n : Int) : List AnyV := [some ⟨.int64, .int .int64 n⟩, some ⟨.slice .string, .list []⟩]

/-- the hypotheses of part 3 hold for `exArgs 1` and the call returns the handler's value -/
example : Forall₂ ArgOk (exDecl.inputs.map reflected) (exArgs 1) :=
  .cons (by show assignable _ _ = true; decide) (.cons (by show assignable _ _ = true; decide) .nil)
example : exBeh (exArgs 1) = some (results (some (.conc .string false (.str "ok"))) (some none)) := rfl
example : call exCallable exBeh (exArgs 1) = .value (some ⟨.string, .str "ok"⟩) := rfl
/-- a handler error is function-reported -/
example : call exCallable exBeh (exArgs (-1)) = .errFn ⟨.named "p" "myErr" .struct .error, .opaque⟩ :=
  rfl
/-- arity mismatch and ill-typed arguments are call errors -/
example : call exCallable exBeh [] = .errCall := rfl
example : call exCallable exBeh [some ⟨.string, .str "x"⟩, some ⟨.slice .string, .list []⟩] = .errCall :=
  rfl
example : call exCallable exBeh [none, some ⟨.slice .string, .list []⟩] = .errCall := rfl
/-- untyped nil is a value of type `any` -/
example : call exDynCallable (fun as => some [.iface .any (as.head?.join), .iface .error none]) [none]
    = .value none := rfl

end Arca.Func

#print axioms Arca.Func.C18_accept_iff
#print axioms Arca.Func.C18_dynamic_iff
#print axioms Arca.Func.C18_call_faithful
#print axioms Arca.Func.C18_call_faithful_dynamic
