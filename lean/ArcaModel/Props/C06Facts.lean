import ArcaModel.Gen.AtpClientFacts
/-
  C06 / C08, translator tie: the facts about atp/client.go that the atomic steps of
  `ArcaModel/Model/AtpClient.lean` assume, checked against the table that `harness atpfacts`
  regenerates from the working tree (`ArcaModel/Gen/AtpClientFacts.lean`).  A change of the locking
  structure of client.go (a write of `readLoopRunning` that moves out of the section that decides it,
  a new critical section the model has no step for, a shared field touched without the mutex, a
  blocking read inside a critical section ...) changes the generated table and breaks one of the
  `decide`s below at `lake build`.
-/
namespace Arca.AtpClientFacts

open Arca.Gen.AtpClientFacts

/-- which model label(s) a critical section of client.go is (function, index of the section) -/
def modelSections : List (String × Nat × String) := [
  ("Execute", 1, "cSpawnW (wait-group Add for the signal writer, refused when done)"),
  ("Close", 1, "clMark"),
  ("sendErrorToAll", 1, "lDeliver of a step-fatal error without run ID"),
  ("sendErrorToAllAndStopReading", 1, "lDeliver of a decode error / server-fatal error (fan-out and flag clear)"),
  ("handleWorkDoneMessage", 1, "lDeliver of work-done"),
  ("handleSignalMessage", 1, "lDeliver of a signal (forwarded under the mutex)"),
  ("handleErrorMessage", 1, "lDeliver of a step-fatal error with run ID"),
  ("hasEntriesRemaining", 1, "lCheck (decision and flag clear)"),
  ("prepareResultChannels", 1, "cRegister (entry, signal channel, flag set, loop spawn)"),
  ("removeResultChannels", 1, "cAbandon"),
  ("getResultV2", 1, "cWait then cTake (split by the condition wait), or cTake alone")
]

def criticalSections : List (String × Nat) :=
  (regions.filter (fun r => r.idx != 0)).map (fun r => (r.fn, r.idx))

/-- F1. The critical sections of client.go are exactly the ones the model has steps for.  (The signal
    writer goroutine has none of its own: its opening check reads the context, not `done` under the
    mutex - it must never wait for the client mutex, which the read loop holds while it hands an
    emitted signal to a caller who may in turn be waiting for that writer.) -/
theorem sections_are_model_steps :
    criticalSections = modelSections.map (fun p => (p.1, p.2.1)) := by decide +kernel

def touchesShared (r : Region) : Bool := !r.reads.isEmpty || !r.writes.isEmpty

/-- F2. Outside critical sections shared state is touched only by `sendExecutionResult` ("the caller
    must have the mutex locked") ... -/
theorem unlocked_access_only_in_sendExecutionResult :
    ((regions.filter (fun r => r.idx == 0 && touchesShared r)).map (·.fn)) = ["sendExecutionResult"] := by
  decide +kernel

/-- ... and every call of `sendExecutionResult` is made inside a critical section. -/
theorem sendExecutionResult_called_locked :
    (regions.all fun r => !r.calls.contains "sendExecutionResult" || r.idx != 0) = true := by decide +kernel

def writesFlag (r : Region) : Bool :=
  r.writes.contains "readLoopRunning=false" || r.writes.contains "readLoopRunning=true" ||
  r.writes.contains "readLoopRunning"

/-- F3. `readLoopRunning` is written in three critical sections only: cleared by the loop's exit
    decision (`hasEntriesRemaining`) and by the fatal fan-out, set by the registration. -/
theorem flag_writers :
    ((regions.filter writesFlag).map fun r => (r.fn, r.idx,
        r.writes.filter (fun w => w == "readLoopRunning=false" || w == "readLoopRunning=true" || w == "readLoopRunning"))) =
      [("sendErrorToAllAndStopReading", 1, ["readLoopRunning=false"]),
       ("hasEntriesRemaining", 1, ["readLoopRunning=false"]),
       ("prepareResultChannels", 1, ["readLoopRunning=true"])] := by decide +kernel

/-- F4. The clear shares its critical section with the decision that no entry is pending (the
    section reads the entries and their results) or with the error fan-out (it ranges over the
    entries and calls `sendExecutionResult`): the repaired shape, which the model's `lCheck` /
    fatal `lDeliver` steps assume.  (Before commit 81c38a0 the clear sat in a section of its own.) -/
theorem flag_clear_with_decision :
    ((regions.filter (fun r => r.writes.contains "readLoopRunning=false")).all fun r =>
      r.idx != 0 && r.reads.contains "runningStepResultEntries" &&
      (r.reads.contains "entry.result" || r.calls.contains "sendExecutionResult")) = true := by decide +kernel

/-- F5. The set shares its section with the registration of the entry, the check of `done`, the
    wait-group Add and the `go` statement (model: `cRegister` is one step). -/
theorem flag_set_with_registration :
    ((regions.filter (fun r => r.writes.contains "readLoopRunning=true")).all fun r =>
      r.idx != 0 && r.reads.contains "readLoopRunning" && r.reads.contains "done" &&
      r.writes.contains "runningStepResultEntries" && r.spawns && r.wgAdds == 1) = true := by decide +kernel

/-- F6. Every wait-group Add happens inside a critical section that reads `done` (so no Add can
    overlap Close's Wait, which comes after the section that sets `done`). -/
theorem wg_add_locked_and_guarded :
    ((regions.filter (fun r => r.wgAdds != 0)).all fun r => r.idx != 0 && r.reads.contains "done") = true := by
  decide +kernel

/-- F7. `done` is written once, in Close's critical section. -/
theorem done_writer :
    ((regions.filter (fun r => r.writes.contains "done=true" || r.writes.contains "done=false" ||
        r.writes.contains "done")).map fun r => (r.fn, r.idx, r.writes)) = [("Close", 1, ["done=true"])] := by
  decide +kernel

/-- F8. Results are stored by `sendExecutionResult` only; entries are inserted by the registration
    and removed by their own caller (`getResultV2`, `removeResultChannels`). -/
theorem result_and_entry_writers :
    ((regions.filter (fun r => r.writes.contains "entry.result")).map (·.fn)) = ["sendExecutionResult"] ∧
    ((regions.filter (fun r => r.writes.contains "runningStepResultEntries")).map (·.fn)) =
      ["prepareResultChannels", "removeResultChannels", "getResultV2"] := by decide +kernel

/-- F9. Blocking operations inside critical sections of the client mutex: the forward of a signal to
    the caller's channel, the condition wait.  No read of the server-to-client stream (`lRead`) and
    NO WRITE to the client-to-server stream happens under the client mutex: `sendCBOR` serialises
    writers with a mutex of its own, so a write that waits for the peer cannot stop the read loop
    (model: `rsSend / cSend / wSend / clSend` touch only `c2s` and the writer's own position). -/
theorem blocking_in_sections :
    ((regions.filter (fun r => r.idx != 0 && !r.blocks.isEmpty)).map fun r => (r.fn, r.blocks)) =
      [("handleSignalMessage", ["chansend"]), ("getResultV2", ["condwait"])] := by
  decide +kernel

/-- F9b. The stream write is outside every critical section of the client mutex. -/
theorem no_stream_write_under_client_mutex :
    ((regions.filter (fun r => r.idx != 0 && r.blocks.contains "encode")).map (·.fn)) = [] ∧
    ((regions.filter (fun r => r.blocks.contains "encode")).map fun r => (r.fn, r.idx)) = [("sendCBOR", 0)] := by
  decide +kernel

/-- F10. Goroutines are started at three places: the signal writer (`Execute`, after its guarded Add),
    the read loop (inside the registration section), and the helper of `waitWithTimeout`. -/
theorem spawn_sites :
    ((regions.filter (·.spawns)).map fun r => (r.fn, r.idx)) =
      [("Execute", 0), ("waitWithTimeout", 0), ("prepareResultChannels", 1)] := by decide +kernel

/-- functions that take the client mutex themselves (they have a critical section of their own) -/
def lockingFns : List String := (regions.filter (fun r => r.idx != 0)).map (·.fn)

/-- code that runs with the client mutex held: every critical section, and the body of
    `sendExecutionResult` (F2: it is only called from critical sections) -/
def heldRegions : List Region :=
  regions.filter (fun r => r.idx != 0 || r.fn == "sendExecutionResult")

/-- F11. Nothing that runs with the client mutex held calls a function that locks it (`sync.Mutex`
    is not re-entrant: such a call would block the caller on itself - the read loop, for one, would
    never deliver or fan out anything again).  The model's steps are whole critical sections; a
    nested one has no counterpart in it. -/
theorem no_lock_inside_section :
    (heldRegions.all fun r => r.calls.all fun f => !lockingFns.contains f) = true := by decide +kernel

/-- F12. `Close` waits for the client's goroutines WITHOUT a bound: the only statement between the
    client-done message and `return nil` is `c.wg.Wait()` at the top level of the function, and it is
    the last one.  The bounded `waitWithTimeout` is used on the failed-write path only (inside
    `if err != nil`).  (Model: `clRet` needs `loops = [] ∧ writers = []`, and `C06_close_final`: after
    a normal return of Close no goroutine of the client is left - whatever a run in flight takes.) -/
theorem close_waits_unbounded :
    ((waitSites.filter (fun w => w.fn == "Close" && w.call == "wg.Wait")).map fun w => (w.depth, w.cond, w.tail)) =
      [(0, "", true)] ∧
    ((waitSites.filter (fun w => w.call == "waitWithTimeout")).all fun w =>
      w.fn == "Close" && w.cond == "err != nil" && w.depth != 0 && !w.tail) = true ∧
    ((waitSites.filter (fun w => w.fn == "Close" && w.tail)).map (·.call)) = ["wg.Wait"] := by decide +kernel

/-- F13. Writers and the legacy ATP v1 result reader use DIFFERENT mutexes, and neither takes the
    client mutex: `sendCBOR` locks only `writeMutex`, `getResultV1` only `v1ReadMutex`.  (With one
    mutex for both, a caller whose work-start write waits for a busy v1 plugin would keep the caller
    that has to read the plugin's pending result from reading it: neither Execute returns.  Model: the
    send steps and `cReadV1` are independent steps on different streams.) -/
theorem writers_and_v1_reader_use_different_mutexes :
    (locks.lookup "sendCBOR") = some ["writeMutex"] ∧
    (locks.lookup "getResultV1") = some ["v1ReadMutex"] := by decide +kernel

end Arca.AtpClientFacts

#print axioms Arca.AtpClientFacts.sections_are_model_steps
#print axioms Arca.AtpClientFacts.unlocked_access_only_in_sendExecutionResult
#print axioms Arca.AtpClientFacts.sendExecutionResult_called_locked
#print axioms Arca.AtpClientFacts.flag_writers
#print axioms Arca.AtpClientFacts.flag_clear_with_decision
#print axioms Arca.AtpClientFacts.flag_set_with_registration
#print axioms Arca.AtpClientFacts.wg_add_locked_and_guarded
#print axioms Arca.AtpClientFacts.done_writer
#print axioms Arca.AtpClientFacts.result_and_entry_writers
#print axioms Arca.AtpClientFacts.blocking_in_sections
#print axioms Arca.AtpClientFacts.no_stream_write_under_client_mutex
#print axioms Arca.AtpClientFacts.spawn_sites
#print axioms Arca.AtpClientFacts.no_lock_inside_section
#print axioms Arca.AtpClientFacts.close_waits_unbounded
#print axioms Arca.AtpClientFacts.writers_and_v1_reader_use_different_mutexes
