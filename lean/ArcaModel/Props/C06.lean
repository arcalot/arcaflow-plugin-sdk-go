import ArcaModel.Lemmas.AtpClient
/-
  C06  The read loop of the ATP client (atp/client.go).  The theorems are numbered by the part of
  the property they establish:
  (1) at most one read loop, `readLoopRunning` is exact, and one runs while a call is pending;
  (2) the lost wake-up of the code before the repair 81c38a0, and its absence after it;
  (3) on a healthy connection no Execute is left waiting;
  (4) every Execute returns once, with the result of its own run;
  (5) a measure that every non-input step decreases;
  (6) Close returns only when no goroutine remains, and none is started afterwards.
-/
namespace Arca.AtpClient

def Inv (s : State) : Prop :=
  (s.flag = true ↔ s.loops ≠ []) ∧ s.loops.length ≤ 1 ∧ (anyPending s.entries = true → s.flag = true)

/-- `Inv` strengthened to be inductive -/
structure InvA (s : State) : Prop where
  flag_iff : s.flag = true ↔ s.loops ≠ []
  len : s.loops.length ≤ 1
  pend : anyPending s.entries = true → s.flag = true
  noExit : ∀ l, s.loops.lookup l ≠ some .exiting
  ndE : (keys s.entries).Nodup
  ndC : (keys s.callers).Nodup
  ndW : (keys s.writers).Nodup

theorem invA_init : InvA init := by
  constructor <;> simp [init, anyPending]

theorem InvA.loops_nil {s : State} (hi : InvA s) (hf : s.flag = false) : s.loops = [] :=
  Classical.byContradiction fun h => by rw [hi.flag_iff.2 h] at hf; cases hf

/-- Only `call`, `cSpawnW` and `cRegister` add a thread or an entry, under a fresh name; `cAbandon`
    and `cTake` remove an entry; every other branch moves one caller and leaves the tables alone. -/
theorem invA_caller {s s' : State} {l : Label} (hi : InvA s) (h : CallerStep s l s') : InvA s' := by
  have ndSet (c k) : (keys (setT s.callers c k)).Nodup := by rw [keys_setT]; exact hi.ndC
  cases h with
  | call hf => exact { hi with ndC := nodup_keys_append_single _ hi.ndC (fresh_iff.1 hf).2.2 }
  | spawn _ _ _ hf =>
    exact { hi with ndC := ndSet _ _, ndW := nodup_keys_append_single _ hi.ndW (fresh_iff.1 hf).2.1 }
  | register _ _ _ _ _ hn hfl =>
    exact { hi with ndC := ndSet _ _, ndE := nodup_keys_append_single _ hi.ndE hn, pend := fun _ => hfl }
  | registerLoop _ _ _ _ _ hn hfl hf =>
    have hl := hi.loops_nil hfl
    exact { ndC := ndSet _ _, ndW := hi.ndW, ndE := nodup_keys_append_single _ hi.ndE hn,
            flag_iff := by simp, len := by simp [hl], pend := fun _ => rfl,
            noExit := fun t => by simp [hl, lookup_cons'] }
  | abandon | take =>
    exact { hi with ndC := ndSet _ _, ndE := nodup_keys_delT _ hi.ndE,
                    pend := fun h => hi.pend (anyPending_delT h) }
  | _ => exact { hi with ndC := ndSet _ _ }

/-- The loop that moves is the only one (`len`): `setT` keeps exactly it, `delT` leaves none, and it
    leaves together with the flag, only when nothing is pending (`exit`) or after failing every
    entry (`fatal`). -/
theorem invA_loop {s s' : State} {l : Label} (hi : InvA s) (h : LoopStep s l s') : InvA s' := by
  have one {t pc} (hl : s.loops.lookup t = some pc) := eq_singleton_of_lookup hi.len hl
  have move (t) {pc'} (hne : pc' ≠ .exiting) :
      (s.flag = true ↔ setT s.loops t pc' ≠ []) ∧ (setT s.loops t pc').length ≤ 1 ∧
        ∀ u, (setT s.loops t pc').lookup u ≠ some .exiting := by
    refine ⟨by rw [Ne, setT_eq_nil]; exact hi.flag_iff, by rw [length_setT]; exact hi.len, fun u => ?_⟩
    rw [lookup_setT]; split
    · rw [Ne, map_const_eq_some]; exact fun h => hne h.2
    · exact hi.noExit u
  have leave {t pc} (hl : s.loops.lookup t = some pc) : delT s.loops t = [] := by
    rw [one hl]; exact delT_singleton t pc
  have failed : anyPending (failAll s.entries) = true → s.flag = true := by
    rw [anyPending_failAll]; nofun
  cases h with
  | readDone | read | ignore | again =>
    exact { hi with flag_iff := (move _ (by nofun)).1, len := (move _ (by nofun)).2.1,
                    noExit := (move _ (by nofun)).2.2 }
  | done | stepFatal =>
    exact { hi with flag_iff := (move _ (by nofun)).1, len := (move _ (by nofun)).2.1,
                    noExit := (move _ (by nofun)).2.2, ndE := by rw [keys_setRes]; exact hi.ndE,
                    pend := fun h => hi.pend (anyPending_setRes h) }
  | stepFatalAll =>
    exact { hi with flag_iff := (move _ (by nofun)).1, len := (move _ (by nofun)).2.1,
                    noExit := (move _ (by nofun)).2.2, ndE := by rw [keys_failAll]; exact hi.ndE,
                    pend := failed }
  | fatal hl =>
    exact { hi with flag_iff := by simp [leave hl], len := by simp [leave hl],
                    noExit := by simp [leave hl], ndE := by rw [keys_failAll]; exact hi.ndE,
                    pend := fun h => absurd h (by rw [anyPending_failAll]; nofun) }
  | exit hl hp =>
    exact { hi with flag_iff := by simp [leave hl], len := by simp [leave hl],
                    noExit := by simp [leave hl], pend := fun h => absurd h (by rw [hp]; nofun) }

theorem invA_writer {s s' : State} {l : Label} (hi : InvA s) (h : WriterStep s l s') : InvA s' := by
  cases h with
  | check | recv | send => exact { hi with ndW := by rw [keys_setT]; exact hi.ndW }
  | _ => exact { hi with ndW := nodup_keys_delT _ hi.ndW }

theorem invA_step {s s' : State} {l : Label} (hi : InvA s) (h : Step s l s') : InvA s' := by
  rcases h.inv with h | h | h | h | h | h
  · cases h <;> exact { hi with }
  · exact invA_caller hi h
  · exact invA_loop hi h
  · exact invA_writer hi h
  · cases h <;> exact { hi with }
  · cases h <;> exact { hi with }

theorem invA_of_reachable {s : State} (h : Reachable s) : InvA s := by
  induction h with
  | init => exact invA_init
  | step _ hs ih => exact invA_step ih hs

/-- handshake of an ATP v3 session -/
def hs3 : List Label := [.rsCall, .rsSend true, .sRecv, .envPut (.hello 3 true), .rsRead, .rsRet]

/-- Execute 1 is registered, has sent its work-start and waits; loop 10 is decoding -/
def trWaiting : List Label :=
  hs3 ++ [.call 1 1 false false, .cRegister 1 (some 10), .cSend 1 true, .cWait 1]

/-- C06 (1): at most one read loop, `readLoopRunning` is exact, and a pending entry implies a
    running loop; for every environment, faulty ones included. -/
theorem C06_inv {s : State} (h : Reachable s) : Inv s :=
  let hi := invA_of_reachable h
  ⟨hi.flag_iff, hi.len, hi.pend⟩

/- non-vacuity: a concrete instance of the hypotheses of `C06_inv` -/
example : (run init trWaiting).isSome = true := by decide +kernel
example : Reachable (stateAt trWaiting) := reachable_stateAt _
example : (stateAt trWaiting).loops = [(10, .decode)] ∧ (stateAt trWaiting).flag = true := by decide +kernel

theorem C06_pending_has_loop {s : State} (h : Reachable s) (hp : anyPending s.entries = true) :
    ∃ l pc, s.loops = [(l, pc)] := by
  have hi := invA_of_reachable h
  have hne := hi.flag_iff.1 (hi.pend hp)
  have hlen := hi.len
  -- `[]` contradicts `hne`, two or more loops `hlen`
  match s.loops, hne, hlen with
  | [(l, pc)], _, _ => exact ⟨l, pc, rfl⟩

/- non-vacuity: a concrete instance of the hypotheses of `C06_pending_has_loop` -/
example : Reachable (stateAt trWaiting) ∧ anyPending (stateAt trWaiting).entries = true :=
  ⟨reachable_stateAt _, by decide +kernel⟩

/-- in the current code no loop is ever between "decided to exit" and "flag cleared" -/
theorem C06_no_exiting {s : State} (h : Reachable s) : ∀ l, s.loops.lookup l ≠ some .exiting :=
  (invA_of_reachable h).noExit

/-- Execute 1 completes; its loop decides to exit (`lCheck`, nothing pending) but has not yet cleared
    `readLoopRunning`; Execute 2 registers meanwhile and, seeing the flag, starts no loop. -/
def lostPrefix : List Label :=
  [.rsCall, .rsSend true, .sRecv, .envPut (.hello 3 true), .rsRead, .rsRet,
   .call 1 1 false false, .cRegister 1 (some 10), .cSend 1 true, .sRecv, .sSend (.workDone 1 (some 7)),
   .lRead 10, .lDeliver 10, .cTake 1, .lCheck 10, .call 2 2 false false, .cRegister 2 none]

/-- the loop clears the flag and ends; Execute 2 sends its work-start, waits; the server answers -/
def lostSuffix : List Label :=
  [.lExit 10, .cSend 2 true, .cWait 2, .sRecv, .sSend (.workDone 2 (some 8))]

def lostMid : State :=
  { ver := 3, entries := [(2, .pending)], sigs := [], flag := true, done := false, cancelled := false,
    loops := [(10, .exiting)],
    callers := [(1, ⟨1, false, false, .returned (.ok 7)⟩), (2, ⟨2, false, false, .registered⟩)],
    writers := [], closer := .idle, rs := .finished, s2c := [], c2s := [],
    srv := ⟨[], false, false⟩, consumed := [(1, 7)], retd := [] }

def lostFinal : State :=
  { ver := 3, entries := [(2, .pending)], sigs := [], flag := false, done := false, cancelled := false,
    loops := [],
    callers := [(1, ⟨1, false, false, .returned (.ok 7)⟩), (2, ⟨2, false, false, .waiting⟩)],
    writers := [], closer := .idle, rs := .finished, s2c := [.msg (.workDone 2 (some 8))], c2s := [],
    srv := ⟨[], false, false⟩, consumed := [(1, 7)], retd := [] }

theorem lostMid_run : runG true init lostPrefix = some lostMid := by decide +kernel
theorem lostFinal_run : runG true lostMid lostSuffix = some lostFinal := by decide +kernel

theorem lostMid_reachable : ReachablePinned lostMid := runG_reachablePinned .init lostMid_run
theorem lostFinal_reachable : ReachablePinned lostFinal :=
  runG_reachablePinned lostMid_reachable lostFinal_run

/-- C06 (2): in the pre-repair variant a state is reachable in which an entry is pending, the flag
    is still set, and the only loop has already decided to exit; five more steps lead to a state
    with NO loop, a pending entry whose caller sleeps in `condition.Wait()`, and the answer sitting
    unread in the stream. -/
theorem C06_pinned_lost_wakeup :
    ∃ s s', ReachablePinned s ∧ anyPending s.entries = true ∧ s.flag = true ∧
      (∀ l pc, (l, pc) ∈ s.loops → pc = .exiting) ∧
      runG true s lostSuffix = some s' ∧ ReachablePinned s' ∧
      s'.loops = [] ∧ s'.flag = false ∧
      s'.callers.lookup 2 = some ⟨2, false, false, .waiting⟩ ∧
      s'.entries.lookup 2 = some .pending ∧
      s'.s2c = [.msg (.workDone 2 (some 8))] := by
  refine ⟨lostMid, lostFinal, lostMid_reachable, by decide +kernel, rfl, ?_, lostFinal_run,
    lostFinal_reachable, rfl, rfl, by decide +kernel, by decide +kernel, rfl⟩
  intro l pc h
  simp [lostMid] at h
  exact h.2

theorem lostFinal_callers (c : Tid) :
    (c = 1 ∧ lostFinal.callers.lookup c = some ⟨1, false, false, .returned (.ok 7)⟩) ∨
    (c = 2 ∧ lostFinal.callers.lookup c = some ⟨2, false, false, .waiting⟩) ∨
    lostFinal.callers.lookup c = none := by
  by_cases h1 : c = 1
  · subst h1; exact Or.inl ⟨rfl, rfl⟩
  · by_cases h2 : c = 2
    · subst h2; exact Or.inr (Or.inl ⟨rfl, rfl⟩)
    · exact Or.inr (Or.inr (by simp [lostFinal, lookup_cons', h1, h2]))

/-- C06 (2): in the stuck state NOTHING is enabled except free inputs of the application and the peer (a new
    `call`, `clCall`, `envPut`, unsolicited server messages) and the return of the unrelated, already
    completed Execute 1.  Caller 2 sleeps although its answer has arrived; only a LATER Execute (which
    starts a new loop) would wake it. -/
theorem C06_pinned_stuck (l : Label) (h : (stepPinned? lostFinal l).isSome = true) :
    l.isInput = true ∨ l = .cRet 1 (.ok 7) := by
  obtain ⟨s', hs⟩ := Option.isSome_iff_exists.1 h
  have who {c k} (hk : lostFinal.callers.lookup c = some k) :
      (c = 1 ∧ k = ⟨1, false, false, .returned (.ok 7)⟩) ∨ (c = 2 ∧ k = ⟨2, false, false, .waiting⟩) := by
    rcases lostFinal_callers c with ⟨rfl, h⟩ | ⟨rfl, h⟩ | h <;> rw [h] at hk <;> cases hk
    · exact .inl ⟨rfl, rfl⟩
    · exact .inr ⟨rfl, rfl⟩
  unfold stepPinned? stepG at hs
  split at hs
  · cases stepRs_inv hs <;> first | exact .inl rfl | cases ‹lostFinal.rs = _›
  · cases stepCaller_inv hs with
    | call => exact .inl rfl
    | ret hk hpc =>
      rcases who hk with ⟨rfl, rfl⟩ | ⟨rfl, rfl⟩ <;> cases hpc
      exact .inr rfl
    | take hk _ he => rcases who hk with ⟨rfl, rfl⟩ | ⟨rfl, rfl⟩ <;> cases he
    | _ =>
      -- every other branch is guarded by a position that neither caller is at
      rcases who ‹lostFinal.callers.lookup _ = some _› with ⟨rfl, rfl⟩ | ⟨rfl, rfl⟩ <;>
        cases ‹Caller.pc _ = _›
  -- `stepLoop_inv` reads the current code only; under the pinned rules it is enough that
  -- `lostFinal` has no loop
  · cases l <;> simp [stepLoop, lostFinal] at hs
  · cases stepWriter_inv hs <;> first | exact .inl rfl | cases ‹lostFinal.writers.lookup _ = _›
  · cases stepCloser_inv hs with
    | call => exact .inl rfl
    | ret _ hc => rcases hc with h | ⟨h, _⟩ <;> cases h
    | _ => cases ‹lostFinal.closer = _›
  · cases stepEnv_inv hs with
    | recv hc => cases hc
    | done _ hm => simp [srvMay, lostFinal] at hm
    | stepFatal _ hm hr => simp [srvMay, lostFinal, hr] at hm
    | «end» _ hg => cases hg
    | other _ _ ho => exact .inl (by simp [Label.isInput, ho])
    | fatal => exact .inl (by simp [Label.isInput, Msg.isOwedTerminal])
    | _ => exact .inl rfl

/- non-vacuity: a concrete instance of the hypotheses of `C06_pinned_stuck` -/
example : (stepPinned? lostFinal (.call 3 3 false false)).isSome = true := by decide +kernel

/-- in particular: no read-loop step, and caller 2 cannot take its result -/
theorem C06_pinned_stuck_loop (l : Label) (hl : l.owner = .loop) : stepPinned? lostFinal l = none := by
  cases h : stepPinned? lostFinal l with
  | none => rfl
  | some s' =>
    rcases C06_pinned_stuck l (by rw [h]; rfl) with hi | hi
    · cases l <;> simp [Label.owner, Label.isInput] at hl hi
    · subst hi; simp [Label.owner] at hl

theorem C06_pinned_stuck_take : stepPinned? lostFinal (.cTake 2) = none := by decide +kernel

/-- the trace that deadlocks the old code -/
def lostTrace : List Label := lostPrefix ++ lostSuffix

/-- the corresponding run of the current code: Execute 2 finds the flag cleared and starts loop 11 -/
def repairedTrace : List Label :=
  [.rsCall, .rsSend true, .sRecv, .envPut (.hello 3 true), .rsRead, .rsRet,
   .call 1 1 false false, .cRegister 1 (some 10), .cSend 1 true, .sRecv, .sSend (.workDone 1 (some 7)),
   .lRead 10, .lDeliver 10, .cTake 1, .lCheck 10, .call 2 2 false false, .cRegister 2 (some 11),
   .cSend 2 true, .cWait 2, .sRecv, .sSend (.workDone 2 (some 8)),
   .lRead 11, .lDeliver 11, .cTake 2, .cRet 2 (.ok 8)]

/-- C06 (2), contrast: the deadlocking trace is a run of the old code but NOT of the current code
    (`lCheck` clears the flag in the same critical section, so `cRegister 2 none` is impossible: the
    run is rejected exactly there), while the run in which Execute 2 starts its own loop exists and
    ends with Execute 2 returned with the server's answer. -/
theorem C06_repaired_rejects :
    runG true init lostTrace = some lostFinal ∧
    run init lostTrace = none ∧
    run init lostPrefix = none ∧ (run init (lostPrefix.take 16)).isSome = true ∧
    ∃ s', run init repairedTrace = some s' ∧ 2 ∈ s'.retd ∧
      s'.callers.lookup 2 = some ⟨2, false, false, .finished⟩ ∧ (2, 8) ∈ s'.consumed ∧
      anyPending s'.entries = false := by
  refine ⟨by decide +kernel, by decide +kernel, by decide +kernel, by decide +kernel, ?_⟩
  have : run init repairedTrace = some
      { ver := 3, entries := [], sigs := [], flag := true, done := false, cancelled := false,
        loops := [(11, .check)],
        callers := [(1, ⟨1, false, false, .returned (.ok 7)⟩), (2, ⟨2, false, false, .finished⟩)],
        writers := [], closer := .idle, rs := .finished, s2c := [], c2s := [],
        srv := ⟨[], false, false⟩, consumed := [(1, 7), (2, 8)], retd := [2] } := by decide +kernel
  exact ⟨_, this, by decide⟩

/-! ### invariants for (3), `C06_no_stuck` -/

/-- positions of an Execute that owns an entry of the result table -/
def CPc.owns : CPc → Bool
  | .registered | .sendFailed | .sent | .waiting => true
  | _ => false

/-- a caller between registering and taking its result owns the entry of its run: the entry is in
    the table, and no other caller owns it -/
structure InvO (s : State) : Prop where
  own : ∀ c k, s.callers.lookup c = some k → k.pc.owns = true → k.run ∈ keys s.entries
  inj : ∀ c c' k k', s.callers.lookup c = some k → s.callers.lookup c' = some k' →
    k.pc.owns = true → k'.pc.owns = true → k.run = k'.run → c = c'

/-- Caller `c` moves from `k` to `pc'`.  If it owns an entry afterwards, the entry is there, and it
    owned it before or the run ID was not in the table (so nobody else owns it); the entries of
    the other owners stay: all of them, or all but `k.run` when `c` was its owner. -/
theorem InvO.move {s s' : State} (ho : InvO s) {c : Tid} {k : Caller} {pc' : CPc}
    (hk : s.callers.lookup c = some k) (hc : s'.callers = setT s.callers c { k with pc := pc' })
    (hnew : pc'.owns = true →
      k.run ∈ keys s'.entries ∧ (k.pc.owns = true ∨ k.run ∉ keys s.entries))
    (hkeep : ∀ r ∈ keys s.entries, r ≠ k.run ∨ k.pc.owns = false → r ∈ keys s'.entries) :
    InvO s' := by
  have look {c1 k1} (h : s'.callers.lookup c1 = some k1) :
      (c1 = c ∧ k1 = { k with pc := pc' }) ∨ (c1 ≠ c ∧ s.callers.lookup c1 = some k1) :=
    lookup_setT_some (hc ▸ h)
  have other {c1 k1} (hne : c1 ≠ c) (h1 : s.callers.lookup c1 = some k1) (ho1 : k1.pc.owns = true)
      (hk0 : k.pc.owns = true ∨ k.run ∉ keys s.entries) : k1.run ≠ k.run := fun e =>
    hk0.elim (fun hko => hne (ho.inj _ _ _ _ h1 hk ho1 hko e)) (fun hn => hn (e ▸ ho.own _ _ h1 ho1))
  constructor
  · intro c1 k1 h1 ho1
    rcases look h1 with ⟨_, rfl⟩ | ⟨hne, h1⟩
    · exact (hnew ho1).1
    · refine hkeep _ (ho.own _ _ h1 ho1) ?_
      cases hko : k.pc.owns
      · exact .inr rfl
      · exact .inl (other hne h1 ho1 (.inl hko))
  · intro c1 c2 k1 k2 h1 h2 ho1 ho2 e
    rcases look h1 with ⟨rfl, rfl⟩ | ⟨hne1, h1⟩ <;> rcases look h2 with ⟨rfl, rfl⟩ | ⟨hne2, h2⟩
    · rfl
    · exact absurd e.symm (other hne2 h2 ho2 (hnew ho1).2)
    · exact absurd e (other hne1 h1 ho1 (hnew ho2).2)
    · exact ho.inj _ _ _ _ h1 h2 ho1 ho2 e

theorem invO_caller {s s' : State} {l : Label} (ho : InvO s) (h : CallerStep s l s') : InvO s' := by
  cases h with
  | call =>
    -- the new caller owns nothing
    have look {p c1 k1} (hp : p.2.pc.owns = false) (h : (s.callers ++ [p]).lookup c1 = some k1)
        (ho1 : k1.pc.owns = true) : s.callers.lookup c1 = some k1 :=
      (lookup_append_single_some h).resolve_right (fun e => by rw [e, hp] at ho1; cases ho1)
    exact ⟨fun c1 k1 h1 ho1 => ho.own _ _ (look rfl h1 ho1) ho1,
      fun c1 c2 k1 k2 h1 h2 ho1 ho2 => ho.inj _ _ _ _ (look rfl h1 ho1) (look rfl h2 ho2) ho1 ho2⟩
  | register hk _ _ _ _ hn | registerLoop hk _ _ _ _ hn =>
    exact ho.move hk rfl (fun _ => ⟨by simp, .inr (hasKey_eq_false.1 hn)⟩) (fun r hr _ => by simp [hr])
  | @send _ k hk hpc | @sendFail _ k hk hpc | @wait _ k hk hpc =>
    have hko : k.pc.owns = true := by rw [hpc]; rfl
    exact ho.move hk rfl (fun _ => ⟨ho.own _ _ hk hko, .inl hko⟩) (fun _ h _ => h)
  | abandon hk hpc =>
    exact ho.move hk rfl nofun (fun r hr hne => mem_keys_delT.2
      ⟨hr, hne.resolve_right (by rw [hpc]; exact Bool.noConfusion)⟩)
  | take hk hpc =>
    exact ho.move hk rfl nofun (fun r hr hne => mem_keys_delT.2
      ⟨hr, hne.resolve_right (by rcases hpc with h | h <;> rw [h] <;> exact Bool.noConfusion)⟩)
  -- the other branches end at a position that owns nothing and leave `entries` alone
  | _ => exact ho.move ‹s.callers.lookup _ = some _› rfl nofun (fun _ h _ => h)

theorem invO_loop {s s' : State} {l : Label} (ho : InvO s) (h : LoopStep s l s') : InvO s' := by
  -- loop steps keep the keys of `entries` (`keys_failAll`, `keys_setRes`) and leave `callers` alone
  cases h <;> exact ⟨by simpa using ho.own, ho.inj⟩

theorem invO_step {s s' : State} {l : Label} (ho : InvO s) (h : Step s l s') : InvO s' := by
  rcases h.inv with h | h | h | h | h | h
  · cases h <;> exact { ho with }
  · exact invO_caller ho h
  · exact invO_loop ho h
  all_goals cases h <;> exact { ho with }

theorem invO_of_reachable {s : State} (h : Reachable s) : InvO s := by
  induction h with
  | init => constructor <;> simp [init]
  | step _ hs ih => exact invO_step ih hs

/-- an ended server stream carries a fault that every later read reports again -/
def InvE (s : State) : Prop := s.srv.ended = true → ∃ it, it ∈ s.s2c ∧ it.sticky = true

/-- reading the head of the stream removes it unless it is such a fault -/
theorem InvE.pop {s : State} (hi : InvE s) {it : Item} {rest : List Item} (hs : s.s2c = it :: rest) :
    s.srv.ended = true → ∃ x, x ∈ (if it.sticky then s.s2c else rest) ∧ x.sticky = true := by
  intro he
  obtain ⟨x, hx, hxs⟩ := hi he
  split
  · exact ⟨x, hx, hxs⟩
  · rw [hs] at hx
    rcases List.mem_cons.1 hx with rfl | hx
    · exact absurd hxs ‹_›
    · exact ⟨x, hx, hxs⟩

theorem InvE.append {s : State} (hi : InvE s) (l : List Item) :
    s.srv.ended = true → ∃ x, x ∈ s.s2c ++ l ∧ x.sticky = true := fun he =>
  let ⟨x, hx, hxs⟩ := hi he
  ⟨x, List.mem_append_left _ hx, hxs⟩

theorem invE_step {s s' : State} {l : Label} (hi : InvE s) (h : Step s l s') : InvE s' := by
  rcases h.inv with h | h | h | h | h | h
  · cases h with
    | hello _ hs | readBad _ hs => exact hi.pop hs
    | _ => exact hi
  · cases h with
    | readV1 _ hs | readV1Bad _ hs => exact hi.pop hs
    | _ => exact hi
  · cases h with
    | readDone _ hs | read _ hs => exact hi.pop hs
    | _ => exact hi
  · cases h <;> exact hi
  · cases h <;> exact hi
  · cases h with
    | recv => exact fun he => hi (by rw [← he]; exact (Srv.recv_ended ..).symm)
    | fatal | «end» => exact fun _ => ⟨.eof, by simp, rfl⟩
    | @put it => exact fun he => ⟨it, by simp, he⟩
    | late => exact hi
    | _ => exact hi.append _

theorem invE_of_reachable {s : State} (h : Reachable s) : InvE s := by
  induction h with
  | init => exact nofun
  | step _ hs ih => exact invE_step ih hs

/-- facts that need the healthy connection: ReadSchema has finished before any Execute exists (so
    only read loops and v1 callers consume the stream), and the protocol version fits the path an
    Execute took -/
structure InvG (s : State) : Prop where
  rsFin : s.callers ≠ [] → s.rs = .finished
  v1 : ∀ c k, s.callers.lookup c = some k → k.pc = .sentV1 → s.ver ≤ 1
  v3 : ∀ c k, s.callers.lookup c = some k → k.pc.owns = true → s.ver > 1

theorem InvG.move {s s' : State} (hg : InvG s) {c : Tid} {k : Caller} {pc' : CPc}
    (hc : s'.callers = setT s.callers c { k with pc := pc' }) (hv : s'.ver = s.ver)
    (hr : s'.rs = s.rs) (h1 : pc' = .sentV1 → s.ver ≤ 1) (h3 : pc'.owns = true → s.ver > 1) :
    InvG s' := by
  refine ⟨?_, ?_, ?_⟩ <;> rw [hc] <;> (try rw [hv]) <;> (try rw [hr])
  · exact fun h => hg.rsFin (fun e => h (by rw [e]; rfl))
  · exact forall_lookup_setT (P := fun k : Caller => k.pc = .sentV1 → s.ver ≤ 1) hg.v1 h1
  · exact forall_lookup_setT (P := fun k : Caller => k.pc.owns = true → s.ver > 1) hg.v3 h3

theorem invG_caller {s s' : State} {l : Label} (hg : InvG s) (h : CallerStep s l s')
    (hh : healthy s l = true) : InvG s' := by
  cases h with
  | call =>
    simp only [healthy, Bool.and_eq_true, decide_eq_true_eq] at hh
    refine ⟨fun _ => hh.1, fun c1 k1 h1 hp => ?_, fun c1 k1 h1 hp => ?_⟩ <;>
      rcases lookup_append_single_some h1 with h1 | rfl
    · exact hg.v1 _ _ h1 hp
    · cases hp
    · exact hg.v3 _ _ h1 hp
    · cases hp
  | register _ _ _ hv | registerLoop _ _ _ hv => exact hg.move rfl rfl rfl nofun (fun _ => hv)
  | send hk hpc | sendFail hk hpc | wait hk hpc =>
    exact hg.move rfl rfl rfl nofun (fun _ => hg.v3 _ _ hk (by rw [hpc]; rfl))
  | sendV1 _ _ _ hv => exact hg.move rfl rfl rfl (fun _ => hv) nofun
  -- the other branches end at a position that is neither `sentV1` nor owns an entry
  | _ => exact hg.move rfl rfl rfl nofun nofun

/-- ReadSchema moves only while no Execute exists: each of its branches has `s.rs` at a position
    other than `finished` -/
theorem InvG.no_callers {s s' : State} {l : Label} (hg : InvG s) (h : RsStep s l s') :
    s.callers = [] :=
  Classical.byContradiction fun hne => by have := hg.rsFin hne; cases h <;> simp_all

theorem invG_rs {s s' : State} {l : Label} (hg : InvG s) (h : RsStep s l s') : InvG s' := by
  have hc := hg.no_callers h
  cases h <;> constructor <;> simp [hc]

theorem invG_step {s s' : State} {l : Label} (hg : InvG s) (h : Step s l s')
    (hh : healthy s l = true) : InvG s' := by
  rcases h.inv with h | h | h | h | h | h
  · exact invG_rs hg h
  · exact invG_caller hg h hh
  all_goals cases h <;> exact { hg with }

theorem invG_of_reachableH {s : State} (h : ReachableH s) : InvG s := by
  induction h with
  | init => constructor <;> simp [init]
  | step _ hs hh ih => exact invG_step ih hs hh

/-- `m` ends run `r` on the client: its work-done, a step-fatal error for it, or a server-fatal error.
    The first two are what `Msg.isOwedTerminal` (the server's side: a message that settles a run it
    owes) says of some run; the third ends every run. -/
def Msg.terminalFor (r : Run) : Msg → Bool
  | .workDone r' _ => r' == r
  | .error r' sf vf => vf || (sf && r' == r && r' != 0)
  | _ => false

/-- something is under way that will end run `r`, or make the server end its output: (1) its
    work-start is on the way to the server, (2) the server owes it, a message that ends it is (3) in
    the server's output or (4) held by a loop, (5) client-done is on the way or (6) has arrived, or
    (7) the output carries a sticky fault -/
def InFlight (s : State) (r : Run) : Prop :=
  .workStart r ∈ s.c2s ∨ r ∈ s.srv.owed ∨ (∃ m, .msg m ∈ s.s2c ∧ m.terminalFor r = true) ∨
  (∃ t m, s.loops.lookup t = some (.handle (some m)) ∧ m.terminalFor r = true) ∨
  .clientDone ∈ s.c2s ∨ s.srv.gotDone = true ∨ (∃ it, it ∈ s.s2c ∧ it.sticky = true)

/-- an Execute for run `r` has written its work-start and waits (or is about to wait) -/
def Waits (s : State) (r : Run) : Prop :=
  ∃ c k, s.callers.lookup c = some k ∧ k.run = r ∧ (k.pc = .sent ∨ k.pc = .waiting)

/-- the invariant behind `C06_no_stuck`: what a waiting Execute waits for is on its way -/
def InvFl (s : State) : Prop :=
  ∀ r, Waits s r → s.entries.lookup r = some .pending → InFlight s r

/-- `InFlight` only looks at the two streams, the server's bookkeeping and the messages the loops
    hold: it survives when the client-to-server stream grows and the loops keep their messages -/
theorem InFlight.mono {s s' : State} {r : Run} (h : InFlight s r) (hc : ∀ m ∈ s.c2s, m ∈ s'.c2s)
    (hv : s'.srv = s.srv) (hs : s'.s2c = s.s2c)
    (hl : ∀ t m, s.loops.lookup t = some (.handle (some m)) →
      s'.loops.lookup t = some (.handle (some m))) : InFlight s' r := by
  unfold InFlight at h ⊢; rw [hv, hs]
  rcases h with h | h | h | ⟨t, m, h, hm⟩ | h | h
  · exact .inl (hc _ h)
  · exact .inr (.inl h)
  · exact .inr (.inr (.inl h))
  · exact .inr (.inr (.inr (.inl ⟨t, m, hl t m h, hm⟩)))
  · exact .inr (.inr (.inr (.inr (.inl (hc _ h)))))
  · exact .inr (.inr (.inr (.inr (.inr h))))

/-- delivering a message that is not the terminal one of run `r` keeps `r` in flight -/
theorem InFlight.deliver {s s' : State} {r : Run} {t : Tid} {m : Msg} {pc : LPc} (h : InFlight s r)
    (ht : s.loops.lookup t = some (.handle (some m))) (hm : m.terminalFor r = false)
    (hl : s'.loops = setT s.loops t pc) (hc : s'.c2s = s.c2s) (hv : s'.srv = s.srv)
    (hs : s'.s2c = s.s2c) : InFlight s' r := by
  unfold InFlight at h ⊢; rw [hc, hv, hs, hl]
  rcases h with h | h | h | ⟨t', m', h, hm'⟩ | h
  · exact .inl h
  · exact .inr (.inl h)
  · exact .inr (.inr (.inl h))
  · have hne : t' ≠ t := fun e => by subst e; rw [ht] at h; cases h; rw [hm] at hm'; cases hm'
    exact .inr (.inr (.inr (.inl ⟨t', m', by rw [lookup_setT_ne _ _ hne]; exact h, hm'⟩)))
  · exact .inr (.inr (.inr (.inr h)))

theorem Waits.of_move {s s' : State} {c : Tid} {k : Caller} {pc' : CPc} {r : Run}
    (hc : s'.callers = setT s.callers c { k with pc := pc' }) (h : Waits s' r) :
    Waits s r ∨ (r = k.run ∧ (pc' = .sent ∨ pc' = .waiting)) := by
  obtain ⟨c1, k1, h1, hr, hpc⟩ := h
  rcases lookup_setT_some (hc ▸ h1) with ⟨_, rfl⟩ | ⟨_, h1⟩
  · exact .inr ⟨hr.symm, hpc⟩
  · exact .inl ⟨c1, k1, h1, hr, hpc⟩

theorem invFl_caller {s s' : State} {l : Label} (hi : InvFl s) (ho : InvO s) (hg : InvG s)
    (h : CallerStep s l s') : InvFl s' := by
  intro r hw hp
  have owner (hw : Waits s r) : r ∈ keys s.entries ∧ s.ver > 1 := by
    obtain ⟨c1, k1, h1, rfl, hpc⟩ := hw
    have : k1.pc.owns = true := by rcases hpc with h | h <;> rw [h] <;> rfl
    exact ⟨ho.own _ _ h1 this, hg.v3 _ _ h1 this⟩
  have grow {s'} (f : InFlight s r) {ms} (hc : s'.c2s = s.c2s ++ ms) (hv : s'.srv = s.srv)
      (hs : s'.s2c = s.s2c) (hl : s'.loops = s.loops) : InFlight s' r :=
    f.mono (fun _ h => by rw [hc]; exact List.mem_append_left _ h) hv hs (fun _ _ h => by rw [hl]; exact h)
  have still {s' : State} {c} {k : Caller} {pc' : CPc}
      (hc : s'.callers = setT s.callers c { k with pc := pc' })
      (hpc : ¬(pc' = .sent ∨ pc' = .waiting)) (hw : Waits s' r) : Waits s r :=
    (Waits.of_move hc hw).resolve_right (fun h => hpc h.2)
  cases h with
  | call =>
    obtain ⟨c1, k1, h1, hr, hpc⟩ := hw
    rcases lookup_append_single_some h1 with h1 | rfl
    · exact (hi r ⟨c1, k1, h1, hr, hpc⟩ hp).mono (fun _ h => h) rfl rfl (fun _ _ h => h)
    · rcases hpc with h | h <;> cases h
  | @send _ k hk hpc =>
    rcases Waits.of_move rfl hw with hw | ⟨rfl, _⟩
    · exact grow (hi r hw hp) rfl rfl rfl rfl
    · exact .inl (List.mem_append_right _ (List.mem_singleton.2 rfl))
  | wait hk hpc =>
    have hw : Waits s r := (Waits.of_move rfl hw).elim id (fun h => ⟨_, _, hk, h.1.symm, .inl hpc⟩)
    exact (hi r hw hp).mono (fun _ h => h) rfl rfl (fun _ _ h => h)
  | register hk _ _ _ _ hn | registerLoop hk _ _ _ _ hn =>
    have hw := still rfl (by nofun) hw
    rw [lookup_append_single, Option.or_eq_some_iff] at hp
    rcases hp with hp | ⟨hp, _⟩
    · refine (hi r hw hp).mono (fun _ h => h) rfl rfl (fun t m h => ?_)
      -- `register` leaves the loops alone, `registerLoop` appends one
      first | exact h | exact by rw [List.lookup_append, h]; rfl
    -- a run that waits has its entry already, so it is not the one registered now
    · exact absurd (owner hw).1 (lookup_eq_none_iff'.1 hp)
  | abandon | take =>
    have hw := still rfl (by nofun) hw
    exact (hi r hw (lookup_of_delT hp)).mono (fun _ h => h) rfl rfl (fun _ _ h => h)
  | readV1 hk _ hpc | readV1Bad hk _ hpc =>
    -- an ATP v1 session has no waiting Execute
    have hw := still rfl (by nofun) hw
    exact absurd (hg.v1 _ _ hk hpc) (Int.not_le.2 (owner hw).2)
  | sendV1 =>
    have hw := still rfl (by nofun) hw
    exact grow (hi r hw hp) rfl rfl rfl rfl
  | _ =>
    -- the other branches end at a position other than `sent` and `waiting` and change neither the
    -- entries nor the streams
    have hw := still rfl (by nofun) hw
    exact (hi r hw hp).mono (fun _ h => h) rfl rfl (fun _ _ h => h)

/-- writers and `Close` only append to the client-to-server stream -/
theorem invFl_writer {s s' : State} {l : Label} (hi : InvFl s) (h : WriterStep s l s') :
    InvFl s' := fun r hw hp => by
  cases h <;> exact (hi r hw hp).mono (fun _ h => by simp [h]) rfl rfl (fun _ _ h => h)

theorem invFl_closer {s s' : State} {l : Label} (hi : InvFl s) (h : CloserStep s l s') :
    InvFl s' := fun r hw hp => by
  cases h <;> exact (hi r hw hp).mono (fun _ h => by simp [h]) rfl rfl (fun _ _ h => h)

theorem invFl_rs {s s' : State} {l : Label} (hg : InvG s) (h : RsStep s l s') : InvFl s' :=
  fun r ⟨c, k, hk, _⟩ _ => by
    have hc := hg.no_callers h
    cases h <;> simp [hc] at hk

/-- the server hands on what is in flight: a work-start it reads becomes a run it owes (or it has
    seen client-done), a run it owes becomes a terminal message in its output -/
theorem invFl_env {s s' : State} {l : Label} (hi : InvFl s) (h : EnvStep s l s') : InvFl s' := by
  intro r hw hp
  cases h with
  | recv hc =>
    have f := hi r hw hp
    unfold InFlight at f ⊢
    rw [hc] at f
    have := Srv.recv_workStart s.srv r
    have : (s.srv.recv .clientDone).gotDone = true := rfl
    grind [Srv.recv_owed, Srv.recv_gotDone]
  | _ =>
    -- `done`, `stepFatal`: the run leaves `owed` and its terminal message is appended to `s2c`;
    -- `fatal`, `end`: an `eof` is appended; `put`, `other`, `late` only append
    have f := hi r hw hp
    unfold InFlight at f ⊢
    simp only [List.mem_append] at f ⊢
    grind [Msg.terminalFor, Item.sticky, srvMay]

theorem Msg.not_terminalFor_of_ignored {m : Msg} (h : m.ignored = true) (r : Run) :
    m.terminalFor r = false := by
  rcases m with _ | _ | ⟨_, _ | _, _ | _⟩ | _ <;> first | rfl | cases h

/-- the loop hands on what is in flight: a terminal message it reads is the message it holds, and
    delivering the message that ends run `r` leaves no pending entry for `r` -/
theorem invFl_loop {s s' : State} {l : Label} (hi : InvFl s) (h : LoopStep s l s') : InvFl s' := by
  intro r hw hp
  cases h with
  | fatal | stepFatalAll => cases lookup_failAll_eq hp
  | done hl =>
    obtain ⟨hne, hp⟩ := (lookup_setRes hp).resolve_right (fun h => nomatch h.2)
    exact (hi r hw hp).deliver hl (by simpa [Msg.terminalFor] using Ne.symm hne) rfl rfl rfl rfl
  | stepFatal hl =>
    obtain ⟨hne, hp⟩ := (lookup_setRes hp).resolve_right (fun h => nomatch h.2)
    exact (hi r hw hp).deliver hl (by simp [Msg.terminalFor, Ne.symm hne]) rfl rfl rfl rfl
  | ignore hl hm =>
    exact (hi r hw hp).deliver hl (Msg.not_terminalFor_of_ignored hm r) rfl rfl rfl rfl
  | _ =>
    -- `readDone`, `read`: the head of `s2c` becomes the message the loop holds (a sticky item
    -- stays where it is); `again`, `exit`: a loop at `check` holds no message
    have f := hi r hw hp
    unfold InFlight at f ⊢
    simp only [lookup_setT, lookup_delT]
    grind [Msg.terminalFor, Item.msg?, Item.sticky]

theorem invFl_step {s s' : State} {l : Label} (hi : InvFl s) (ho : InvO s) (hg : InvG s)
    (h : Step s l s') : InvFl s' := by
  rcases h.inv with h | h | h | h | h | h
  · exact invFl_rs hg h
  · exact invFl_caller hi ho hg h
  · exact invFl_loop hi h
  · exact invFl_writer hi h
  · exact invFl_closer hi h
  · exact invFl_env hi h

theorem invFl_of_reachableH {s : State} (h : ReachableH s) : InvFl s := by
  induction h with
  | init => intro r hw; obtain ⟨c, k, hk, _⟩ := hw; simp [init] at hk
  | step hr hs hh ih =>
    exact invFl_step ih (invO_of_reachable hr.reachable) (invG_of_reachableH hr) hs

/- Scope of `C06_no_stuck` (and of `C06_measure_decreases` as a termination argument): the obliged
   step may be `sRecv`, which the model enables whenever `c2s` is non-empty.  The model takes this
   for granted: ASSUMPTION E of Model/AtpClient.lean (a write to the server completes without
   waiting for the peer).  The code before e463f25 wrote while holding the client mutex and did not
   meet E against a peer that stops reading while its own output is not consumed (the library's
   server over unbuffered pipes: harness sessions `backpressure-*`).  The current `sendCBOR` takes
   a mutex of its own (facts F9, F9b of Props/C06Facts.lean), so a waiting write blocks only other
   writes and the read loop goes on consuming the peer's output. -/
/-- C06 (3): on a healthy connection an Execute that has sent its work-start and whose entry is
    still pending is never left alone: some step that the system itself owes (the read loop's next
    step, the server reading its input, the server's answer to an accepted work-start, or the
    server ending its output after client-done) is enabled.  No lost wake-up, no silent wait. -/
theorem C06_no_stuck {s : State} (hr : ReachableH s)
    (hw : ∃ c k, s.callers.lookup c = some k ∧ (k.pc = .sent ∨ k.pc = .waiting) ∧
      s.entries.lookup k.run = some .pending) :
    ∃ l s', Step s l s' ∧ healthy s l = true ∧ l.obliged = true := by
  obtain ⟨c, k, hk, hpc, hp⟩ := hw
  have hR := hr.reachable
  have hap := anyPending_of_lookup hp
  obtain ⟨t, pc, hL⟩ := C06_pending_has_loop hR hap
  have hl : s.loops.lookup t = some pc := by rw [hL, lookup_cons']; simp
  -- it is enough to name a step that is healthy and owed
  have owe {l : Label} {s' : State} (h : Step s l s') (hh : healthy s l = true := by rfl)
      (ho : l.obliged = true := by rfl) :
      ∃ l s', Step s l s' ∧ healthy s l = true ∧ l.obliged = true := ⟨l, s', h, hh, ho⟩
  cases pc with
  | exiting => exact absurd hl (C06_no_exiting hR t)
  | handle om =>
    obtain ⟨s', h⟩ := LoopStep.deliver hl
    exact owe h.step
  | check => exact owe (LoopStep.again hl hap).step
  | decode =>
    cases hs : s.s2c with
    | cons it rest =>
      by_cases hd : ∃ r x, it = .msg (.workDone r (some x))
      · obtain ⟨r, x, rfl⟩ := hd; exact owe (LoopStep.readDone hl hs).step
      · exact owe (LoopStep.read hl hs fun r x e => hd ⟨r, x, e⟩).step
    | nil =>
      cases hc : s.c2s with
      | cons m rest => exact owe (EnvStep.recv hc).step
      | nil =>
        -- both streams are empty: what is in flight is a run the server owes or its end of output
        have hend : s.srv.ended = false := by
          cases he : s.srv.ended with
          | false => rfl
          | true =>
            obtain ⟨it, hit, _⟩ := invE_of_reachable hR he
            rw [hs] at hit; cases hit
        -- the output `0` is an arbitrary witness
        have answer {r} (hr : r ∈ s.srv.owed) :=
          owe (EnvStep.done (r := r) (x := some 0) hend (by simp [srvMay, hr])).step
        have hfl := invFl_of_reachableH hr k.run ⟨c, k, hk, rfl, hpc⟩ hp
        unfold InFlight at hfl
        rw [hs, hc, hL] at hfl
        rcases hfl with h | h | ⟨m, h, _⟩ | ⟨t', m, h, _⟩ | h | h | ⟨it, h, _⟩
        · cases h
        · exact answer h
        · cases h
        · rw [lookup_cons'] at h; split at h <;> cases h
        · cases h
        · cases ho : s.srv.owed with
          | nil => exact owe (EnvStep.end hend h ho).step
          | cons r' rest => exact answer (r := r') (by rw [ho]; simp)
        · cases h

/- non-vacuity: a concrete instance of the hypotheses of `C06_no_stuck` -/
example : (runH init trWaiting).isSome = true := by decide +kernel
example : ReachableH (stateAtH trWaiting) ∧
    ∃ c k, (stateAtH trWaiting).callers.lookup c = some k ∧ (k.pc = .sent ∨ k.pc = .waiting) ∧
      (stateAtH trWaiting).entries.lookup k.run = some .pending :=
  ⟨reachableH_stateAtH _, 1, ⟨1, false, false, .waiting⟩, by decide +kernel, Or.inr rfl, by decide +kernel⟩

/-- the callers recorded as returned are distinct and have finished -/
structure InvR (s : State) : Prop where
  nd : s.retd.Nodup
  fin : ∀ c ∈ s.retd, ∃ k, s.callers.lookup c = some k ∧ k.pc = .finished

theorem InvR.move {s : State} (hi : InvR s) {c : Tid} {k k' : Caller} {retd : List Tid}
    (hk : s.callers.lookup c = some k) (hr : ∀ c' ∈ retd, c' ∈ s.retd ∨ c' = c)
    (hk' : c ∈ retd → k'.pc = .finished) :
    ∀ c' ∈ retd, ∃ k1, (setT s.callers c k').lookup c' = some k1 ∧ k1.pc = .finished := by
  intro c' hc'
  by_cases hcc : c' = c
  · subst hcc; exact ⟨k', by rw [lookup_setT_self, hk]; rfl, hk' hc'⟩
  · obtain ⟨k1, hk1, hf⟩ := hi.fin c' ((hr c' hc').resolve_right hcc)
    exact ⟨k1, by rw [lookup_setT_ne _ _ hcc]; exact hk1, hf⟩

theorem invR_caller {s s' : State} {l : Label} (hi : InvR s) (h : CallerStep s l s') : InvR s' := by
  have notRet {c k} (hk : s.callers.lookup c = some k) (hne : k.pc ≠ .finished) : c ∉ s.retd :=
    fun hc => by obtain ⟨k', hk', hf⟩ := hi.fin c hc; rw [hk] at hk'; cases hk'; exact hne hf
  cases h with
  | call hf =>
    refine ⟨hi.nd, fun c' hc' => ?_⟩
    obtain ⟨k, hk, hf⟩ := hi.fin c' hc'
    exact ⟨k, by simp [List.lookup_append, hk], hf⟩
  | @ret c k _ hk hpc =>
    have hne : k.pc ≠ .finished := fun e => by rw [hpc] at e; cases e
    exact ⟨nodup_append_single.2 ⟨hi.nd, notRet hk hne⟩,
      hi.move hk (fun c' hc' => by simpa using hc') (fun _ => rfl)⟩
  | _ =>
    -- no other branch touches `retd`, and the caller that moves is not in it: every one of these
    -- branches is guarded by a position of `k` other than `finished`
    refine ⟨hi.nd, hi.move ‹s.callers.lookup _ = some _› (fun _ h => .inl h)
      (fun hc => absurd hc (notRet ‹s.callers.lookup _ = some _› ?_))⟩
    intro e; simp only [e, reduceCtorEq, or_false] at *

theorem invR_step {s s' : State} {l : Label} (hi : InvR s) (h : Step s l s') : InvR s' := by
  rcases h.inv with h | h | h | h | h | h
  · cases h <;> exact { hi with }
  · exact invR_caller hi h
  all_goals cases h <;> exact { hi with }

theorem invR_of_reachable {s : State} (h : Reachable s) : InvR s := by
  induction h with
  | init => exact ⟨by simp [init], by simp [init]⟩
  | step _ hs ih => exact invR_step ih hs

/-- C06 (4a): an Execute returns to its caller at most once -/
theorem C06_once {s : State} (h : Reachable s) : s.retd.Nodup := (invR_of_reachable h).nd

/- non-vacuity: a concrete instance of the hypotheses of `C06_once` -/
example : Reachable (stateAt repairedTrace) ∧ (stateAt repairedTrace).retd = [2] :=
  ⟨reachable_stateAt _, by decide +kernel⟩

/-- Where a success result in the table comes from: it was there before, or the read loop has just
    delivered a work-done message for exactly that run with exactly that output.  Callers only add
    pending entries and remove entries; every other write of the loop stores an error. -/
theorem ok_entry_origin {s s' : State} {l : Label} {r : Run} {x : Nat} (h : Step s l s')
    (h1 : s'.entries.lookup r = some (.result (.ok x))) :
    s.entries.lookup r = some (.result (.ok x)) ∨
    ∃ t, l = .lDeliver t ∧ s.loops.lookup t = some (.handle (some (.workDone r (some x)))) := by
  rcases h.inv with h | h | h | h | h | h
  · cases h <;> exact .inl h1
  · cases h with
    | register | registerLoop => exact .inl (lookup_of_append_pending h1)
    | abandon | take => exact .inl (lookup_of_delT h1)
    | _ => exact .inl h1
  · cases h with
    | @done t _ x' hl =>
      rcases lookup_setRes h1 with h | ⟨rfl, hx⟩
      · exact .inl h.2
      · cases x' <;> cases hx; exact .inr ⟨t, rfl, hl⟩
    | fatal | stepFatalAll => cases lookup_failAll_eq h1
    | stepFatal => exact .inl ((lookup_setRes h1).resolve_right (fun h => nomatch h.2)).2
    | _ => exact .inl h1
  all_goals cases h <;> exact .inl h1

/-- C06 (4b): a success result in the table was put there by the read loop delivering a work-done
    message for exactly that run with exactly that output. -/
theorem C06_set_from_same_run {s s' : State} {l : Label} {r : Run} {x : Nat} (h : Step s l s')
    (h1 : s'.entries.lookup r = some (.result (.ok x)))
    (h0 : s.entries.lookup r ≠ some (.result (.ok x))) :
    ∃ t, l = .lDeliver t ∧ s.loops.lookup t = some (.handle (some (.workDone r (some x)))) :=
  (ok_entry_origin h h1).resolve_left h0

/- non-vacuity: a concrete instance of the hypotheses of `C06_set_from_same_run` -/
example : Step (stateAt (repairedTrace.take 12)) (.lDeliver 10) (stateAt (repairedTrace.take 13)) ∧
    (stateAt (repairedTrace.take 13)).entries.lookup 1 = some (.result (.ok 7)) ∧
    (stateAt (repairedTrace.take 12)).entries.lookup 1 ≠ some (.result (.ok 7)) := by decide +kernel

/-- C06 (4c): `cTake` hands the caller exactly the result stored under its own run ID and removes
    the entry. -/
theorem C06_take_is_entry {s s' : State} {c : Tid} {k : Caller} {v : Res} (h : Step s (.cTake c) s')
    (hk : s.callers.lookup c = some k) (he : s.entries.lookup k.run = some (.result v)) :
    ∃ k', s'.callers.lookup c = some k' ∧ k'.pc = .returned v ∧ k'.run = k.run ∧
      s'.entries.lookup k.run = none := by
  simp only [Step, step?, stepG, Label.owner, stepCaller, hk, he] at h
  split at h
  · cases h
    exact ⟨{ k with pc := .returned v }, by simp only [lookup_setT_self, hk]; rfl, rfl, rfl,
      lookup_delT_self _ _⟩
  · cases h

/- non-vacuity: a concrete instance of the hypotheses of `C06_take_is_entry` -/
example : Step (stateAt (repairedTrace.take 13)) (.cTake 1) (stateAt (repairedTrace.take 14)) ∧
    (stateAt (repairedTrace.take 13)).callers.lookup 1 = some ⟨1, false, false, .sent⟩ ∧
    (stateAt (repairedTrace.take 13)).entries.lookup 1 = some (.result (.ok 7)) := by decide +kernel

/-! ### (5) the measure

  Each thread position has a weight; the docstring of `mu` below lists the inequalities between
  weights that steps creating something rely on.  The values not named there only have to fall
  along the order of the positions of their thread. -/

def CPc.w : CPc → Nat
  | .start true => 34
  | .start false => 30
  | .registered => 20
  | .sendFailed => 8
  | .sent => 6
  | .waiting => 5
  | .sentV1 => 5
  | .returned _ => 2
  | .finished => 0

def Caller.w (k : Caller) : Nat := k.pc.w

def LPc.w : LPc → Nat
  | .handle none => 1
  | .decode => 2
  | .check => 3
  | .handle (some _) => 4
  | .exiting => 0

def WPc.w : WPc → Nat
  | .init => 3
  | .select => 2
  | .have _ => 10

def ClPc.w : ClPc → Nat
  | .idle => 0
  | .called => 20
  | .cancelled => 19
  | .marked => 18
  | .sentDone => 11
  | .failed => 11
  | .returned _ => 0

def RsPc.w : RsPc → Nat
  | .idle => 0
  | .called => 20
  | .sentNil => 12
  | .returned _ => 2
  | .finished => 0

def sumW {β : Type} (f : β → Nat) : List (Nat × β) → Nat
  | [] => 0
  | p :: ps => f p.2 + sumW f ps

/-- A step that is not an input pays for what it creates, so the weights satisfy:
    `start true` 34 > `start false` 30 + a writer at `init` 3 (`cSpawnW`);
    `start false` 30 > `registered` 20 + a loop at `decode` 2 (`cRegister`);
    `registered` 20 > `sent` 6 + a `c2s` item 6 (`cSend`), and likewise for the other senders:
    a writer's `have` 10 > `select` 2 + 6, `Close`'s `marked` 18 > `sentDone` 11 + 6, ReadSchema's
    `called` 20 > `sentNil` 12 + 6;
    a `c2s` item 6 > an owed run 5 > an `s2c` item 4 > `handle (some _)` 4 - `decode` 2
    (`sRecv`, `sSend`, `lRead`); the server's output not yet ended 5 > the `eof` item 4 (`sEnd`);
    `handle none` 1 < `decode` 2, because `lRead` of a sticky item leaves it in the stream. -/
def mu (s : State) : Nat :=
  sumW Caller.w s.callers + sumW LPc.w s.loops + sumW WPc.w s.writers + s.closer.w + s.rs.w +
  4 * s.s2c.length + 6 * s.c2s.length + 5 * s.srv.owed.length + (if s.srv.ended = true then 0 else 5)

section sums
variable {β : Type} (f : β → Nat)

@[simp] theorem sumW_nil : sumW f ([] : List (Nat × β)) = 0 := rfl
@[simp] theorem sumW_cons (p : Nat × β) (ps : List (Nat × β)) : sumW f (p :: ps) = f p.2 + sumW f ps := rfl

theorem sumW_append (l₁ l₂ : List (Nat × β)) : sumW f (l₁ ++ l₂) = sumW f l₁ + sumW f l₂ := by
  induction l₁ with
  | nil => simp
  | cons p ps ih => simp [ih, Nat.add_assoc]

@[simp] theorem sumW_append_single (l : List (Nat × β)) (k : Nat) (v : β) :
    sumW f (l ++ [(k, v)]) = sumW f l + f v := by
  simp [sumW_append]

/-- a thread that moves trades the weight of its old position for that of the new one; one that
    leaves gives its weight up -/
theorem sumW_move {l : List (Nat × β)} {k : Nat} {old : β} (hnd : (keys l).Nodup)
    (hk : l.lookup k = some old) :
    (∀ v, sumW f (setT l k v) = sumW f l - f old + f v) ∧ sumW f (delT l k) = sumW f l - f old ∧
      f old ≤ sumW f l := by
  induction l with
  | nil => cases hk
  | cons p ps ih =>
    obtain ⟨a, b⟩ := p
    simp only [keys_cons, List.nodup_cons] at hnd
    rw [lookup_cons'] at hk
    simp only [setT_cons, delT_cons]
    by_cases h : k = a
    · subst h
      rw [if_pos rfl] at hk; cases hk
      simp only [↓reduceIte, setT_of_not_mem _ hnd.1, delT_of_not_mem hnd.1, sumW_cons]
      exact ⟨fun v => by omega, by omega, by omega⟩
    · have h' : ¬a = k := fun e => h e.symm
      rw [if_neg h] at hk
      obtain ⟨hs, hd, hle⟩ := ih hnd.2 hk
      simp only [h', ↓reduceIte, sumW_cons, hs, hd]
      exact ⟨fun v => by omega, by omega, by omega⟩

end sums

/-- a caller that moves to a lighter position and changes nothing else that `mu` counts -/
theorem mu_lt_of_setCaller {s s' : State} {c k pc'} (hi : InvA s) (hk : s.callers.lookup c = some k)
    (hw : pc'.w < k.pc.w)
    (hmu : mu s' = mu { s with callers := setT s.callers c { k with pc := pc' } }) : mu s' < mu s := by
  obtain ⟨hset, -, hle⟩ := sumW_move Caller.w hi.ndC hk
  rw [hmu]
  simp only [mu, hset, Caller.w] at hle ⊢
  omega

theorem mu_caller {s s' : State} {l : Label} (hi : InvA s) (h : CallerStep s l s')
    (hin : l.isInput = false) : mu s' < mu s := by
  have W {c k} (hk : s.callers.lookup c = some k) := sumW_move Caller.w hi.ndC hk
  cases h with
  | call => cases hin
  | spawn hk hpc | registerLoop hk hpc | send hk hpc | sendV1 hk hpc =>
    obtain ⟨hset, -, hle⟩ := W hk
    simp only [mu, hset, Caller.w, hpc, CPc.w, sumW_append_single, LPc.w, WPc.w,
      List.length_append, List.length_singleton] at hle ⊢
    omega
  | readV1 hk hs hpc =>
    obtain ⟨hset, -, hle⟩ := W hk
    simp only [mu, hset, Caller.w, hpc, CPc.w, hs, List.length_cons] at hle ⊢; omega
  | readV1Bad hk hs hpc =>
    obtain ⟨hset, -, hle⟩ := W hk
    simp only [mu, hset, Caller.w, hpc, CPc.w, hs] at hle ⊢
    split <;> simp only [List.length_cons] <;> omega
  | @reject _ _ b hk hpc => cases b <;> exact mu_lt_of_setCaller hi hk (by simp [hpc, CPc.w]) rfl
  | take hk hpc => rcases hpc with h | h <;> exact mu_lt_of_setCaller hi hk (by simp [h, CPc.w]) rfl
  -- the other steps move the caller and change only what `mu` does not look at
  | _ => exact mu_lt_of_setCaller hi ‹_› (by simp [‹Caller.pc _ = _›, CPc.w]) rfl

/-- the loop that moves is the only one -/
theorem mu_loop {s s' : State} {l : Label} (hi : InvA s) (h : LoopStep s l s') : mu s' < mu s := by
  have one {t pc} (hl : s.loops.lookup t = some pc) := eq_singleton_of_lookup hi.len hl
  cases h with
  | @read _ it _ hl hs =>
    cases it <;> simp [mu, one hl, setT, LPc.w, Item.sticky, Item.msg?, hs] <;> omega
  | fatal hl ho => rcases ho with rfl | ⟨_, _, rfl⟩ <;> simp [mu, one hl, delT, LPc.w]
  | _ => simp [mu, one ‹_›, setT, delT, LPc.w, *] <;> omega

theorem mu_writer {s s' : State} {l : Label} (hi : InvA s) (h : WriterStep s l s')
    (hin : l.isInput = false) : mu s' < mu s := by
  cases h with
  | recvBlank | recv => cases hin
  | _ =>
    obtain ⟨hset, hdel, hle⟩ := sumW_move WPc.w hi.ndW ‹s.writers.lookup _ = some _›
    simp only [mu, hset, hdel, WPc.w, List.length_append, List.length_singleton] at hle ⊢
    omega

theorem mu_rs {s s' : State} {l : Label} (h : RsStep s l s') (hin : l.isInput = false) :
    mu s' < mu s := by
  cases h with
  | call => cases hin
  | _ => simp_all [mu, RsPc.w] <;> (try split) <;> (try simp) <;> omega

theorem mu_closer {s s' : State} {l : Label} (h : CloserStep s l s') (hin : l.isInput = false) :
    mu s' < mu s := by
  cases h with
  | call => cases hin
  | ret _ hc => rcases hc with hc | ⟨hc, _⟩ <;> simp [mu, ClPc.w, hc]
  | _ => simp_all [mu, ClPc.w] <;> omega

theorem mu_env {s s' : State} {l : Label} (h : EnvStep s l s') (hin : l.isInput = false) :
    mu s' < mu s := by
  cases h with
  | @recv m _ hc =>
    have := Srv.recv_owed_length s.srv m
    simp only [mu, hc, Srv.recv_ended, List.length_cons]; omega
  | done he hm =>
    simp only [srvMay, Bool.and_eq_true, List.contains_iff_mem] at hm
    have := List.length_pos_of_mem hm.2
    simp only [mu, he, List.length_append, List.length_singleton, List.length_erase_of_mem hm.2]
    omega
  | stepFatal he hm hr =>
    simp [srvMay, hr] at hm
    have := List.length_pos_of_mem hm
    simp only [mu, he, List.length_append, List.length_singleton, List.length_erase_of_mem hm]
    omega
  | «end» he _ ho => simp [mu, he, ho]; omega
  -- the remaining labels are inputs
  | fatal | put | late => simp [Label.isInput, Msg.isOwedTerminal] at hin
  | other _ _ ho => simp [Label.isInput, ho] at hin

/-- C06 (5): every step that is not a free input of the application or the peer strictly decreases
    the measure `mu`.  Hence, without further inputs, every run is finite; by `C06_no_stuck` it cannot
    stop while an Execute still waits on a healthy connection. -/
theorem C06_measure_decreases {s s' : State} {l : Label} (hr : Reachable s) (h : Step s l s')
    (hin : l.isInput = false) : mu s' < mu s := by
  have hi := invA_of_reachable hr
  rcases h.inv with h | h | h | h | h | h
  · exact mu_rs h hin
  · exact mu_caller hi h hin
  · exact mu_loop hi h
  · exact mu_writer hi h hin
  · exact mu_closer h hin
  · exact mu_env h hin

/- non-vacuity: a concrete instance of the hypotheses of `C06_measure_decreases` -/
example : Reachable (stateAt (repairedTrace.take 12)) ∧
    Step (stateAt (repairedTrace.take 12)) (.lDeliver 10) (stateAt (repairedTrace.take 13)) ∧
    (Label.lDeliver 10).isInput = false ∧
    mu (stateAt (repairedTrace.take 12)) = 15 ∧ mu (stateAt (repairedTrace.take 13)) = 14 :=
  ⟨reachable_stateAt _, by decide +kernel, rfl, by decide +kernel, by decide +kernel⟩

/-- consequence: a run without inputs from a reachable state has at most `mu s` steps -/
theorem C06_progress {s s' : State} {ls : List Label} (hr : Reachable s)
    (hin : ∀ l ∈ ls, l.isInput = false) (hrun : run s ls = some s') :
    ls.length + mu s' ≤ mu s := by
  induction ls generalizing s with
  | nil => simp only [run, runG] at hrun; cases hrun; simp
  | cons l ls ih =>
    obtain ⟨s1, hst, hrun⟩ := runG_cons_inv hrun
    have h1 := C06_measure_decreases hr hst (hin l (by simp))
    have h2 := ih (.step hr hst) (fun l' hl' => hin l' (by simp [hl'])) hrun
    simp only [List.length_cons]
    omega

/- non-vacuity: a concrete instance of the hypotheses of `C06_progress` -/
example : Reachable (stateAt (repairedTrace.take 7)) ∧
    (∀ l ∈ (repairedTrace.drop 7).take 8, l.isInput = false) ∧
    run (stateAt (repairedTrace.take 7)) ((repairedTrace.drop 7).take 8) =
      some (stateAt (repairedTrace.take 15)) :=
  ⟨reachable_stateAt _, by decide +kernel, by decide +kernel⟩

/-- a complete session: one Execute with a signal writer, then Close -/
def trClose : List Label :=
  hs3 ++ [.call 1 1 true false, .cSpawnW 1 20, .cRegister 1 (some 10), .cSend 1 true, .sRecv,
    .sSend (.workDone 1 (some 7)), .lRead 10, .lDeliver 10, .cTake 1, .lCheck 10, .cRet 1 (.ok 7),
    .wCheck 20, .clCall, .clCancel, .clMark, .wCancel 20, .clSend true, .clRet]

/-- C06 (6): `Close` returns normally only when no goroutine of the client remains -/
theorem C06_close {s s' : State} (h : Step s .clRet s') : s.loops = [] ∧ s.writers = [] := by
  rcases h.inv with h | h | h | h | h | h <;> cases h <;> simpa [wgZero] using ‹wgZero s = true›

/- non-vacuity: a concrete instance of the hypotheses of `C06_close` -/
example : (run init trClose).isSome = true := by decide +kernel
example : Step (stateAt (trClose.take 23)) .clRet (stateAt trClose) := by decide +kernel

theorem C06_close_enabled {s : State} (hc : s.closer = .sentDone) (hl : s.loops = [])
    (hw : s.writers = []) : ∃ s', Step s .clRet s' ∧ s'.closer = .returned true :=
  ⟨_, (CloserStep.ret (by simp [wgZero, hl, hw]) (.inl hc)).step, rfl⟩

/- non-vacuity: a concrete instance of the hypotheses of `C06_close_enabled` -/
example : (stateAt (trClose.take 23)).closer = .sentDone ∧ (stateAt (trClose.take 23)).loops = [] ∧
    (stateAt (trClose.take 23)).writers = [] := by decide +kernel

/-- after `cancel()` every signal writer can leave by its own steps (at most two; the labels used,
    `wCheck`, `wCancel`, `wSend _ true`, are healthy in every state) -/
theorem C06_writer_leaves {s : State} {w : Tid} {pc : WPc} (hc : s.cancelled = true)
    (hw : s.writers.lookup w = some pc) :
    ∃ ls s', ls.length ≤ 2 ∧ (∀ l ∈ ls, l.owner = .writer ∧ healthy s l = true) ∧ run s ls = some s' ∧
      s'.writers = delT s.writers w ∧ s'.writers.lookup w = none := by
  -- from `select` the cancelled context lets the writer go; `init` and `have` lead to `select`
  have leave {s1 : State} (h1 : s1.cancelled = true) (h2 : s1.writers.lookup w = some .select) :=
    (WriterStep.cancel h2 h1).step
  have sel : (setT s.writers w WPc.select).lookup w = some .select := by
    rw [lookup_setT_self, hw]; rfl
  cases pc with
  | select =>
    exact ⟨[.wCancel w], _, by simp, by simp [Label.owner, healthy], run_cons (leave hc hw) (run_nil _),
      rfl, lookup_delT_self _ _⟩
  | init =>
    exact ⟨[.wCheck w, .wCancel w], _, by simp, by simp [Label.owner, healthy],
      run_cons (WriterStep.check hw).step (run_cons (leave hc sel) (run_nil _)),
      delT_setT _ _ _, by simp only [delT_setT, lookup_delT_self]⟩
  | «have» r =>
    exact ⟨[.wSend w true, .wCancel w], _, by simp, by simp [Label.owner, healthy],
      run_cons (WriterStep.send hw).step (run_cons (leave hc sel) (run_nil _)),
      delT_setT _ _ _, by simp only [delT_setT, lookup_delT_self]⟩

/- non-vacuity: a concrete instance of the hypotheses of `C06_writer_leaves` -/
example : (stateAt (trClose.take 20)).cancelled = true ∧
    (stateAt (trClose.take 20)).writers.lookup 20 = some .select := by decide +kernel

/-- single-step form: a writer step is enabled and does not add goroutines -/
theorem C06_writer_enabled {s : State} {w : Tid} {pc : WPc} (hc : s.cancelled = true)
    (hw : s.writers.lookup w = some pc) :
    ∃ l s', l.owner = .writer ∧ Step s l s' ∧ s'.writers.length ≤ s.writers.length ∧
      s'.loops = s.loops := by
  obtain ⟨ls, s', _, hown, hrun, _, hnone⟩ := C06_writer_leaves hc hw
  cases ls with
  | nil =>
    simp only [run, runG] at hrun; cases hrun
    rw [hw] at hnone; cases hnone
  | cons l ls =>
    obtain ⟨s1, hst, -⟩ := runG_cons_inv hrun
    have ho := (hown l (by simp)).1
    have h' : WriterStep s l s1 := stepWriter_inv (by simpa only [stepG, ho] using hst)
    refine ⟨l, s1, ho, hst, ?_, ?_⟩ <;> cases h' <;> simp [length_delT_le]

/-- C06 (6): after `Close` has marked the client done no goroutine is ever started: no step adds a
    read loop or a signal writer. -/
theorem C06_no_spawn_after_done {s s' : State} {l : Label} (h : Step s l s') (hd : s.done = true) :
    s'.loops.length ≤ s.loops.length ∧ s'.writers.length ≤ s.writers.length := by
  have le := Nat.le_refl
  rcases h.inv with h | h | h | h | h | h
  · cases h <;> exact ⟨le _, le _⟩
  · -- `cSpawnW` and `cRegister` test `done` in the critical section that would add the thread
    cases h with
    | spawn _ _ hn | registerLoop _ _ _ _ hn => rw [hd] at hn; cases hn
    | _ => exact ⟨le _, le _⟩
  · cases h <;> exact ⟨by simp [length_delT_le], le _⟩
  · cases h <;> exact ⟨le _, by simp [length_delT_le]⟩
  · cases h <;> exact ⟨le _, le _⟩
  · cases h <;> exact ⟨le _, le _⟩

/- non-vacuity: a concrete instance of the hypotheses of `C06_no_spawn_after_done` -/
example : Step (stateAt (trClose.take 21)) (.wCancel 20) (stateAt (trClose.take 22)) ∧
    (stateAt (trClose.take 21)).done = true := by decide +kernel

/-- `Close` has got past marking the client closed -/
def ClPc.begun : ClPc → Bool
  | .idle | .called | .cancelled => false
  | _ => true

/-- `done` is set from `Close`'s position `marked` on, and a `Close` that returned success left
    no read loop and no writer behind -/
structure InvC (s : State) : Prop where
  doneIff : s.done = s.closer.begun
  fin : s.closer = .returned true → s.loops = [] ∧ s.writers = []

theorem invC_step {s s' : State} {l : Label} (hi : InvC s) (h : Step s l s') : InvC s' := by
  -- a step that leaves `closer` and `done` alone starts nothing once `Close` has returned
  have keep (hc : s'.closer = s.closer) (hdn : s'.done = s.done) : InvC s' := by
    refine ⟨by rw [hc, hdn]; exact hi.doneIff, fun hr => ?_⟩
    rw [hc] at hr
    obtain ⟨hl, hw⟩ := hi.fin hr
    obtain ⟨h1, h2⟩ := C06_no_spawn_after_done h (by rw [hi.doneIff, hr]; rfl)
    rw [hl] at h1; rw [hw] at h2
    exact ⟨List.eq_nil_of_length_eq_zero (Nat.le_zero.1 h1),
      List.eq_nil_of_length_eq_zero (Nat.le_zero.1 h2)⟩
  rcases h.inv with h' | h' | h' | h' | h' | h'
  · cases h' <;> exact keep rfl rfl
  · cases h' <;> exact keep rfl rfl
  · cases h' <;> exact keep rfl rfl
  · cases h' <;> exact keep rfl rfl
  · -- `Close` itself: `clMark` sets `done`, and `clRet` returns true only when no thread is left
    have hd := hi.doneIff
    cases h' with
    | markAgain hc hdn => rw [hd, hc] at hdn; cases hdn
    | mark => exact ⟨rfl, nofun⟩
    | ret hw hc =>
      refine ⟨?_, fun _ => by simpa [wgZero] using hw⟩
      rcases hc with hc | ⟨hc, _⟩ <;> rw [hd, hc] <;> rfl
    | _ => exact ⟨by rw [hd, ‹s.closer = _›]; rfl, nofun⟩
  · cases h' <;> exact keep rfl rfl

theorem invC_of_reachable {s : State} (h : Reachable s) : InvC s := by
  induction h with
  | init => constructor <;> simp [init, ClPc.begun]
  | step _ hs ih => exact invC_step ih hs

/-- C06 (6): once `Close` has returned normally, no goroutine of the client exists, now or later
    (for every protocol version). -/
theorem C06_close_final {s : State} (h : Reachable s) (hc : s.closer = .returned true) :
    s.loops = [] ∧ s.writers = [] := (invC_of_reachable h).fin hc

/- non-vacuity: a concrete instance of the hypotheses of `C06_close_final` -/
example : Reachable (stateAt trClose) ∧ (stateAt trClose).closer = .returned true :=
  ⟨reachable_stateAt _, by decide +kernel⟩

/-- `done` is set exactly while `Close` is past its marking step -/
theorem C06_done_iff {s : State} (h : Reachable s) : s.done = s.closer.begun :=
  (invC_of_reachable h).doneIff

#print axioms C06_inv
#print axioms C06_pending_has_loop
#print axioms C06_no_exiting
#print axioms C06_pinned_lost_wakeup
#print axioms C06_pinned_stuck
#print axioms C06_pinned_stuck_loop
#print axioms C06_pinned_stuck_take
#print axioms C06_repaired_rejects
#print axioms C06_no_stuck
#print axioms C06_once
#print axioms C06_set_from_same_run
#print axioms C06_take_is_entry
#print axioms C06_measure_decreases
#print axioms C06_progress
#print axioms C06_close
#print axioms C06_close_enabled
#print axioms C06_writer_leaves
#print axioms C06_writer_enabled
#print axioms C06_no_spawn_after_done
#print axioms C06_close_final
#print axioms C06_done_iff

end Arca.AtpClient
