import ArcaModel.Props.C02
/-
  C03  Object presence rules, defaults and one-of dispatch are enforced as declared.
-/
namespace Arca
open Out

/-- The declared rules of one property against the set of present keys. -/
def RuleHolds (isSet : String → Bool) (id : String) (p : PropT) : Prop :=
  if isSet id then
    ∀ c, c ∈ p.conflicts → isSet c = false
  else
    p.required = false ∧ (∀ r, r ∈ p.requiredIf → isSet r = false) ∧
      (p.requiredIfNot ≠ [] → ∃ r, r ∈ p.requiredIfNot ∧ isSet r = true)

/-- the test `validateFieldInterdependencies` applies to one property -/
def ruleBroken (isSet : String → Bool) (id : String) (p : PropT) : Bool :=
  if isSet id then p.conflicts.any isSet
  else p.required || p.requiredIf.any isSet || (!p.requiredIfNot.isEmpty && !(p.requiredIfNot.any isSet))

theorem interdeps_go_cons (isSet : String → Bool) (id : String) (p : PropT) (rest : List (String × PropT)) :
    interdeps.go isSet ((id, p) :: rest) =
      if ruleBroken isSet id p then .cerrAt [id] else interdeps.go isSet rest := rfl

theorem ruleBroken_eq_false (isSet : String → Bool) (id : String) (p : PropT) :
    ruleBroken isSet id p = false ↔ RuleHolds isSet id p := by
  unfold ruleBroken RuleHolds
  split
  · simp only [List.any_eq_false, Bool.not_eq_true]
  · simp only [Bool.or_eq_false_iff, Bool.and_eq_false_iff, Bool.not_eq_eq_eq_not, Bool.not_false,
      List.any_eq_false, Bool.not_eq_true, List.isEmpty_iff, List.any_eq_true, and_assoc, ne_eq,
      Decidable.or_iff_not_imp_left]

theorem interdeps_go_ok_iff (isSet : String → Bool) : ∀ (props : List (String × PropT)),
    interdeps.go isSet props = .ok () ↔ ∀ np, np ∈ props → RuleHolds isSet np.1 np.2
  | [] => ⟨fun _ _ h => (nomatch h), fun _ => rfl⟩
  | (id, p) :: rest => by
    rw [interdeps_go_cons, List.forall_mem_cons, ← ruleBroken_eq_false, ← interdeps_go_ok_iff isSet rest]
    cases ruleBroken isSet id p
    · exact ⟨fun h => ⟨rfl, h⟩, fun h => h.2⟩
    · exact ⟨nofun, fun h => nomatch h.1⟩

/-- `validateFieldInterdependencies` succeeds exactly when every declared rule holds:
    required, required-if (any listed property present), required-if-not (none of the listed
    present) and conflicts. -/
theorem C03_rules_iff (props : List (String × PropT)) (isSet : String → Bool) :
    interdeps props isSet = .ok () ↔ ∀ np, np ∈ props → RuleHolds isSet np.1 np.2 := by
  unfold interdeps
  exact interdeps_go_ok_iff isSet props

/-- a violated presence rule is reported under the name of the property that declares it -/
theorem interdeps_err {props : List (String × PropT)} {isSet : String → Bool} {e : Err}
    (h : interdeps props isSet = .err e) : ∃ id p, (id, p) ∈ props ∧ ¬ RuleHolds isSet id p ∧ e = ⟨true, [id]⟩ := by
  unfold interdeps at h
  induction props with
  | nil => cases h
  | cons np rest ih =>
    obtain ⟨id, p⟩ := np
    rw [interdeps_go_cons] at h
    cases hb : ruleBroken isSet id p <;> rw [hb] at h
    · obtain ⟨id', p', hm, hr⟩ := ih h
      exact ⟨id', p', List.mem_cons_of_mem _ hm, hr⟩
    · cases h
      exact ⟨id, p, List.mem_cons_self, fun hr => Bool.noConfusion (hb.symm.trans ((ruleBroken_eq_false _ _ _).mpr hr)),
        rfl⟩

/-- A supplied value is never overridden by a default. -/
theorem C03_default_keeps_supplied : ∀ (props : List (String × PropT)) (m m' : List (String × V)) (k : String) (v : V),
    applyDefaults props m = .ok m' → lookupS k m = some v → lookupS k m' = some v
  | [], m, m', k, v, h, hk => by simp [applyDefaults] at h; subst h; exact hk
  | (id, p) :: rest, m, m', k, v, h, hk => by
    simp only [applyDefaults] at h
    split at h
    · exact C03_default_keeps_supplied rest m m' k v h hk
    · split at h
      · exact C03_default_keeps_supplied rest m m' k v h hk
      · simp at h
      · exact C03_default_keeps_supplied rest _ m' k v h (lookupS_append_of_some hk _)

/-- After defaulting, exactly the supplied properties and the declared properties with a default
    are present. -/
theorem C03_default_keys : ∀ (props : List (String × PropT)) (m m' : List (String × V)) (k : String),
    applyDefaults props m = .ok m' →
      (hasKey k m' = true ↔ hasKey k m = true ∨ ∃ p, (k, p) ∈ props ∧ p.defaultV.isSome = true)
  | [], m, m', k, h => by simp [applyDefaults] at h; subst h; simp
  | (id, p) :: rest, m, m', k, h => by
    simp only [applyDefaults] at h
    split at h
    · rename_i hid
      rw [C03_default_keys rest m m' k h]
      constructor
      · rintro (h1 | ⟨q, hq, hd⟩)
        · exact Or.inl h1
        · exact Or.inr ⟨q, List.mem_cons_of_mem _ hq, hd⟩
      · rintro (h1 | ⟨q, hq, hd⟩)
        · exact Or.inl h1
        · rcases List.mem_cons.mp hq with heq | hq
          · cases heq; exact Or.inl hid
          · exact Or.inr ⟨q, hq, hd⟩
    · split at h
      · rename_i hnone
        rw [C03_default_keys rest m m' k h]
        constructor
        · rintro (h1 | ⟨q, hq, hd⟩)
          · exact Or.inl h1
          · exact Or.inr ⟨q, List.mem_cons_of_mem _ hq, hd⟩
        · rintro (h1 | ⟨q, hq, hd⟩)
          · exact Or.inl h1
          · rcases List.mem_cons.mp hq with heq | hq
            · cases heq; simp [hnone] at hd
            · exact Or.inr ⟨q, hq, hd⟩
      · simp at h
      · rename_i d hd
        rw [C03_default_keys rest _ m' k h, hasKey_append]
        constructor
        · rintro (h1 | ⟨q, hq, hdq⟩)
          · simp only [Bool.or_eq_true] at h1
            rcases h1 with h1 | h1
            · exact Or.inl h1
            · right
              refine ⟨p, ?_, by simp [hd]⟩
              simp only [hasKey, lookupS] at h1
              split at h1
              · rename_i hk
                have : k = id := by simpa using hk
                subst this; exact List.mem_cons_self
              · simp at h1
          · exact Or.inr ⟨q, List.mem_cons_of_mem _ hq, hdq⟩
        · rintro (h1 | ⟨q, hq, hdq⟩)
          · left; simp [h1]
          · rcases List.mem_cons.mp hq with heq | hq
            · cases heq; left; simp [hasKey, lookupS]
            · exact Or.inr ⟨q, hq, hdq⟩

/-- A lone non-map value is accepted only as shorthand for the single property of a one-property
    object. -/
theorem C03_shorthand_only_single (x : Ext) (fuel : Nat) (env : Env) (id : String) (props : List (String × PropT))
    (v : V) (hv : v.mapEntries? = none) (hn : props.length ≠ 1) :
    run x (fuel + 1) .U env (.obj id props) v = .cerr := by
  simp only [run, runObj, objRaw, hv]
  split
  · simp at hn
  · simp [Out.bind, cerr]

/-- The shorthand unserializes the value with the single property's type; no key check and no
    defaulting take place, and the presence rules are applied to the one-entry map. -/
theorem C03_shorthand_single (x : Ext) (fuel : Nat) (env : Env) (id name : String) (p : PropT) (v r : V)
    (hv : v.mapEntries? = none) (hd : p.disabled = false) :
    run x (fuel + 1) .U env (.obj id [(name, p)]) v = .ok r ↔
      ∃ pv, run x fuel .U env p.ty v = .ok pv ∧
        RuleHolds (fun k => hasKey k [(name, pv)]) name p ∧ r = toStrAny [(name, pv)] := by
  simp only [run, runObj, objRaw, hv, hd]
  constructor
  · intro h
    obtain ⟨m, h1, h2⟩ := bind_eq_ok h
    obtain ⟨pv, h3, h4⟩ := bind_eq_ok h1
    obtain ⟨_, h5, h6⟩ := bind_eq_ok h2
    simp at h4 h6
    subst h4
    refine ⟨pv, ?_, ?_, h6.symm⟩
    · cases hr : run x fuel .U env p.ty v <;> simp [hr, rewrapP, plain] at h3
      subst h3; rfl
    · exact (C03_rules_iff _ _).mp h5 (name, p) (by simp)
  · intro ⟨pv, h1, h2, h3⟩
    subst h3
    have hi : interdeps [(name, p)] (fun k => hasKey k [(name, pv)]) = .ok () :=
      (C03_rules_iff _ _).mpr (by intro np hnp; simp at hnp; subst hnp; exact h2)
    simp [h1, rewrapP, Out.bind, hi]

theorem any_undeclared_eq_false {α} {props : List (String × PropT)} {skvs : List (String × α)} :
    (skvs.any fun kv => !(hasKey kv.1 props)) = false ↔ ∀ kv, kv ∈ skvs → hasKey kv.1 props = true := by
  simp only [List.any_eq_false, Bool.not_eq_true', Bool.not_eq_false]

theorem objEntryU_ok_iff {rec : Rec} {env : Env} {props : List (String × PropT)} {k : String} {d r : V} :
    objEntryU rec env props k d = .ok r ↔
      ∃ p, lookupS k props = some p ∧ p.disabled = false ∧ rec .U env p.ty d = .ok r := by
  unfold objEntryU
  cases lookupS k props with
  | none => simp [cerr]
  | some p => cases hd : p.disabled <;> simp [cerrAt, addSeg_eq_ok, hd]

theorem objEntry_ok_iff {rec : Rec} {op : Op} {env : Env} {props : List (String × PropT)} {k : String} {e r : V} :
    objEntry rec op env props k e = .ok r ↔ ∃ p, lookupS k props = some p ∧ rec op env p.ty e = .ok r := by
  unfold objEntry
  cases lookupS k props <;> simp [cerr, addSeg_eq_ok]

/-- An object schema accepts a mapping exactly when: all keys are strings and declared; after
    absent properties with a default received it, every present property is accepted by its type
    (a present disabled property is rejected); and every presence rule holds on the result. -/
theorem C03_obj_unser_iff (x : Ext) (fuel : Nat) (env : Env) (id : String) (props : List (String × PropT))
    (sh : MapShape) (kvs : List (V × V)) (r : V) :
    run x (fuel + 1) .U env (.obj id props) (.map sh kvs) = .ok r ↔
      ∃ skvs m m', strKeys? kvs = some skvs ∧ (∀ kv, kv ∈ skvs → hasKey kv.1 props = true) ∧
        applyDefaults props skvs = .ok m ∧ forSV (objEntryU (run x fuel) env props) m = .ok m' ∧
        (∀ np, np ∈ props → RuleHolds (fun k => hasKey k m') np.1 np.2) ∧ r = toStrAny m' := by
  simp only [run, runObj, objRaw, V.mapEntries?]
  constructor
  · intro h
    obtain ⟨m', h1, h2⟩ := bind_eq_ok h
    obtain ⟨_, h3, h4⟩ := bind_eq_ok h2
    cases h4
    split at h1
    · cases h1
    · rename_i skvs hs
      split at h1
      · cases h1
      · rename_i hall
        obtain ⟨m, h5, h6⟩ := bind_eq_ok h1
        exact ⟨skvs, m, m', hs, any_undeclared_eq_false.mp (Bool.not_eq_true _ ▸ hall), h5, h6,
          (C03_rules_iff _ _).mp h3, rfl⟩
  · rintro ⟨skvs, m, m', hs, hall, h5, h6, h7, rfl⟩
    simp only [hs, any_undeclared_eq_false.mpr hall, Bool.false_eq_true, if_false, h5, h6, ok_bind,
      (C03_rules_iff _ _).mpr h7]

/-- Unserializing the present properties neither adds nor removes a key. -/
theorem C03_unser_keeps_keys {rec : Rec} {env : Env} (props : List (String × PropT)) (m m' : List (String × V)) (k : String)
    (h : forSV (objEntryU rec env props) m = .ok m') : hasKey k m' = hasKey k m :=
  hasKey_eq_of_keys (allSV_keys (forSV_ok_iff.mp h)) k

/-- A disabled property that is present (supplied or defaulted) makes the object reject. -/
theorem C03_disabled_rejected {rec : Rec} {env : Env} (props : List (String × PropT)) (m : List (String × V))
    (id : String) (p : PropT) (d : V) (hl : lookupS id props = some p) (hd : p.disabled = true)
    (hm : (id, d) ∈ m) : ¬ ∃ m', forSV (objEntryU rec env props) m = .ok m' := by
  intro ⟨m', h⟩
  obtain ⟨_, hf⟩ := (forSV_ok_iff.mp h).of_mem_left _ hm
  obtain ⟨p', hl', hd', _⟩ := objEntryU_ok_iff.mp hf
  cases hl.symm.trans hl'
  rw [hd] at hd'
  cases hd'

theorem allSV_objEntry_mem {rec : Rec} {op : Op} {env : Env} {props : List (String × PropT)}
    {m m' : List (String × V)} (hall : AllSV (objEntry rec op env props) m m') :
    ∀ kv, kv ∈ m → ∃ p, lookupS kv.1 props = some p ∧ ∃ r, rec op env p.ty kv.2 = .ok r := by
  intro kv hkv
  obtain ⟨r, hf⟩ := hall.of_mem_left kv hkv
  obtain ⟨p, hp, hr⟩ := objEntry_ok_iff.mp hf
  exact ⟨p, hp, r, hr⟩

/-- Validate of a native object value (a `map[string]any`) applies the same key, type and
    presence rules: the presence rules hold on its keys, every key is declared, and every value
    validates against its property's type. -/
theorem C03_obj_valid_iff (x : Ext) (fuel : Nat) (env : Env) (id : String) (props : List (String × PropT))
    (m : List (String × V)) :
    run x (fuel + 1) .V env (.obj id props) (toStrAny m) = done ↔
      (∀ np, np ∈ props → RuleHolds (fun k => hasKey k m) np.1 np.2) ∧
      (∀ kv, kv ∈ m → ∃ p, lookupS kv.1 props = some p ∧ ∃ r, run x fuel .V env p.ty kv.2 = .ok r) := by
  simp only [run, runObj, toStrAny, MapShape.strAny, strKeys_toStrAny]
  constructor
  · intro h
    obtain ⟨_, h1, h2⟩ := bind_eq_ok h
    obtain ⟨m', h3, _⟩ := bind_eq_ok h2
    refine ⟨(C03_rules_iff _ _).mp h1, ?_⟩
    exact allSV_objEntry_mem (forSV_ok_iff.mp h3)
  · intro ⟨h1, h2⟩
    rw [(C03_rules_iff _ _).mpr h1]
    simp only [Out.bind]
    have : ∃ m', forSV (objEntry (run x fuel) .V env props) m = .ok m' := by
      clear h1
      induction m with
      | nil => exact ⟨[], by simp [forSV]⟩
      | cons kv rest ih =>
        obtain ⟨k, v⟩ := kv
        obtain ⟨p, hp, r, hr⟩ := h2 (k, v) (by simp)
        obtain ⟨rest', hrest⟩ := ih (fun kv hkv => h2 kv (List.mem_cons_of_mem _ hkv))
        refine ⟨(k, r) :: rest', ?_⟩
        simp only at hp hr
        simp [forSV, objEntry, hp, hr, addSeg, hrest]
    obtain ⟨m', hm'⟩ := this
    rw [hm']
    simp [done]

/-- the discriminator value converted with the key type's lenient mapper -/
def DiscDenotes (x : Ext) (intKey : Bool) (d : V) (key : Key) : Prop :=
  if intKey then ∃ n, IntDenotes none d n ∧ key = Key.i n else ∃ s, StrDenotes x d s ∧ key = Key.s s

theorem typedDisc_ok_iff (x : Ext) (intKey : Bool) (d : V) (key : Key) :
    (if intKey = true then (rewrapC (intInputMapper none d)).bind fun n => Out.ok (Key.i n)
      else (rewrapC (stringInputMapper x d)).bind fun s => Out.ok (Key.s s)) = .ok key ↔
    DiscDenotes x intKey d key := by
  unfold DiscDenotes
  cases intKey
  · rw [if_neg Bool.false_ne_true, if_neg Bool.false_ne_true]
    constructor
    · intro h
      obtain ⟨s, h1, h2⟩ := bind_eq_ok h
      cases h2
      exact ⟨s, (stringInputMapper_ok_iff _ _ _).mp (rewrapC_eq_ok.mp h1), rfl⟩
    · rintro ⟨s, hs, rfl⟩
      rw [(stringInputMapper_ok_iff _ _ _).mpr hs]; rfl
  · rw [if_pos rfl, if_pos rfl]
    constructor
    · intro h
      obtain ⟨n, h1, h2⟩ := bind_eq_ok h
      cases h2
      exact ⟨n, (intInputMapper_ok_iff _ _ _).mp (rewrapC_eq_ok.mp h1), rfl⟩
    · rintro ⟨n, hn, rfl⟩
      rw [(intInputMapper_ok_iff _ _ _).mpr hn]; rfl

theorem discDenotes_det {x : Ext} {ik : Bool} {d : V} {k1 k2 : Key} (h1 : DiscDenotes x ik d k1)
    (h2 : DiscDenotes x ik d k2) : k1 = k2 :=
  Out.ok.inj (((typedDisc_ok_iff x ik d k1).mpr h1).symm.trans ((typedDisc_ok_iff x ik d k2).mpr h2))

theorem typedDisc_total (x : Ext) (intKey : Bool) (d : V) :
    (∃ key, (if intKey = true then (rewrapC (intInputMapper none d)).bind fun n => Out.ok (Key.i n)
      else (rewrapC (stringInputMapper x d)).bind fun s => Out.ok (Key.s s)) = .ok key) ∨
    (if intKey = true then (rewrapC (intInputMapper none d)).bind fun n => Out.ok (Key.i n)
      else (rewrapC (stringInputMapper x d)).bind fun s => Out.ok (Key.s s)) = .cerr := by
  cases intKey
  · rcases stringInputMapper_total x d with ⟨s, h⟩ | h <;> rw [if_neg Bool.false_ne_true, h]
    · exact .inl ⟨_, rfl⟩
    · exact .inr rfl
  · rcases intInputMapper_total none d with ⟨n, h⟩ | h <;> rw [if_pos rfl, h]
    · exact .inl ⟨_, rfl⟩
    · exact .inr rfl

/-- `OneOfRoute x intKey disc members v key m mt`: Unserialize of a one-of hands the raw value `v` to the
    member `mt`: `v` is a map whose key type admits strings, it has the discriminator, the
    discriminator denotes (under the key type's lenient mapper) the key of the declared member `mt`, and
    all keys are strings (`m`). -/
inductive OneOfRoute (x : Ext) (intKey : Bool) (disc : String) (members : List (Key × Ty)) :
    V → Key → List (String × V) → Ty → Prop
  | mk {sh kvs dk d key m mt} : (sh.key = .any ∨ sh.key = .string) → kvs.find? (isDiscKey disc) = some (dk, d) →
      DiscDenotes x intKey d key → strKeys? kvs = some m → lookupK key members = some mt →
      OneOfRoute x intKey disc members (.map sh kvs) key m mt

/-- what a one-of does with the selected member's result under Unserialize: a property map gets the
    converted discriminator attached -/
def attachDisc (disc : String) (key : Key) (r : V) : Out V :=
  match r with
  | .map ⟨.string, true⟩ rk =>
    match strKeys? rk with
    | some rm => .ok (toStrAny (setKey disc key.toV rm))
    | none => .cerr
  | _ => .ok r

theorem attachDisc_toStrAny (disc : String) (key : Key) (rm : List (String × V)) :
    attachDisc disc key (toStrAny rm) = .ok (toStrAny (setKey disc key.toV rm)) := by
  simp only [attachDisc, toStrAny, MapShape.strAny, strKeys_toStrAny]

theorem not_strKeyed_iff {k : KeyTy} : (!(k == .any || k == .string)) = true ↔ ¬ (k = .any ∨ k = .string) := by
  cases k <;> decide

/-- a routed value is unserialized by the selected member, which sees the map with the discriminator
    removed unless the one-of is inlined -/
theorem oneOfUnser_routed {rec : Rec} {x : Ext} {env : Env} {ik : Bool} {disc : String} {inl : Bool}
    {ms : List (Key × Ty)} {v : V} {key : Key} {m : List (String × V)} {mt : Ty} (h : OneOfRoute x ik disc ms v key m mt) :
    oneOfUnser rec x env ik disc inl ms v =
      (rec .U env mt (toStrAny (if inl then m else eraseKey disc m))).bind (attachDisc disc key) := by
  obtain @⟨sh, _, _, d, _, _, _, hsh, hfind, hkey, hm, hmt⟩ := h
  have hsh' : ¬ (!(sh.key == .any || sh.key == .string)) = true := fun h => not_strKeyed_iff.mp h hsh
  simp only [oneOfUnser, V.mapEntries?, if_neg hsh', hfind, (typedDisc_ok_iff x ik _ key).mpr hkey, ok_bind, hm, hmt]
  rfl

/-- a value that is not routed is rejected by the one-of itself -/
theorem oneOfUnser_unrouted {rec : Rec} {x : Ext} {env : Env} {ik : Bool} {disc : String} {inl : Bool}
    {ms : List (Key × Ty)} {v : V} (hno : ∀ key m mt, ¬ OneOfRoute x ik disc ms v key m mt) :
    oneOfUnser rec x env ik disc inl ms v = .cerr ∨ (v = .nil ∧ oneOfUnser rec x env ik disc inl ms v = .plain) := by
  unfold oneOfUnser
  split
  · exact .inr ⟨rfl, rfl⟩
  split
  · exact .inl rfl
  rename_i sh kvs hv
  split
  · exact .inl rfl
  rename_i hsh
  split
  · exact .inl rfl
  rename_i dk d hfind
  rcases typedDisc_total x ik d with ⟨key, hk⟩ | hk <;> rw [hk]
  · rw [ok_bind]
    split
    · exact .inl rfl
    rename_i m hm
    split
    · exact .inl rfl
    rename_i mt hmt
    exact (hno key m mt (mapEntries_eq hv ▸ .mk (Classical.not_not.mp fun h => hsh (not_strKeyed_iff.mpr h)) hfind
      ((typedDisc_ok_iff _ _ _ _).mp hk) hm hmt)).elim
  · exact .inl rfl

theorem oneOfUnser_ok_iff {rec : Rec} {x : Ext} {env : Env} {ik : Bool} {disc : String} {inl : Bool}
    {ms : List (Key × Ty)} {v r : V} :
    oneOfUnser rec x env ik disc inl ms v = .ok r ↔
      ∃ key m mt mr, OneOfRoute x ik disc ms v key m mt ∧
        rec .U env mt (toStrAny (if inl then m else eraseKey disc m)) = .ok mr ∧ attachDisc disc key mr = .ok r := by
  constructor
  · intro h
    by_cases hr : ∃ key m mt, OneOfRoute x ik disc ms v key m mt
    · obtain ⟨key, m, mt, hr⟩ := hr
      rw [oneOfUnser_routed hr] at h
      obtain ⟨mr, hmr, h⟩ := bind_eq_ok h
      exact ⟨key, m, mt, mr, hr, hmr, h⟩
    · rcases oneOfUnser_unrouted (fun key m mt h => hr ⟨key, m, mt, h⟩) with h' | ⟨_, h'⟩ <;> rw [h'] at h <;> cases h
  · rintro ⟨key, m, mt, mr, hr, hmr, h⟩
    rw [oneOfUnser_routed hr, hmr]
    exact h

/-- ROUTING (soundness). If a one-of accepts a map, then: the map's key type admits strings, it
    has the discriminator, the discriminator denotes (under the key type's lenient mapper) the key
    of a declared member, all keys are strings, and THAT member accepted the map - with the
    discriminator passed on iff the one-of is inlined, stripped otherwise. -/
theorem C03_oneof_routes (x : Ext) (fuel : Nat) (env : Env) (intKey : Bool) (disc : String) (inlined : Bool)
    (members : List (Key × Ty)) (sh : MapShape) (kvs : List (V × V)) (r : V)
    (h : run x (fuel + 1) .U env (.oneOf intKey disc inlined members) (.map sh kvs) = .ok r) :
      (sh.key = .any ∨ sh.key = .string) ∧
      ∃ dk d key m mt mr,
        kvs.find? (isDiscKey disc) = some (dk, d) ∧
        DiscDenotes x intKey d key ∧
        strKeys? kvs = some m ∧ lookupK key members = some mt ∧
        run x fuel .U env mt (toStrAny (if inlined then m else eraseKey disc m)) = .ok mr := by
  replace h : oneOfUnser (run x fuel) x env intKey disc inlined members (.map sh kvs) = .ok r := h
  obtain ⟨key, m, mt, mr, ⟨hsh, hfind, hkey, hm, hmt⟩, hmr, _⟩ := oneOfUnser_ok_iff.mp h
  exact ⟨hsh, _, _, key, m, mt, mr, hfind, hkey, hm, hmt, hmr⟩

/-- ROUTING (completeness) and result. Conversely, when the routing conditions hold and the
    selected member accepts with the property map `rm`, the one-of accepts, and its result is the
    member's result with the CONVERTED discriminator attached. -/
theorem C03_oneof_accepts (x : Ext) (fuel : Nat) (env : Env) (intKey : Bool) (disc : String) (inlined : Bool)
    (members : List (Key × Ty)) (sh : MapShape) (kvs : List (V × V))
    (dk d : V) (key : Key) (m rm : List (String × V)) (mt : Ty)
    (hsh : sh.key = .any ∨ sh.key = .string)
    (hfind : kvs.find? (isDiscKey disc) = some (dk, d))
    (hkey : DiscDenotes x intKey d key) (hm : strKeys? kvs = some m) (hmt : lookupK key members = some mt)
    (hmr : run x fuel .U env mt (toStrAny (if inlined then m else eraseKey disc m)) = .ok (toStrAny rm)) :
    run x (fuel + 1) .U env (.oneOf intKey disc inlined members) (.map sh kvs) =
      .ok (toStrAny (setKey disc key.toV rm)) :=
  (oneOfUnser_routed (.mk hsh hfind hkey hm hmt)).trans (by rw [hmr]; exact attachDisc_toStrAny disc key rm)

#print axioms C03_rules_iff
#print axioms C03_default_keys
#print axioms C03_shorthand_single
#print axioms C03_obj_unser_iff
#print axioms C03_obj_valid_iff
#print axioms C03_oneof_routes
#print axioms C03_oneof_accepts

end Arca
