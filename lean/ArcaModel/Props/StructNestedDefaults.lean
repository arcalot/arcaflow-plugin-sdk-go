import ArcaModel.Lemmas.StructRoundTrip
import ArcaModel.Lemmas.ValueDecEq
/-
  Defaults of nested sub-objects of a struct-mapped object (`applySubObjectDefaultValues` /
  `expandSubObjectDefaultValues`, model: `subDefS`, `applyDefaultsS`): the two facts the
  `nested-defaults` family of the `structmodel` stream tests, as theorems.

  (T1) absent stays absent: a block with no declared default, whose sub-object declares no default
       anywhere below, is not created by the expansion - for every field table - and the presence
       rules of the parent see it as not set (`C03_struct_absent_block_stays_absent`, `_rules`).
  (T2) each level consults its own field table: whether a property of a nested sub-object is left
       nil is decided by the field table of the struct that owns it; the outer struct type enters
       the expansion of a nested object only through the pointer-ness of the OUTER object's own
       properties (`C01_struct_nested_defaults_outer_irrelevant`), and a property the inner struct
       maps to a plain field gets its defaults whatever the outer struct does with a property of the
       same name (`C01_struct_nested_defaults_own_fields`).
-/
namespace Arca
namespace SM

def noDefTyB : Nat → Ty → Bool
  | 0, _ => false
  | n + 1, .obj _ props => props.all fun kp => kp.2.default.isNone && noDefTyB n kp.2.ty
  | _ + 1, _ => true

/-- no property below the schema declares a default, as far as `applySubObjectDefaultValues` looks:
    through objects (struct-mapped and map-backed), not through scopes, lists, maps, one-ofs -/
def noDefB : Nat → STy → Bool
  | 0, _ => false
  | n + 1, .leaf t => noDefTyB (n + 1) t
  | n + 1, .obj _ _ _ props => props.all fun kp => kp.2.rules.default.isNone && noDefB n kp.2.ty
  | _ + 1, _ => true

theorem defaultV_none {p : PropT} (h : p.default = none) : p.defaultV = none := by
  simp [PropT.defaultV, h]

theorem defaultsOf_nil : ∀ (ps : List (String × PropT)), (∀ kp, kp ∈ ps → kp.2.default = none) → defaultsOf ps = .ok []
  | [], _ => rfl
  | (k, p) :: rest, h => by
    simp only [defaultsOf, defaultV_none (h (k, p) (List.mem_cons_self ..))]
    exact defaultsOf_nil rest (fun kp hkp => h kp (List.mem_cons_of_mem _ hkp))

theorem subDefProps_nil {α} (rec : String → α → Option V → Out (Option V)) :
    ∀ (ps : List (String × α)), (∀ kp, kp ∈ ps → rec kp.1 kp.2 none = .ok none) → subDefProps rec ps [] = .ok []
  | [], _ => rfl
  | (k, p) :: rest, h => by
    have h1 := h (k, p) (List.mem_cons_self ..)
    simp only [] at h1
    simp only [subDefProps, lookupS, h1, Out.bind]
    exact subDefProps_nil rec rest (fun kp hkp => h kp (List.mem_cons_of_mem _ hkp))

theorem subDefTy_absent : ∀ (n : Nat) (t : Ty), noDefTyB n t = true → subDefTy n t none = .ok none
  | 0, _, h => by simp [noDefTyB] at h
  | n + 1, t, h => by
    cases t with
    | obj id props =>
      simp only [noDefTyB, List.all_eq_true, Bool.and_eq_true, Option.isNone_iff_eq_none] at h
      simp only [subDefTy, existingMap, defaultsOf_nil props (fun kp hkp => (h kp hkp).1), Out.bind, overlay]
      rw [subDefProps_nil _ props (fun kp hkp => subDefTy_absent n kp.2.ty (h kp hkp).2)]
      rfl
    | _ => rfl

/-- **Absent stays absent.** When no property below the schema `t` declares a default (`noDefB`),
    the expansion of an absent value of `t` adds nothing: the block stays absent
    (`if len(data) != 0 { rawData[propertyID] = data }`) - whatever struct types the objects below are
    mapped to, pointer fields or not. -/
theorem C03_struct_absent_block_stays_absent : ∀ (n : Nat) (t : STy), noDefB n t = true → subDefS n t none = .ok none
  | 0, _, h => by simp [noDefB] at h
  | n + 1, t, h => by
    cases t with
    | leaf t => simp only [noDefB] at h; simp only [subDefS]; exact subDefTy_absent (n + 1) t h
    | obj id st ptrT props =>
      simp only [noDefB, List.all_eq_true, Bool.and_eq_true, Option.isNone_iff_eq_none] at h
      simp only [subDefS]
      split
      · rfl
      · have hd : defaultsOf (rulesOf props) = .ok [] := by
          apply defaultsOf_nil
          intro kp hkp
          obtain ⟨kp0, hkp0, rfl⟩ := List.mem_map.mp hkp
          exact (h kp0 hkp0).1
        simp only [existingMap, hd, Out.bind, overlay]
        rw [subDefProps_nil _ props (fun kp hkp => by
          split
          · rfl
          · exact C03_struct_absent_block_stays_absent n kp.2.ty (h kp hkp).2)]
        rfl
    | list => rfl
    | map => rfl
    | scope => rfl
    | oneOf => rfl

/-- keys that were absent and have nothing to add stay absent through `convertData`'s default loop -/
theorem applyDefaultsS_stays_absent (st : StructTy) (fuel : Nat) (k : String) :
    ∀ (ps : List (String × SProp)) (m m0 : List (String × V)), applyDefaultsS st fuel ps m = .ok m0 →
      hasKey k m = false → (∀ p, (k, p) ∈ ps → dflStep (fieldSkips st k) fuel p = .ok none) → hasKey k m0 = false
  | ps, m, m0, h, hk, hd => by
    obtain ⟨add, rfl, _, hadd, _⟩ := applyDefaultsS_ok st fuel h
    rw [hasKey_append, hk, Bool.false_or]
    -- an entry added under `k` would be what `dflStep` gives for a property `(k, p)`
    cases hka : hasKey k add with
    | false => rfl
    | true =>
      obtain ⟨v, hv⟩ := hasKey_eq_true_iff.mp hka
      obtain ⟨p, hp, hstep⟩ := hadd (k, v) hv
      rw [hd p hp] at hstep
      cases hstep

/-- what `convertData` does for an absent block without defaults: nothing, for every field table -/
theorem dflStep_absent (skip : Bool) (fuel : Nat) (p : SProp) (hd : p.rules.default = none)
    (hno : noDefB fuel p.ty = true) : dflStep skip fuel p = .ok none := by
  simp only [dflStep, defaultV_none hd]
  split
  · rfl
  · exact C03_struct_absent_block_stays_absent fuel p.ty hno

/-- **... and the presence rules of the parent see the block as not set.** For a struct-mapped parent
    over ANY struct type `st`: if the input map lacks the property `k`, `k` has no declared default
    and nothing below its type declares one, then the converted map - the map whose key set the
    presence rules are checked on (`interdeps … fun k => hasKey k m` in `runObjS`) - lacks `k` too.
    Hence, by `C03_rules_iff`: Unserialize accepts only if `k` is not required and none of its
    `required_if` properties is present, and an absent sibling with `required_if_not: [.., k, ..]`
    only if a listed property other than `k` is present. (Not part of the statement, but immediate
    from `hasKey k m = false` and `RuleHolds`: a sibling with `required_if: [k]` is not required
    because of it, one with `conflicts: [k]` has no conflict with it.) -/
theorem C03_struct_absent_block_stays_absent_rules (rec : SRec) (fuel : Nat) (st : StructTy)
    (props : List (String × SProp)) (mIn : List (String × V)) (m : List (String × SV)) (k : String)
    (hk : hasKey k mIn = false)
    (hp : ∀ p, (k, p) ∈ props → p.rules.default = none ∧ noDefB fuel p.ty = true)
    (h : sobjRaw rec fuel st props (.val (toStrAny mIn)) = .ok m) :
    hasKey k m = false ∧
    (interdeps (rulesOf props) (fun k' => hasKey k' m) = .ok () →
      (∀ p, (k, p) ∈ props → p.rules.required = false ∧ ∀ r, r ∈ p.rules.requiredIf → hasKey r m = false) ∧
      (∀ kp, kp ∈ props → hasKey kp.1 m = false → kp.2.rules.requiredIfNot ≠ [] →
        ∃ r, r ∈ kp.2.rules.requiredIfNot ∧ r ≠ k ∧ hasKey r m = true)) := by
  have hkm : hasKey k m = false := by
    rcases sobjRaw_ok h with ⟨_, _, _, _, hraw, _⟩ | ⟨kvs, skvs, m0, hraw, hs, _, _, hm0, h⟩
    · rw [rawEntries_toStrAny] at hraw; cases hraw
    · rw [rawEntries_toStrAny] at hraw
      cases hraw
      rw [strKeys_toStrAny] at hs
      cases hs
      rw [hasKey_eq_of_keys (forSVS_keys h)]
      exact applyDefaultsS_stays_absent st fuel k props mIn m0 hm0 hk
        (fun p hp' => dflStep_absent _ fuel p (hp p hp').1 (hp p hp').2)
  refine ⟨hkm, fun hi => ⟨?_, ?_⟩⟩
  · intro p hkp
    have := (C03_rules_iff _ _).mp hi (k, p.rules) (List.mem_map.mpr ⟨(k, p), hkp, rfl⟩)
    unfold RuleHolds at this
    simp only [hkm, Bool.false_eq_true, if_false] at this
    exact ⟨this.1, this.2.1⟩
  · intro kp hkp hno hne
    have := (C03_rules_iff _ _).mp hi (kp.1, kp.2.rules) (List.mem_map.mpr ⟨kp, hkp, rfl⟩)
    unfold RuleHolds at this
    simp only [hno, Bool.false_eq_true, if_false] at this
    obtain ⟨r, hr, hset⟩ := this.2.2 hne
    refine ⟨r, hr, ?_, hset⟩
    intro hrk
    subst hrk
    rw [hkm] at hset; cases hset

theorem subDefProps_lookup_other {α} (rec : String → α → Option V → Out (Option V)) (k : String) :
    ∀ (ps : List (String × α)) (d d' : List (String × V)), subDefProps rec ps d = .ok d' →
      k ∉ keysOf ps → lookupS k d' = lookupS k d
  | [], d, d', h, _ => by simp only [subDefProps, Out.ok.injEq] at h; subst h; rfl
  | (k', p) :: rest, d, d', h, hk => by
    simp only [subDefProps] at h
    obtain ⟨o, _, h⟩ := Out.bind_eq_ok h
    simp only [keysOf, List.map_cons, List.mem_cons, not_or] at hk
    rw [subDefProps_lookup_other rec k rest _ d' h hk.2]
    cases o with
    | none => rfl
    | some v => exact (lookupS_setKey ..).trans (if_neg hk.1)

theorem subDefProps_lookup_mem {α} (rec : String → α → Option V → Out (Option V)) (k : String) (p : α) :
    ∀ (ps : List (String × α)) (d d' : List (String × V)), subDefProps rec ps d = .ok d' →
      (keysOf ps).Nodup → (k, p) ∈ ps →
      ∃ o, rec k p (lookupS k d) = .ok o ∧ lookupS k d' = (match o with | some v => some v | none => lookupS k d)
  | [], _, _, _, _, hm => by cases hm
  | (k', p') :: rest, d, d', h, hnd, hm => by
    simp only [subDefProps] at h
    obtain ⟨o, ho, h2⟩ := Out.bind_eq_ok h
    simp only [keysOf, List.map_cons, List.nodup_cons] at hnd
    rcases List.mem_cons.mp hm with e | e
    · have e1 : k = k' := congrArg Prod.fst e
      have e2 : p = p' := congrArg Prod.snd e
      subst e1 e2
      refine ⟨o, ho, ?_⟩
      rw [subDefProps_lookup_other rec k rest _ d' h2 hnd.1]
      cases o with
      | none => rfl
      | some v => exact (lookupS_setKey ..).trans (if_pos rfl)
    · have hne : k ≠ k' := by
        intro e'; subst e'
        exact hnd.1 (List.mem_map.mpr ⟨(k, p), e, rfl⟩)
      cases o with
      | none => exact subDefProps_lookup_mem rec k p rest _ d' h2 hnd.2 e
      | some v =>
        obtain ⟨o2, ho2, hl⟩ := subDefProps_lookup_mem rec k p rest _ d' h2 hnd.2 e
        rw [lookupS_setKey, if_neg hne] at ho2 hl
        exact ⟨o2, ho2, hl⟩

theorem subDefProps_congr {α} {rec rec' : String → α → Option V → Out (Option V)} :
    ∀ (ps : List (String × α)) (d : List (String × V)), (∀ kp, kp ∈ ps → ∀ e, rec kp.1 kp.2 e = rec' kp.1 kp.2 e) →
      subDefProps rec ps d = subDefProps rec' ps d
  | [], _, _ => rfl
  | (k, p) :: rest, d, h => by
    simp only [subDefProps, h (k, p) (List.mem_cons_self ..)]
    congr 1
    funext o
    exact subDefProps_congr rest _ (fun kp hkp => h kp (List.mem_cons_of_mem _ hkp))

/-- **The outer struct type enters the expansion only through the pointer-ness of the OUTER object's
    own properties.** Two struct types that agree on which of the object's properties sit on pointer /
    interface fields give the same expansion - whatever else they contain, and whatever they do with
    the names of properties of the objects BELOW: those are looked up in the field tables of the
    structs that own them (the recursive call `subDefS n p.ty e` does not mention `st`). -/
theorem C01_struct_nested_defaults_outer_irrelevant (n : Nat) (id id' : String) (st st' : StructTy) (ptrT : Bool)
    (props : List (String × SProp)) (ex : Option V)
    (h : ∀ kp, kp ∈ props → fieldSkips st kp.1 = fieldSkips st' kp.1) :
    subDefS n (.obj id st ptrT props) ex = subDefS n (.obj id' st' ptrT props) ex := by
  cases n with
  | zero => rfl
  | succ n =>
    -- the recursive calls over the properties are the same function on the members of `props`
    have hfun : ∀ d, subDefProps (fun k (p : SProp) e => if fieldSkips st k then .ok e else subDefS n p.ty e) props d =
        subDefProps (fun k (p : SProp) e => if fieldSkips st' k then .ok e else subDefS n p.ty e) props d :=
      fun d => subDefProps_congr props d fun kp hkp e => by rw [h kp hkp]
    rw [subDefS, subDefS]
    simp only [hfun]

/-- **A property the inner struct maps to a plain field gets its defaults, whatever the outer struct
    does with a property of the same name.** Let the inner object (over `stI`) map its property `p`
    to a field that is neither a pointer nor an interface (`fieldSkips stI p = false`), and let `p`'s
    sub-object expand to `dv` (given what the inner object's own defaults `defs` say about `p`).
    Then for EVERY outer struct type `stO` - one that maps a property named `p` to a pointer field
    included - and every outer property `box` of the inner object's type on a plain field of `stO`,
    without declared default: what `convertData` stores for an absent `box` (`dflStep`, the step of
    `applyDefaultsS`, see `applyDefaultsS_cons`) is a map that contains `p` with `dv`. -/
theorem C01_struct_nested_defaults_own_fields (n : Nat) (idI : String) (stI : StructTy)
    (propsI : List (String × SProp)) (p : String) (pp : SProp) (defs : List (String × V)) (dv : V)
    (hnd : (keysOf propsI).Nodup) (hp : (p, pp) ∈ propsI) (hplain : fieldSkips stI p = false)
    (hdefs : defaultsOf (rulesOf propsI) = .ok defs)
    (hsub : subDefS n pp.ty (lookupS p (overlay [] defs)) = .ok (some dv))
    (stO : StructTy) (box : String) (pbox : SProp) (hty : pbox.ty = .obj idI stI false propsI)
    (hnodef : pbox.rules.default = none) (hplainO : fieldSkips stO box = false)
    (r : Option V) (hr : dflStep (fieldSkips stO box) (n + 1) pbox = .ok r) :
    ∃ dI, r = some (toStrAny dI) ∧ lookupS p dI = some dv := by
  simp only [dflStep, defaultV_none hnodef, hplainO, Bool.false_eq_true, if_false, hty, subDefS, existingMap,
    hdefs, Out.bind] at hr
  obtain ⟨dI, hdI, hr⟩ := Out.bind_eq_ok hr
  obtain ⟨o, ho, hl⟩ := subDefProps_lookup_mem _ p pp propsI _ dI hdI hnd hp
  simp only [hplain, Bool.false_eq_true, if_false, hsub, Out.ok.injEq] at ho
  subst ho
  simp only [] at hl
  have hne : dI.isEmpty = false := by
    cases dI with
    | nil => simp [lookupS] at hl
    | cons => rfl
  simp only [hne, Bool.false_eq_true, if_false, Out.ok.injEq] at hr
  exact ⟨dI, hr.symm, hl⟩

/-! ### instances (the shapes of the `nested-defaults` family of the `structmodel` stream) -/

namespace NestedExample

/-- `type Lim struct { Max int64 `json:"max"`; Min *int64 `json:"min"`; Unit string `json:"unit"` }` -/
def stLim : StructTy := ⟨"Lim", [
  ⟨"Max", "max", true, .int .int64, .val (.int .int64 0)⟩,
  ⟨"Min", "min", true, .ptr (.int .int64), .nilPtr⟩,
  ⟨"Unit", "unit", true, .str, .val (.str "")⟩]⟩
def zeroLim : SV := .struct "Lim" [("Max", .val (.int .int64 0)), ("Min", .nilPtr), ("Unit", .val (.str ""))]
/-- `type BoxV struct { Limits Lim `json:"limits"`; Label *string `json:"label"` }`: `limits` on a plain field -/
def stBoxV : StructTy := ⟨"BoxV", [
  ⟨"Limits", "limits", true, .struct "Lim", zeroLim⟩, ⟨"Label", "label", true, .ptr .str, .nilPtr⟩]⟩
/-- `type BoxP struct { Limits *Lim `json:"limits"`; Label *string `json:"label"` }`: behind a pointer -/
def stBoxP : StructTy := ⟨"BoxP", [
  ⟨"Limits", "limits", true, .ptr (.struct "Lim"), .nilPtr⟩, ⟨"Label", "label", true, .ptr .str, .nilPtr⟩]⟩
/-- `type OuterP struct { Limits *Lim `json:"limits"`; Box BoxV `json:"box"`; Name *string `json:"name"` }` -/
def stOuterP : StructTy := ⟨"OuterP", [
  ⟨"Limits", "limits", true, .ptr (.struct "Lim"), .nilPtr⟩,
  ⟨"Box", "box", true, .struct "BoxV", .struct "BoxV" [("Limits", zeroLim), ("Label", .nilPtr)]⟩,
  ⟨"Name", "name", true, .ptr .str, .nilPtr⟩]⟩
/-- `type OuterV struct { Limits Lim `json:"limits"`; Box BoxP `json:"box"`; Name *string `json:"name"` }` -/
def stOuterV : StructTy := ⟨"OuterV", [
  ⟨"Limits", "limits", true, .struct "Lim", zeroLim⟩,
  ⟨"Box", "box", true, .struct "BoxP", .struct "BoxP" [("Limits", .nilPtr), ("Label", .nilPtr)]⟩,
  ⟨"Name", "name", true, .ptr .str, .nilPtr⟩]⟩

def opt (t : STy) : SProp := .mk t false [] [] [] none false false
def strP : SProp := opt (.leaf (.str none none none))
/-- `max`: an integer of at least 1 with the default 3 (the zero value is invalid) -/
def limDefaults : STy := .obj "Lim" stLim false [
  ("max", .mk (.leaf (.int (some 1) none none)) false [] [] [] (some ⟨some (.float .f64 0x4008000000000000), none⟩) false false)]
/-- `max` required, no default anywhere -/
def limRequired : STy := .obj "Lim" stLim false [
  ("max", .mk (.leaf (.int none none none)) true [] [] [] none false false), ("unit", strP)]
def limOptional : STy := .obj "Lim" stLim false [("max", opt (.leaf (.int none none none)))]
def three : V := .float .f64 0x4008000000000000

/-- class A: `limits` behind a pointer above, on a plain field below; nothing declared in between -/
def outerP : STy := .obj "OuterP" stOuterP false [
  ("limits", opt limDefaults), ("box", opt (.obj "BoxV" stBoxV false [("limits", opt limDefaults), ("label", strP)])), ("name", strP)]
/-- the mirror image -/
def outerV : STy := .obj "OuterV" stOuterV false [
  ("limits", opt limDefaults), ("box", opt (.obj "BoxP" stBoxP false [("limits", opt limDefaults), ("label", strP)])), ("name", strP)]

example : wfSB 6 outerP = true ∧ wfSB 6 outerV = true := by decide +kernel
/-- outer and inner struct type disagree about `limits`, in both shapes -/
example : fieldSkips stOuterP "limits" = true ∧ fieldSkips stBoxV "limits" = false ∧
    fieldSkips stOuterV "limits" = false ∧ fieldSkips stBoxP "limits" = true := by decide +kernel

section
open ValueDecEq
/-- the hypotheses of `C01_struct_nested_defaults_own_fields` hold of the inner object `BoxV` ... -/
example : defaultsOf (rulesOf [("limits", opt limDefaults), ("label", strP)]) = .ok [] ∧
    subDefS 3 limDefaults (lookupS "limits" (overlay [] [])) = .ok (some (toStrAny [("max", three)])) := by decide +kernel
/-- ... so an absent `box` is stored with the inner defaults although `OuterP` itself keeps `limits`
    behind a pointer: the whole default loop of `OuterP` on the empty input adds `box` and only `box` -/
example : applyDefaultsS stOuterP 5 [("limits", opt limDefaults),
      ("box", opt (.obj "BoxV" stBoxV false [("limits", opt limDefaults), ("label", strP)])), ("name", strP)] [] =
    .ok [("box", toStrAny [("limits", toStrAny [("max", three)])])] := by decide +kernel
/-- the mirror image: the top-level `limits` is filled in, `box` (whose only block sits behind a
    pointer and which declares nothing else) stays absent -/
example : applyDefaultsS stOuterV 5 [("limits", opt limDefaults),
      ("box", opt (.obj "BoxP" stBoxP false [("limits", opt limDefaults), ("label", strP)])), ("name", strP)] [] =
    .ok [("limits", toStrAny [("max", three)])] := by decide +kernel
end
/-- end to end: Unserialize of `{}` -/
example (x : Ext) : srun x 8 .U outerP (.val (toStrAny [])) = .ok (.struct "OuterP" [("Limits", .nilPtr),
    ("Box", .struct "BoxV" [("Limits", .struct "Lim" [("Max", .val (.int .int64 3)), ("Min", .nilPtr), ("Unit", .val (.str ""))]),
      ("Label", .nilPtr)]), ("Name", .nilPtr)]) := by rfl
example (x : Ext) : srun x 8 .U outerV (.val (toStrAny [])) = .ok (.struct "OuterV" [
    ("Limits", .struct "Lim" [("Max", .val (.int .int64 3)), ("Min", .nilPtr), ("Unit", .val (.str ""))]),
    ("Box", .struct "BoxP" [("Limits", .nilPtr), ("Label", .nilPtr)]), ("Name", .nilPtr)]) := by rfl

/-- class B: the hypotheses of `C03_struct_absent_block_stays_absent` hold of a block with a required
    member and of a block two levels deep; they fail as soon as a default is declared below -/
example : noDefB 4 limRequired = true ∧
    noDefB 5 (.obj "BoxV" stBoxV false [("limits", opt limRequired), ("label", strP)]) = true ∧
    noDefB 4 limDefaults = false := by decide +kernel
/-- an optional block with a required member, left out: accepted, the struct holds the zero value -/
def optBlock : STy := .obj "OuterV" stOuterV false [("limits", opt limRequired), ("name", strP)]
example (x : Ext) : srun x 8 .U optBlock (.val (toStrAny [])) = .ok (.struct "OuterV" [("Limits", zeroLim),
    ("Box", .struct "BoxP" [("Limits", .nilPtr), ("Label", .nilPtr)]), ("Name", .nilPtr)]) := by rfl
example (x : Ext) : srun x 8 .U optBlock (.val (toStrAny [("limits", toStrAny [])])) = .err ⟨true, ["limits", "max"]⟩ := by rfl
/-- a required block with only optional members, left out: refused at the block; `{}` for it: accepted -/
def reqBlock : STy := .obj "OuterV" stOuterV false [
  ("limits", .mk limOptional true [] [] [] none false false), ("name", strP)]
example (x : Ext) : srun x 8 .U reqBlock (.val (toStrAny [])) = .err ⟨true, ["limits"]⟩ := by rfl
example (x : Ext) : (srun x 8 .U reqBlock (.val (toStrAny [("limits", toStrAny [])]))).isOk = true := by rfl
/-- sibling rules see the absent block as absent: `name` with `required_if: [limits]` is not required,
    `name` with `required_if_not: [limits]` is -/
example (x : Ext) : (srun x 8 .U (.obj "OuterV" stOuterV false [("limits", opt limOptional),
    ("name", .mk (.leaf (.str none none none)) false ["limits"] [] [] none false false)]) (.val (toStrAny []))).isOk = true := by rfl
example (x : Ext) : srun x 8 .U (.obj "OuterV" stOuterV false [("limits", opt limOptional),
    ("name", .mk (.leaf (.str none none none)) false [] ["limits"] [] none false false)]) (.val (toStrAny [])) =
    .err ⟨true, ["name"]⟩ := by rfl

end NestedExample

end SM
end Arca
