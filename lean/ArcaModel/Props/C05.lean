import ArcaModel.Model.AtpSession
/-
  C05  "ATP is transparent: each Execute returns its own step's in-process result."

  Theorems about `Arca.AtpSession.step?` (Model/AtpSession.lean), over ALL reachable states, for any
  number of `Execute` calls in any overlap, any interleaving of the callers, the transport and the
  server, and any `input` / `callStep` (both are parameters).

  What is assumed rather than proved (stated in Model/AtpSession.lean): messages are appended to a
  stream as a whole (writer atomicity; `Props/C07Facts.lean` F7 checks the server side on the
  working tree), the transport is a reliable FIFO per direction, and CBOR framing is at message
  level. Payload fidelity across CBOR is C01's subject, `callStep` itself C11's.
-/
namespace Arca.AtpSession

variable {Inp Res : Type} {input : Run → Inp} {callStep : Inp → Res}

/-! ### counting messages per run

The weight of a single entry of run `r` in the count for `r'` is written `[r].count r'`, so that
moving an entry from one list to another is linear arithmetic over the counts. -/

def cntR {α : Type} (r : Run) (l : List (Run × α)) : Nat := l.countP (fun e => e.1 == r)

theorem cntR_append {α : Type} (r : Run) (a b : List (Run × α)) : cntR r (a ++ b) = cntR r a + cntR r b :=
  List.countP_append

@[simp] theorem cntR_nil {α : Type} (r : Run) : cntR r ([] : List (Run × α)) = 0 := rfl

theorem cntR_cons {α : Type} (r : Run) (m : Run × α) (l : List (Run × α)) :
    cntR r (m :: l) = cntR r l + [m.1].count r := by
  simp [cntR, List.countP_cons, List.count_singleton]

theorem cntR_eraseIdx {α : Type} (r : Run) : ∀ (l : List (Run × α)) (i : Nat) (m : Run × α), l[i]? = some m →
    cntR r (l.eraseIdx i) + [m.1].count r = cntR r l
  | a :: as, 0, m, h => by cases h; exact (cntR_cons r a as).symm
  | a :: as, i + 1, m, h => by
    have := cntR_eraseIdx r as i m h
    rw [List.eraseIdx_cons_succ, cntR_cons, cntR_cons]; omega

theorem count_erase_mem {r : Run} (r' : Run) {l : List Run} (h : r ∈ l) :
    (l.erase r).count r' + [r].count r' = l.count r' := by
  rw [(List.perm_cons_erase h).count_eq r', List.count_cons (l := l.erase r), List.count_singleton]

theorem cntR_filter_ne {α : Type} (r r' : Run) (l : List (Run × α)) :
    cntR r' (l.filter (fun e => e.1 ≠ r)) = if r' = r then 0 else cntR r' l := by
  induction l with
  | nil => simp
  | cons a as ih =>
    rw [List.filter_cons, cntR_cons]
    by_cases h1 : a.1 = r
    · rw [if_neg (by simpa using h1), ih]
      split
      · rfl
      · rw [h1, List.count_singleton, if_neg (by simpa using Ne.symm ‹_›)]; rfl
    · rw [if_pos (by simpa using h1), cntR_cons, ih]
      split
      · rw [List.count_singleton, if_neg (by simpa [‹r' = r›] using h1)]
      · rfl

theorem cntR_pos_of_find {α : Type} (r : Run) (l : List (Run × α)) (m : Run × α)
    (h : l.find? (fun e => e.1 = r) = some m) : m.1 = r ∧ 1 ≤ cntR r l := by
  have hm : m.1 = r := by simpa using List.find?_some h
  obtain ⟨as, bs, rfl, -⟩ := (List.find?_eq_some_iff_append.mp h).2
  refine ⟨hm, ?_⟩
  rw [cntR_append, cntR_cons, hm, List.count_singleton_self]; omega

theorem cntR_setReady (r r' : Run) (y : Res) (l : List (Run × Res)) :
    cntR r' (setReady l r y) = cntR r' l := by
  induction l with
  | nil => rfl
  | cons a as ih =>
    show cntR r' ((if a.1 = r then (r, y) else a) :: setReady as r y) = _
    rw [cntR_cons, cntR_cons, ih]
    split
    · rw [‹a.1 = r›]
    · rfl

structure Routed (input : Run → Inp) (callStep : Inp → Res) (s : State Inp Res) : Prop where
  c2s : ∀ m ∈ s.c2s, m.2 = input m.1
  srv : ∀ m ∈ s.srv, m.2 = input m.1
  s2c : ∀ m ∈ s.s2c, m.2 = spec input callStep m.1
  ready : ∀ m ∈ s.ready, m.2 = spec input callStep m.1
  returned : ∀ m ∈ s.returned, m.2 = spec input callStep m.1

/-- the work-start / answer of run `r` still on its way to the client's result entry -/
def tok (s : State Inp Res) (r : Run) : Nat :=
  s.unsent.count r + cntR r s.c2s + cntR r s.srv + cntR r s.s2c

/-- every registered run is represented exactly once: as a pending entry whose message is at
    exactly one place on its way, or as a stored result, or as a returned call -/
structure Tokens (s : State Inp Res) : Prop where
  flight : ∀ r, s.pending.count r = tok s r
  one : ∀ r, s.pending.count r + cntR r s.ready + cntR r s.returned = if r ∈ s.issued then 1 else 0

theorem forall_mem_snoc {α : Type} {P : α → Prop} {l : List α} {x : α} (hl : ∀ m ∈ l, P m) (hx : P x) :
    ∀ m ∈ l ++ [x], P m :=
  List.forall_mem_append.mpr ⟨hl, List.forall_mem_singleton.mpr hx⟩

/-- Each action moves one message to the next place on its way, unchanged but for `finish`, which
    applies `callStep`; `register` adds a fresh run and its pending entry. The overwriting branch of
    `deliverS2C` is never taken: an answer in flight has a pending entry (`Tokens.flight`). -/
theorem inv_step {s s' : State Inp Res} {a : Act} (hR : Routed input callStep s) (hT : Tokens s)
    (e : step? input callStep s a = some s') : Routed input callStep s' ∧ Tokens s' := by
  cases a <;> simp only [step?] at e
  case register r =>
    split at e <;> cases e
    rename_i hni
    refine ⟨{ hR with }, fun r' => ?_, fun r' => ?_⟩
    · have := hT.flight r'
      simp only [tok, List.count_cons] at this ⊢; omega
    · have := hT.one r'
      by_cases hr : r' = r
      · subst hr; simp [hni] at this ⊢; omega
      · simpa [List.count_cons, hr, Ne.symm hr] using this
  case send r =>
    split at e <;> cases e
    rename_i hm
    refine ⟨{ hR with c2s := forall_mem_snoc hR.c2s rfl }, fun r' => ?_, hT.one⟩
    have := hT.flight r'
    have := count_erase_mem r' hm
    simp only [tok, cntR_append, cntR_cons, cntR_nil] at *; omega
  case deliverC2S =>
    split at e <;> cases e
    rename_i m rest hc
    have h1 := hR.c2s
    rw [hc] at h1
    refine ⟨{ hR with c2s := (List.forall_mem_cons.mp h1).2,
                      srv := forall_mem_snoc hR.srv (List.forall_mem_cons.mp h1).1 },
      fun r' => ?_, hT.one⟩
    have := hT.flight r'
    simp only [tok, hc, cntR_append, cntR_cons, cntR_nil] at *; omega
  case finish i =>
    split at e <;> cases e
    rename_i r x hx
    refine ⟨{ hR with srv := fun m hm => hR.srv m (List.mem_of_mem_eraseIdx hm),
                      s2c := forall_mem_snoc hR.s2c ?_ }, fun r' => ?_, hT.one⟩
    · exact congrArg callStep (hR.srv (r, x) (List.mem_of_getElem? hx))
    · have := hT.flight r'
      have := cntR_eraseIdx r' s.srv i (r, x) hx
      simp only [tok, cntR_append, cntR_cons, cntR_nil] at *; omega
  case deliverS2C =>
    split at e <;> try cases e
    rename_i r y rest hc
    have h3 := hR.s2c
    rw [hc] at h3
    have hf := hT.flight
    simp only [tok, hc, cntR_cons] at hf
    by_cases hm : r ∈ s.pending
    · rw [if_pos hm] at e; cases e
      have he (r') := count_erase_mem r' hm
      refine ⟨{ hR with s2c := (List.forall_mem_cons.mp h3).2,
                        ready := forall_mem_snoc hR.ready (List.forall_mem_cons.mp h3).1 },
        fun r' => ?_, fun r' => ?_⟩
      · have := hf r'; have := he r'
        simp only [tok]; omega
      · have := hT.one r'; have := he r'
        simp only [cntR_append, cntR_cons, cntR_nil]; omega
    · have := hf r
      rw [List.count_eq_zero.mpr hm, List.count_singleton_self] at this
      omega
  case take r =>
    split at e <;> cases e
    rename_i r0 y hf
    obtain ⟨hr0, hpos⟩ := cntR_pos_of_find r s.ready (r0, y) hf
    have hr0 : r0 = r := hr0
    subst hr0
    refine ⟨{ hR with ready := fun m hm => hR.ready m (List.mem_filter.mp hm).1,
                      returned := forall_mem_snoc hR.returned
                        (hR.ready _ (List.mem_of_find?_eq_some hf)) },
      hT.flight, fun r' => ?_⟩
    have := hT.one r'
    simp only [cntR_append, cntR_cons, cntR_nil, cntR_filter_ne]
    by_cases hr : r' = r0
    · subst hr
      rw [if_pos rfl, List.count_singleton_self]
      have : (if r' ∈ s.issued then 1 else 0) ≤ 1 := by split <;> omega
      omega
    · rw [if_neg hr, List.count_singleton, if_neg (by simpa using Ne.symm hr)]
      exact this

theorem inv_reachable {s : State Inp Res} (h : Reachable input callStep s) :
    Routed input callStep s ∧ Tokens s := by
  induction h with
  | init => exact ⟨⟨nofun, nofun, nofun, nofun, nofun⟩, fun _ => rfl, fun _ => rfl⟩
  | step _ e ih => exact inv_step ih.1 ih.2 e

/-- C05_routing. In every reachable state every message in flight, every running step and every
    client result entry for run `r` carries exactly `input r` resp. `spec r`; hence every returning
    `Execute r` returns `spec r` - whatever the number and overlap of the calls and the timing of
    the transport. -/
theorem C05_routing {s : State Inp Res} (h : Reachable input callStep s) :
    Routed input callStep s := (inv_reachable h).1

/-- every `Execute` that returns, returns its own step's in-process result -/
theorem C05_execute_returns_spec {s : State Inp Res} (h : Reachable input callStep s) (r : Run) (y : Res)
    (hr : (r, y) ∈ s.returned) : y = spec input callStep r :=
  (C05_routing h).returned (r, y) hr

/-- no duplication: a run returns at most once, and never after or while another copy of its
    result or message exists anywhere -/
theorem C05_no_duplication {s : State Inp Res} (h : Reachable input callStep s) (r : Run) :
    cntR r s.returned + cntR r s.ready + tok s r ≤ 1 := by
  have T := (inv_reachable h).2
  have h1 := T.one r
  have h2 := T.flight r
  split at h1 <;> omega

/-- no cross-delivery: nothing exists for a run that was never issued -/
theorem C05_no_foreign_result {s : State Inp Res} (h : Reachable input callStep s) (r : Run)
    (hr : r ∉ s.issued) : cntR r s.returned = 0 ∧ cntR r s.ready = 0 ∧ tok s r = 0 := by
  have T := (inv_reachable h).2
  have h1 := T.one r
  have h2 := T.flight r
  rw [if_neg hr] at h1
  omega

/-- no loss: every issued run has returned, or its result is stored, or its message is at exactly
    one place on its way - in which case some action other than `register` is enabled: a send, a
    delivery or a finish for a message of SOME run, not necessarily `r` (the system is not stuck;
    nothing is claimed about which message moves next) -/
theorem C05_no_loss {s : State Inp Res} (h : Reachable input callStep s) (r : Run) (hr : r ∈ s.issued) :
    cntR r s.returned = 1 ∨ cntR r s.ready = 1 ∨
    (tok s r = 1 ∧ ∃ a, (step? input callStep s a).isSome = true ∧ ∀ r', a ≠ .register r') := by
  have T := (inv_reachable h).2
  have h1 := T.one r
  have h2 := T.flight r
  rw [if_pos hr] at h1
  by_cases ht : tok s r = 0
  · omega
  · refine .inr (.inr ⟨by omega, ?_⟩)
    -- somewhere a message of some run is in flight: the corresponding action is enabled
    unfold tok at ht
    cases hu : s.unsent with
    | cons u us => exact ⟨.send u, by simp [step?, hu], nofun⟩
    | nil =>
      cases hc : s.c2s with
      | cons m rest => exact ⟨.deliverC2S, by simp [step?, hc], nofun⟩
      | nil =>
        cases hs : s.srv with
        | cons m rest => exact ⟨.finish 0, by simp [step?, hs], nofun⟩
        | nil =>
          cases hsc : s.s2c with
          | cons m rest => exact ⟨.deliverS2C, by simp only [step?, hsc]; split <;> rfl, nofun⟩
          | nil => simp [hu, hc, hs, hsc] at ht

theorem reachable_foldlM {s s' : State Inp Res} (h : Reachable input callStep s) :
    ∀ {as : List Act}, as.foldlM (step? input callStep) s = some s' → Reachable input callStep s'
  | [], e => by cases e; exact h
  | a :: as, e => by
    rw [List.foldlM_cons] at e
    obtain ⟨s1, h1, h2⟩ := Option.bind_eq_some_iff.mp e
    exact reachable_foldlM (h.step h1) h2

-- non-vacuity: two overlapping executes whose answers arrive in the opposite order
example : ∃ s : State Nat Nat, Reachable (fun r => r + 10) (fun x => x * 2) s ∧
    s.returned = [(2, 24), (1, 22)] :=
  ⟨_, reachable_foldlM .init (as := [.register 1, .register 2, .send 1, .send 2, .deliverC2S,
    .deliverC2S, .finish 1, .finish 0, .deliverS2C, .deliverS2C, .take 2, .take 1]) rfl, rfl⟩

/-- at most one message exists at any time, and it belongs to the call in progress -/
structure V1Inv (input : Run → Inp) (callStep : Inp → Res) (s : V1State Inp Res) : Prop where
  returned : ∀ m ∈ s.returned, m.2 = spec input callStep m.1
  idle : s.cur = none → s.c2s = [] ∧ s.srv = none ∧ s.s2c = []
  unsent : s.sent = false → s.c2s = [] ∧ s.srv = none ∧ s.s2c = []
  cur : ∀ r, s.cur = some r → s.sent = true →
    (s.c2s = [input r] ∧ s.srv = none ∧ s.s2c = []) ∨
    (s.c2s = [] ∧ s.srv = some (input r) ∧ s.s2c = []) ∨
    (s.c2s = [] ∧ s.srv = none ∧ s.s2c = [spec input callStep r])

theorem V1Inv.busy {s : V1State Inp Res} (h : V1Inv input callStep s)
    (hne : ¬ (s.c2s = [] ∧ s.srv = none ∧ s.s2c = [])) : ∃ r, s.cur = some r ∧ s.sent = true := by
  cases hc : s.cur with
  | none => exact absurd (h.idle hc) hne
  | some r =>
    cases hs : s.sent with
    | false => exact absurd (h.unsent hs) hne
    | true => exact ⟨r, rfl, rfl⟩

theorem v1inv_step {s s' : V1State Inp Res} {a : V1Act} (h : V1Inv input callStep s)
    (e : v1step? input callStep s a = some s') : V1Inv input callStep s' := by
  cases a <;> simp only [v1step?] at e
  case call r =>
    split at e <;> cases e
    rename_i hc
    exact ⟨h.returned, nofun, fun _ => h.idle (by simpa using hc), nofun⟩
  case send =>
    split at e <;> cases e
    rename_i r hc hs
    obtain ⟨h1, h2, h3⟩ := h.unsent hs
    exact ⟨h.returned, fun hn => (nomatch hc.symm.trans hn), nofun,
      fun r' hr _ => by cases hc.symm.trans hr; exact .inl ⟨by rw [h1]; rfl, h2, h3⟩⟩
  case deliverC2S =>
    split at e <;> cases e
    rename_i x rest hc hs
    obtain ⟨r, hr, hse⟩ := h.busy (fun hn => by rw [hn.1] at hc; cases hc)
    refine ⟨h.returned, fun hn => (nomatch hr.symm.trans hn), fun hn => (nomatch hse.symm.trans hn),
      fun r' hr' _ => ?_⟩
    cases hr.symm.trans hr'
    rcases h.cur r hr hse with ⟨h1, _, h3⟩ | ⟨h1, _⟩ | ⟨h1, _⟩ <;> cases hc.symm.trans h1
    exact .inr (.inl ⟨rfl, rfl, h3⟩)
  case finish =>
    split at e <;> cases e
    rename_i x hs
    obtain ⟨r, hr, hse⟩ := h.busy (fun hn => by rw [hn.2.1] at hs; cases hs)
    refine ⟨h.returned, fun hn => (nomatch hr.symm.trans hn), fun hn => (nomatch hse.symm.trans hn),
      fun r' hr' _ => ?_⟩
    cases hr.symm.trans hr'
    rcases h.cur r hr hse with ⟨_, h2, _⟩ | ⟨h1, h2, h3⟩ | ⟨_, h2, _⟩ <;> cases hs.symm.trans h2
    exact .inr (.inr ⟨h1, rfl, by rw [h3]; rfl⟩)
  case recv =>
    split at e <;> cases e
    rename_i r y rest hc hs hq
    rcases h.cur r hc hs with ⟨_, _, h3⟩ | ⟨_, _, h3⟩ | ⟨h1, h2, h3⟩ <;> cases hq.symm.trans h3
    exact ⟨forall_mem_snoc h.returned rfl, fun _ => ⟨h1, h2, rfl⟩, fun _ => ⟨h1, h2, rfl⟩, nofun⟩

theorem v1inv_reachable {s : V1State Inp Res} (h : V1Reachable input callStep s) : V1Inv input callStep s := by
  induction h with
  | init => exact ⟨nofun, fun _ => ⟨rfl, rfl, rfl⟩, fun _ => ⟨rfl, rfl, rfl⟩, nofun⟩
  | step _ e ih => exact v1inv_step ih e

/-- C05_v1. Over the legacy framing every `Execute` returns its own step's result. -/
theorem C05_v1 {s : V1State Inp Res} (h : V1Reachable input callStep s) (r : Run) (y : Res)
    (hr : (r, y) ∈ s.returned) : y = spec input callStep r :=
  (v1inv_reachable h).returned (r, y) hr

end Arca.AtpSession

open Arca.AtpSession in
#print axioms C05_routing
open Arca.AtpSession in
#print axioms C05_execute_returns_spec
open Arca.AtpSession in
#print axioms C05_no_duplication
open Arca.AtpSession in
#print axioms C05_no_foreign_result
open Arca.AtpSession in
#print axioms C05_no_loss
open Arca.AtpSession in
#print axioms C05_v1
