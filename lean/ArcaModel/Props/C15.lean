import ArcaModel.Model.Compat
import ArcaModel.Lemmas.Out
import ArcaModel.Lemmas.CompatHalts
/-
  C15  Compatibility checking is kind-sound, reflexive and independent of iteration order.

  `compatS fuel es eo s o`: may a producer with schema `o` feed a consumer expecting `s`?
  Termination on recursive schemas is NOT claimed: the implementation recurses through
  references without a cycle guard (known finding); the model then answers `fuel`.
-/
namespace Arca
open Out

/-! ### kind soundness: one theorem per rejection rule -/

/-- integer consumers reject every producer that is neither an integer nor an integer enum -/
theorem C15_int_rejects_other_kinds (n : Nat) (es eo : Env) (a b : Option Int) (u : Option Units) (o : Ty)
    (h1 : ∀ a' b' u', o ≠ .int a' b' u') (h2 : ∀ vs u', o ≠ .enumInt vs u') :
    compatS (n + 1) es eo (.int a b u) o = .cerr := by
  rw [compatS_int]
  cases o with
  | int a' b' u' => exact absurd rfl (h1 a' b' u')
  | enumInt vs u' => exact absurd rfl (h2 vs u')
  | _ => rfl

theorem C15_str_rejects_other_kinds (n : Nat) (es eo : Env) (a b : Option Int) (p : Option String) (o : Ty)
    (h1 : ∀ a' b' p', o ≠ .str a' b' p') (h2 : ∀ vs, o ≠ .enumStr vs) :
    compatS (n + 1) es eo (.str a b p) o = .cerr := by
  rw [compatS_str]
  cases o with
  | str a' b' p' => exact absurd rfl (h1 a' b' p')
  | enumStr vs => exact absurd rfl (h2 vs)
  | _ => rfl

theorem C15_float_rejects_other_kinds (n : Nat) (es eo : Env) (a b : Option Nat) (u : Option Units) (o : Ty)
    (h1 : ∀ a' b' u', o ≠ .float a' b' u') : compatS (n + 1) es eo (.float a b u) o = .cerr := by
  rw [compatS_float]
  cases o with
  | float a' b' u' => exact absurd rfl (h1 a' b' u')
  | _ => rfl

theorem C15_bool_rejects_other_kinds (n : Nat) (es eo : Env) (o : Ty) (h : o ≠ .bool) :
    compatS (n + 1) es eo .bool o = .cerr := by
  rw [compatS_bool]
  cases o with
  | bool => exact absurd rfl h
  | _ => rfl

theorem C15_pattern_rejects_other_kinds (n : Nat) (es eo : Env) (o : Ty) (h : o ≠ .pattern) :
    compatS (n + 1) es eo .pattern o = .cerr := by
  rw [compatS_pattern]
  cases o with
  | pattern => exact absurd rfl h
  | _ => rfl

theorem C15_list_rejects_other_kinds (n : Nat) (es eo : Env) (item : Ty) (a b : Option Int) (o : Ty)
    (h : ∀ i a' b', o ≠ .list i a' b') : compatS (n + 1) es eo (.list item a b) o = .cerr := by
  rw [compatS_list]
  cases o with
  | list i a' b' => exact absurd rfl (h i a' b')
  | _ => rfl

theorem C15_map_rejects_other_kinds (n : Nat) (es eo : Env) (k v : Ty) (a b : Option Int) (o : Ty)
    (h : ∀ k' v' a' b', o ≠ .map k' v' a' b') : compatS (n + 1) es eo (.map k v a b) o = .cerr := by
  rw [compatS_map]
  cases o with
  | map k' v' a' b' => exact absurd rfl (h k' v' a' b')
  | _ => rfl

/-- an enum consumer rejects a producer of the other enum kind and every non-enum -/
theorem C15_enumInt_rejects_other_kinds (n : Nat) (es eo : Env) (vs : List Int) (u : Option Units) (o : Ty)
    (h : ∀ vs' u', o ≠ .enumInt vs' u') : compatS (n + 1) es eo (.enumInt vs u) o = .cerr := by
  rw [compatS_enumInt]
  cases o with
  | enumInt vs' u' => exact absurd rfl (h vs' u')
  | _ => rfl

theorem C15_enumStr_rejects_other_kinds (n : Nat) (es eo : Env) (vs : List String) (o : Ty)
    (h : ∀ vs', o ≠ .enumStr vs') : compatS (n + 1) es eo (.enumStr vs) o = .cerr := by
  rw [compatS_enumStr]
  cases o with
  | enumStr vs' => exact absurd rfl (h vs')
  | _ => rfl

/-- ranges that cannot overlap are rejected (integers; the same test is used for string lengths,
    list and map sizes) -/
theorem C15_int_disjoint_ranges (n : Nat) (es eo : Env) (smin smax omin omax : Option Int) (u u' : Option Units)
    (h : rangeDisjoint smin smax omin omax = true) :
    compatS (n + 1) es eo (.int smin smax u) (.int omin omax u') = .cerr :=
  if_pos h

theorem C15_str_disjoint_ranges (n : Nat) (es eo : Env) (smin smax omin omax : Option Int) (p p' : Option String)
    (h : rangeDisjoint smin smax omin omax = true) :
    compatS (n + 1) es eo (.str smin smax p) (.str omin omax p') = .cerr :=
  if_pos h

theorem C15_list_disjoint_ranges (n : Nat) (es eo : Env) (i i' : Ty) (smin smax omin omax : Option Int)
    (h : rangeDisjoint smin smax omin omax = true) :
    compatS (n + 1) es eo (.list i smin smax) (.list i' omin omax) = .cerr :=
  if_pos h

theorem C15_float_disjoint_ranges (n : Nat) (es eo : Env) (smin smax omin omax : Option Nat) (u u' : Option Units)
    (h : fRangeDisjoint smin smax omin omax = true) :
    compatS (n + 1) es eo (.float smin smax u) (.float omin omax u') = .cerr :=
  if_pos h

/-- `rangeDisjoint` is exactly "the producer's declared minimum lies above the consumer's maximum
    or its maximum below the consumer's minimum" -/
theorem rangeDisjoint_iff (smin smax omin omax : Option Int) :
    rangeDisjoint smin smax omin omax = true ↔
      (∃ sm om, smax = some sm ∧ omin = some om ∧ om > sm) ∨ (∃ sm om, smin = some sm ∧ omax = some om ∧ om < sm) := by
  unfold rangeDisjoint
  rw [Bool.or_eq_true]
  refine or_congr ?_ ?_
  · cases smax <;> cases omin <;> simp
  · cases smin <;> cases omax <;> simp

theorem bind_unit_eq_ok {β} {a : Out Unit} {f : Unit → Out β} {r : β} : a.bind f = .ok r ↔ a = .ok () ∧ f () = .ok r := by
  cases a <;> simp [Out.bind]

/-- incompatible element types make the lists incompatible -/
theorem C15_list_item_incompatible (n : Nat) (es eo : Env) (i i' : Ty) (a b a' b' : Option Int)
    (h : compatS n es eo i i' ≠ .ok ()) : compatS (n + 1) es eo (.list i a b) (.list i' a' b') ≠ .ok () :=
  fun hok => h (ite_cerr_eq_ok.1 hok).2

theorem C15_map_key_or_value_incompatible (n : Nat) (es eo : Env) (k v k' v' : Ty) (a b a' b' : Option Int)
    (h : compatS n es eo k k' ≠ .ok () ∨ compatS n es eo v v' ≠ .ok ()) :
    compatS (n + 1) es eo (.map k v a b) (.map k' v' a' b') ≠ .ok () := by
  intro hok
  obtain ⟨h1, h2⟩ := bind_unit_eq_ok.1 hok
  exact h.elim (· (rewrapC_eq_ok.mp h1)) (· (rewrapC_eq_ok.mp (bind_unit_eq_ok.1 h2).1))

theorem all_contains_eq_false {α} [BEq α] [LawfulBEq α] {vs ovs : List α} {x : α} (hx : x ∈ ovs) (hn : x ∉ vs) :
    ovs.all vs.contains = false :=
  Bool.eq_false_iff.2 fun h => hn (List.contains_iff_mem.1 (List.all_eq_true.1 h x hx))

/-- an enum offering a value outside the consumer's set is rejected (integer enums; string enums
    below) -/
theorem C15_enumInt_extra_value (n : Nat) (es eo : Env) (vs ovs : List Int) (u u' : Option Units) (x : Int)
    (hx : x ∈ ovs) (hn : x ∉ vs) : compatS (n + 1) es eo (.enumInt vs u) (.enumInt ovs u') = .cerr :=
  if_neg (by rw [all_contains_eq_false hx hn]; exact Bool.false_ne_true)

theorem C15_enumStr_extra_value (n : Nat) (es eo : Env) (vs ovs : List String) (x : String)
    (hx : x ∈ ovs) (hn : x ∉ vs) : compatS (n + 1) es eo (.enumStr vs) (.enumStr ovs) = .cerr :=
  if_neg (by rw [all_contains_eq_false hx hn]; exact Bool.false_ne_true)

/-- the verdict on two objects given directly: same ID, every property of the producer declared
    by the consumer with a compatible type, every required property of the consumer present -/
theorem compatS_obj_obj_ok {n : Nat} {es eo : Env} {sid oid : String} {sprops oprops : List (String × PropT)} :
    compatS (n + 1) es eo (.obj sid sprops) (.obj oid oprops) = .ok () ↔
      sid = oid ∧ (∀ kp, kp ∈ oprops → objPropCompat (fun a b => compatS n es eo a b) sprops kp = .ok ()) ∧
        ∀ kp, kp ∈ sprops → kp.2.required = true → hasKey kp.1 oprops = true := by
  rw [compatS_obj, objOf]
  simp only [ite_cerr_eq_ok, bind_unit_eq_ok, forAll_ok_iff]
  simp

theorem compatS_oneOf_oneOf_ok {n : Nat} {es eo : Env} {ik ik' : Bool} {d d' : String} {inl inl' : Bool}
    {ms ms' : List (Key × Ty)} :
    compatS (n + 1) es eo (.oneOf ik d inl ms) (.oneOf ik' d' inl' ms') = .ok () ↔
      ik = ik' ∧ d = d' ∧ ∀ km, km ∈ ms → oneOfMemberCompat (fun a b => compatS n es eo a b) ms' km = .ok () := by
  rw [compatS_oneOf]
  simp only [ite_cerr_eq_ok, forAll_ok_iff]
  simp

/-- an object producer (given directly, not through a reference) carrying a property the consumer
    does not declare is rejected -/
theorem C15_obj_undeclared_property (n : Nat) (es eo : Env) (sid : String) (sprops oprops : List (String × PropT))
    (k : String) (p : PropT) (hk : (k, p) ∈ oprops) (hund : lookupS k sprops = none) :
    compatS (n + 1) es eo (.obj sid sprops) (.obj sid oprops) ≠ .ok () := by
  intro hok
  have := (compatS_obj_obj_ok.1 hok).2.1 (k, p) hk
  simp [objPropCompat, hund, cerr] at this

/-- ... lacking a property the consumer requires is rejected -/
theorem C15_obj_missing_required (n : Nat) (es eo : Env) (sid : String) (sprops oprops : List (String × PropT))
    (k : String) (p : PropT) (hk : (k, p) ∈ sprops) (hreq : p.required = true) (hmiss : hasKey k oprops = false) :
    compatS (n + 1) es eo (.obj sid sprops) (.obj sid oprops) ≠ .ok () :=
  fun hok => Bool.false_ne_true (hmiss ▸ (compatS_obj_obj_ok.1 hok).2.2 (k, p) hk hreq)

/-- ... with a different ID is rejected -/
theorem C15_obj_different_id (n : Nat) (es eo : Env) (sid oid : String) (sprops oprops : List (String × PropT))
    (h : sid ≠ oid) : compatS (n + 1) es eo (.obj sid sprops) (.obj oid oprops) = .cerr :=
  if_pos (bne_iff_ne.2 h)

/-- ... with a property whose type is incompatible is rejected -/
theorem C15_obj_property_incompatible (n : Nat) (es eo : Env) (sid : String) (sprops oprops : List (String × PropT))
    (k : String) (sp op : PropT) (hs : lookupS k sprops = some sp) (ho : (k, op) ∈ oprops)
    (h : compatS n es eo sp.ty op.ty ≠ .ok ()) :
    compatS (n + 1) es eo (.obj sid sprops) (.obj sid oprops) ≠ .ok () := by
  intro hok
  have := (compatS_obj_obj_ok.1 hok).2.1 (k, op) ho
  simp only [objPropCompat, hs] at this
  cases hc : compatS n es eo sp.ty op.ty with
  | ok u => exact h hc
  | _ => rw [hc] at this; cases this

/-- a one-of producer with another discriminator field is rejected -/
theorem C15_oneof_different_discriminator (n : Nat) (es eo : Env) (ik : Bool) (d d' : String) (inl inl' : Bool)
    (ms ms' : List (Key × Ty)) (h : d ≠ d') :
    compatS (n + 1) es eo (.oneOf ik d inl ms) (.oneOf ik d' inl' ms') = .cerr := by
  rw [compatS_oneOf]
  simp [h]

/-- ... with another key kind is rejected -/
theorem C15_oneof_different_key_kind (n : Nat) (es eo : Env) (ik ik' : Bool) (d d' : String) (inl inl' : Bool)
    (ms ms' : List (Key × Ty)) (h : ik ≠ ik') :
    compatS (n + 1) es eo (.oneOf ik d inl ms) (.oneOf ik' d' inl' ms') = .cerr :=
  if_pos (bne_iff_ne.2 h)

/-- ... lacking one of the consumer's members is rejected -/
theorem C15_oneof_missing_member (n : Nat) (es eo : Env) (ik : Bool) (d : String) (inl inl' : Bool)
    (ms ms' : List (Key × Ty)) (k : Key) (t : Ty) (hk : (k, t) ∈ ms) (hmiss : lookupK k ms' = none) :
    compatS (n + 1) es eo (.oneOf ik d inl ms) (.oneOf ik d inl' ms') ≠ .ok () := by
  intro hok
  have := (compatS_oneOf_oneOf_ok.1 hok).2.2 (k, t) hk
  simp [oneOfMemberCompat, hmiss, cerr] at this

/-- a one-of consumer rejects every producer that is not a one-of -/
theorem C15_oneof_rejects_other_kinds (n : Nat) (es eo : Env) (ik : Bool) (d : String) (inl : Bool)
    (ms : List (Key × Ty)) (o : Ty) (h : ∀ ik' d' inl' ms', o ≠ .oneOf ik' d' inl' ms') :
    compatS (n + 1) es eo (.oneOf ik d inl ms) o = .cerr := by
  rw [compatS_oneOf]
  cases o with
  | oneOf ik' d' inl' ms' => exact absurd rfl (h ik' d' inl' ms')
  | _ => rfl

/-- an object consumer rejects every producer that does not denote an object -/
theorem C15_obj_rejects_other_kinds (n : Nat) (es eo : Env) (sid : String) (sprops : List (String × PropT)) (o : Ty)
    (h : objOf eo o = none) : compatS (n + 1) es eo (.obj sid sprops) o = .cerr := by
  rw [compatS_obj, h]

/-- the verdict on two enums does not depend on the order of either value table -/
theorem C15_enumInt_order (n : Nat) (es eo : Env) (vs vs' ovs ovs' : List Int) (u u' : Option Units)
    (h1 : vs.Perm vs') (h2 : ovs.Perm ovs') :
    compatS (n + 1) es eo (.enumInt vs u) (.enumInt ovs u') = compatS (n + 1) es eo (.enumInt vs' u) (.enumInt ovs' u') := by
  show (if ovs.all vs.contains then Out.ok () else .cerr) = if ovs'.all vs'.contains then .ok () else .cerr
  rw [h2.all_eq, funext fun a => h1.contains_eq (a := a)]

theorem C15_enumStr_order (n : Nat) (es eo : Env) (vs vs' ovs ovs' : List String)
    (h1 : vs.Perm vs') (h2 : ovs.Perm ovs') :
    compatS (n + 1) es eo (.enumStr vs) (.enumStr ovs) = compatS (n + 1) es eo (.enumStr vs') (.enumStr ovs') := by
  show (if ovs.all vs.contains then Out.ok () else .cerr) = if ovs'.all vs'.contains then .ok () else .cerr
  rw [h2.all_eq, funext fun a => h1.contains_eq (a := a)]

/-- the VERDICT on two objects does not depend on the order in which the producer's properties
    are visited (which incompatible property is named may differ) -/
theorem C15_obj_property_order (n : Nat) (es eo : Env) (sid oid : String) (sprops oprops oprops' : List (String × PropT))
    (hp : oprops.Perm oprops') :
    (compatS (n + 1) es eo (.obj sid sprops) (.obj oid oprops) = .ok () ↔
     compatS (n + 1) es eo (.obj sid sprops) (.obj oid oprops') = .ok ()) := by
  simp only [compatS_obj_obj_ok, hasKey_eq_true_iff, hp.mem_iff]

/-- Schemas (without references) whose declared ranges are non-empty and whose tables have
    distinct keys, with an explicit nesting bound. A schema with `min > max` denotes nothing and
    is indeed reported as incompatible with itself. -/
inductive SelfOK : Ty → Nat → Prop
  | int {a b u n} : rangeDisjoint a b a b = false → SelfOK (.int a b u) n
  | float {a b u n} : fRangeDisjoint a b a b = false → SelfOK (.float a b u) n
  | str {a b p n} : rangeDisjoint a b a b = false → SelfOK (.str a b p) n
  | bool {n} : SelfOK .bool n
  | pattern {n} : SelfOK .pattern n
  | enumInt {vs u n} : SelfOK (.enumInt vs u) n
  | enumStr {vs n} : SelfOK (.enumStr vs) n
  | any {n} : SelfOK .any n
  | list {item a b n} : rangeDisjoint a b a b = false → SelfOK item n → SelfOK (.list item a b) (n + 1)
  | map {k v a b n} : rangeDisjoint a b a b = false → SelfOK k n → SelfOK v n → SelfOK (.map k v a b) (n + 1)
  | obj {id props n} : (props.map Prod.fst).Nodup → (∀ np, np ∈ props → SelfOK np.2.ty n) → SelfOK (.obj id props) (n + 1)
  | oneOf {ik d inl ms n} : (ms.map Prod.fst).Nodup → (∀ m, m ∈ ms → SelfOK m.2 n) → SelfOK (.oneOf ik d inl ms) (n + 1)
  | scope {objs root o n} : lookupS root objs = some o → SelfOK o n → SelfOK (.scope objs root) (n + 1)

section
variable {n : Nat} {es eo : Env}

theorem compatS_int_self {a b : Option Int} {u : Option Units} (hr : rangeDisjoint a b a b = false) :
    compatS (n + 1) es eo (.int a b u) (.int a b u) = .ok () :=
  if_neg (hr ▸ Bool.false_ne_true)

theorem compatS_float_self {a b : Option Nat} {u : Option Units} (hr : fRangeDisjoint a b a b = false) :
    compatS (n + 1) es eo (.float a b u) (.float a b u) = .ok () :=
  if_neg (hr ▸ Bool.false_ne_true)

theorem compatS_str_self {a b : Option Int} {p : Option String} (hr : rangeDisjoint a b a b = false) :
    compatS (n + 1) es eo (.str a b p) (.str a b p) = .ok () :=
  if_neg (hr ▸ Bool.false_ne_true)

theorem all_contains_self {α} [BEq α] [LawfulBEq α] (vs : List α) : vs.all vs.contains = true :=
  List.all_eq_true.2 fun _ hx => List.contains_iff_mem.2 hx

theorem compatS_list_self {item : Ty} {a b : Option Int} (hr : rangeDisjoint a b a b = false)
    (h : compatS n es eo item item = .ok ()) : compatS (n + 1) es eo (.list item a b) (.list item a b) = .ok () :=
  ite_cerr_eq_ok.2 ⟨hr ▸ Bool.false_ne_true, h⟩

theorem compatS_map_self {k v : Ty} {a b : Option Int} (hr : rangeDisjoint a b a b = false)
    (hk : compatS n es eo k k = .ok ()) (hv : compatS n es eo v v = .ok ()) :
    compatS (n + 1) es eo (.map k v a b) (.map k v a b) = .ok () :=
  bind_unit_eq_ok.2 ⟨rewrapC_eq_ok.2 hk, bind_unit_eq_ok.2 ⟨rewrapC_eq_ok.2 hv,
    ite_cerr_eq_ok.2 ⟨hr ▸ Bool.false_ne_true, rfl⟩⟩⟩

theorem compatS_obj_self {id : String} {props : List (String × PropT)} (hnd : (props.map Prod.fst).Nodup)
    (h : ∀ np, np ∈ props → compatS n es eo np.2.ty np.2.ty = .ok ()) :
    compatS (n + 1) es eo (.obj id props) (.obj id props) = .ok () :=
  compatS_obj_obj_ok.2 ⟨rfl, fun kp hkp => by
    rw [objPropCompat, lookupS_of_mem (a := kp.2) hnd hkp]
    exact congrArg (Out.addSeg kp.1) (h kp hkp), fun kp hkp _ => hasKey_eq_true_iff.2 ⟨kp.2, hkp⟩⟩

theorem compatS_oneOf_self {ik : Bool} {d : String} {inl : Bool} {ms : List (Key × Ty)}
    (hnd : (ms.map Prod.fst).Nodup) (h : ∀ m, m ∈ ms → compatS n es eo m.2 m.2 = .ok ()) :
    compatS (n + 1) es eo (.oneOf ik d inl ms) (.oneOf ik d inl ms) = .ok () :=
  compatS_oneOf_oneOf_ok.2 ⟨rfl, rfl, fun km hkm => by
    rw [oneOfMemberCompat, lookupK_of_mem (a := km.2) hnd hkm]
    exact rewrapC_eq_ok.2 (h km hkm)⟩

end

/-- Every such schema is compatible with itself (for whatever environments: it has no references). -/
theorem C15_reflexive_partial {t : Ty} {n : Nat} (h : SelfOK t n) : ∀ es eo, compatS (n + 1) es eo t t = .ok () := by
  induction h with
  | int hr => exact fun _ _ => compatS_int_self hr
  | float hr => exact fun _ _ => compatS_float_self hr
  | str hr => exact fun _ _ => compatS_str_self hr
  | bool | pattern | any => exact fun _ _ => rfl
  | enumInt | enumStr => exact fun _ _ => if_pos (all_contains_self _)
  | list hr _ ih => exact fun es eo => compatS_list_self hr (ih es eo)
  | map hr _ _ ihk ihv => exact fun es eo => compatS_map_self hr (ihk es eo) (ihv es eo)
  | obj hnd _ ih => exact fun es eo => compatS_obj_self hnd fun np hnp => ih np hnp es eo
  | oneOf hnd _ ih => exact fun es eo => compatS_oneOf_self hnd fun m hm => ih m hm es eo
  | scope hl _ ih =>
    intro es eo
    rw [compatS_scope]
    simp only [hl, ih]

/-- non-vacuity: a nested object with a list, a map, enums and bounded scalars -/
example : SelfOK (.obj "A" [("xs", .mk (.list (.int (some 0) (some 9) none) (some 1) (some 3)) true [] [] [] none false),
                            ("m", .mk (.map (.str none none none) (.enumStr ["a", "b"]) none (some 5)) false [] [] [] none false)]) 2 := by
  refine .obj (by decide +kernel) (fun np hnp => ?_)
  simp at hnp
  rcases hnp with rfl | rfl
  · exact .list (by decide +kernel) (.int (by decide +kernel))
  · exact .map (by decide +kernel) (.str (by decide +kernel)) .enumStr

/-- The same with references and scopes: `SelfOKe env t n` - the schema, read in the environment
    `env`, unfolds through its references to nesting depth at most `n` (so its reference graph is
    acyclic), ranges are non-empty and tables have distinct keys. -/
inductive SelfOKe : Env → Ty → Nat → Prop
  | int {env a b u n} : rangeDisjoint a b a b = false → SelfOKe env (.int a b u) n
  | float {env a b u n} : fRangeDisjoint a b a b = false → SelfOKe env (.float a b u) n
  | str {env a b p n} : rangeDisjoint a b a b = false → SelfOKe env (.str a b p) n
  | bool {env n} : SelfOKe env .bool n
  | pattern {env n} : SelfOKe env .pattern n
  | enumInt {env vs u n} : SelfOKe env (.enumInt vs u) n
  | enumStr {env vs n} : SelfOKe env (.enumStr vs) n
  | any {env n} : SelfOKe env .any n
  | list {env item a b n} : rangeDisjoint a b a b = false → SelfOKe env item n → SelfOKe env (.list item a b) (n + 1)
  | map {env k v a b n} : rangeDisjoint a b a b = false → SelfOKe env k n → SelfOKe env v n → SelfOKe env (.map k v a b) (n + 1)
  | obj {env id props n} : (props.map Prod.fst).Nodup → (∀ np, np ∈ props → SelfOKe env np.2.ty n) →
      SelfOKe env (.obj id props) (n + 1)
  | oneOf {env ik d inl ms n} : (ms.map Prod.fst).Nodup → (∀ m, m ∈ ms → SelfOKe env m.2 n) →
      SelfOKe env (.oneOf ik d inl ms) (n + 1)
  | ref {env id o n} : lookupS id env = some o → SelfOKe env o n → SelfOKe env (.ref id) (n + 1)
  | scope {env objs root o n} : lookupS root objs = some o → SelfOKe objs o n → SelfOKe env (.scope objs root) (n + 1)

/-- Reflexivity for schemas with references: every schema whose reference graph is acyclic (and
    whose ranges are non-empty, keys distinct) is compatible with itself, in its own environment.
    For a reference CYCLE the statement is false of the code: `ValidateCompatibility` of such a scope
    with itself does not terminate (known finding `recursive-scope-self-compat`). -/
theorem C15_reflexive_acyclic {env : Env} {t : Ty} {n : Nat} (h : SelfOKe env t n) :
    compatS (n + 1) env env t t = .ok () := by
  induction h with
  | int hr => exact compatS_int_self hr
  | float hr => exact compatS_float_self hr
  | str hr => exact compatS_str_self hr
  | bool | pattern | any => rfl
  | enumInt | enumStr => exact if_pos (all_contains_self _)
  | list hr _ ih => exact compatS_list_self hr ih
  | map hr _ _ ihk ihv => exact compatS_map_self hr ihk ihv
  | obj hnd _ ih => exact compatS_obj_self hnd ih
  | oneOf hnd _ ih => exact compatS_oneOf_self hnd ih
  | ref hl _ ih =>
    rw [compatS_ref]
    simp only [hl, ih]
  | scope hl _ ih =>
    rw [compatS_scope]
    simp only [hl, ih]

def c15Objs : Env :=
  [("A", .obj "A" [("b", .mk (.ref "B") true [] [] [] none false),
                   ("bs", .mk (.list (.ref "B") none (some 3)) false [] [] [] none false)]),
   ("B", .obj "B" [("n", .mk (.int (some 0) none none) true [] [] [] none false)])]

/-- non-vacuity: a scope whose root refers to a second object, directly and under a list -/
example : SelfOKe [] (.scope c15Objs "A") 5 := by
  have hB : ∀ n, SelfOKe c15Objs (.obj "B" [("n", .mk (.int (some 0) none none) true [] [] [] none false)]) (n + 1) :=
    fun n => .obj (by decide +kernel) (fun np hnp => by simp at hnp; subst hnp; exact .int (by decide +kernel))
  refine .scope (o := .obj "A" _) rfl (.obj (by decide +kernel) (fun np hnp => ?_))
  simp at hnp
  rcases hnp with rfl | rfl
  · exact .ref (o := .obj "B" _) rfl (hB 1)
  · exact .list (by decide +kernel) (.ref (o := .obj "B" _) rfl (hB 0))

example : (compatS 6 [] [] (.scope c15Objs "A") (.scope c15Objs "A")).isOk = true := by decide +kernel

/-- Compatibility checking terminates whenever the CONSUMER schema's reference graph is acyclic
    (`FinDepth es s d`, decidable by `finB`), against ANY producer schema and environment - also a
    cyclic or dangling one: every recursive step descends in the consumer. The budget is the
    consumer's unfolding depth. For a consumer with a reference cycle compared with a producer with
    the same cycle the code does not terminate (known finding `recursive-scope-self-compat`). -/
theorem C15_terminates_acyclic {es : Env} {s : Ty} {d : Nat} (h : FinDepth es s d) (eo : Env) (o : Ty)
    (n : Nat) (hn : d < n) : compatS n es eo s o ≠ .fuel :=
  compatS_halts n h hn eo o

def cycName : PropT := .mk (.str none none none) true [] [] [] none false
def cycNext : PropT := .mk (.ref "A") false [] [] [] none false
def cycProps : List (String × PropT) := [("name", cycName), ("next", cycNext)]
def cycA : Ty := .obj "A" cycProps
def cycEnv : Env := [("A", cycA)]

theorem cyc_aux : ∀ n, compatS n cycEnv cycEnv cycA cycA = .fuel ∧
    compatS n cycEnv cycEnv (.ref "A") (.ref "A") = .fuel
  | 0 => ⟨rfl, rfl⟩
  | n + 1 => by
    obtain ⟨hP, hQ⟩ := cyc_aux n
    refine ⟨?_, hP⟩
    -- `name` is visited first and does not fail; then `next` hangs
    have hname : objPropCompat (fun a b => compatS n cycEnv cycEnv a b) cycProps ("name", cycName) = .fuel ∨
        objPropCompat (fun a b => compatS n cycEnv cycEnv a b) cycProps ("name", cycName) = .ok () := by
      cases n with
      | zero => exact .inl rfl
      | succ m => exact .inr rfl
    have hnext : objPropCompat (fun a b => compatS n cycEnv cycEnv a b) cycProps ("next", cycNext) = .fuel :=
      congrArg (Out.addSeg "next") hQ
    show (forAll _ [("name", cycName), ("next", cycNext)]).bind _ = .fuel
    rw [forAll_cons, forAll_cons, hnext]
    rcases hname with h | h <;> rw [h] <;> rfl

/-- the recorded non-terminating shape: a scope whose object refers to itself, against itself,
    exhausts every budget - and the real code exhausts its stack (known finding) -/
theorem C15_cycle_hangs (n : Nat) : compatS n [] [] (.scope cycEnv "A") (.scope cycEnv "A") = .fuel := by
  cases n with
  | zero => rfl
  | succ k => exact (cyc_aux k).1

/-- ... and it is excluded by the hypothesis of `C15_terminates_acyclic` -/
example : finB 50 [] (.scope cycEnv "A") = none := by decide +kernel

#print axioms C15_obj_property_incompatible
#print axioms C15_obj_property_order
#print axioms C15_oneof_missing_member
#print axioms C15_reflexive_partial
#print axioms C15_reflexive_acyclic
#print axioms C15_terminates_acyclic
#print axioms C15_cycle_hangs

end Arca
