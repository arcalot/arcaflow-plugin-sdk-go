import ArcaModel.Props.C03
import ArcaModel.Lemmas.PathLeads
/-
  C17  A rejection names the offending element: the error is a constraint error whose path is the
       sequence of property names, list indices and map keys from the root to the element.

  The first theorems are compositional: each says how one schema level prefixes exactly its own
  segment to the path reported by the level below when that level holds the only fault. Chaining
  them along the position of the offending element gives the full path. The composed statement
  follows: `C17_path_leads` (the path of EVERY error leads to a position rejected by its own level),
  `C17_plain_error_sites` (which errors are not constraint errors) and `C17_path_leads_C_partial`
  (data-mode compatibility truncates the path at the first object property).
-/
namespace Arca
open Out

/-- the error an operation returned, if any. `Out V` has no `DecidableEq`, `Option Err` has: the
    closed equations `run .. = .err e` of the examples are decided as `errOf (run ..) = some e`
    (`errOf_eq_some`). -/
def errOf {α} : Out α → Option Err
  | .err e => some e
  | _ => none

def Ty.isScalar : Ty → Bool
  | .int _ _ _ | .float _ _ _ | .str _ _ _ | .bool | .pattern | .enumInt _ _ | .enumStr _ => true
  | _ => false

/-- Every rejection of a raw value by a scalar schema's Unserialize - wrong type, unparsable string,
    out of bounds, length, pattern, not in the enum - is a constraint error with the empty path. -/
theorem C17_leaf (x : Ext) (fuel : Nat) (env : Env) (t : Ty) (v : V) (e : Err) (ht : t.isScalar = true)
    (h : run x (fuel + 1) .U env t v = .err e) : e = ⟨true, []⟩ := by
  cases t with
  | int => exact runInt_own (op := .U) (v := v) e h
  | float => exact runFloat_own (op := .U) (v := v) e h
  | str => exact runStr_own (op := .U) (v := v) e h
  | bool => exact runBool_own (op := .U) (v := v) e h
  | pattern => exact runPattern_own (op := .U) (v := v) e h
  | enumInt => exact runEnumInt_own (op := .U) (v := v) e h
  | enumStr => exact runEnumStr_own (op := .U) (v := v) e h
  | _ => cases ht

/-- If the element at index `i` is the only one the item schema rejects (all earlier ones are
    accepted), the list reports the item's error with `[i]` prefixed to its path - and as a
    constraint error. -/
theorem C17_list_item (x : Ext) (fuel : Nat) (env : Env) (item : Ty) (min max : Option Int)
    (v : V) (pre : List V) (bad : V) (post pre' : List V) (e : Err)
    (hv : v.sliceElems? = some (pre ++ bad :: post))
    (hlen : LenOK min max (pre ++ bad :: post).length)
    (hpre : Forall2 (fun a y => run x fuel .U env item a = .ok y) pre pre')
    (hbad : run x fuel .U env item bad = .err e) :
    run x (fuel + 1) .U env (.list item min max) v = .err ⟨true, idxSeg pre.length :: e.path⟩ := by
  simp only [run, runList, hv, (checkLen_ok_iff _ _ _).mpr hlen, Out.bind]
  have := forIdx_err_first (f := fun i a => (run x fuel .U env item a).addSeg (idxSeg i)) (n := 0)
    (post := post) (allIdx_addSeg_iff.mpr hpre) (x := bad) (e := ⟨true, idxSeg pre.length :: e.path⟩)
    (by simp [hbad, addSeg])
  rw [this]

/-- If the value under key `k` is the only fault (all earlier entries are accepted and the key
    itself is), the map reports the value's error with `[k]` prefixed. -/
theorem C17_map_value (x : Ext) (fuel : Nat) (env : Env) (kt vt : Ty) (min max : Option Int) (sh : MapShape)
    (pre : List (V × V)) (k bad : V) (post pre' : List (V × V)) (k' : V) (e : Err)
    (hlen : LenOK min max (pre ++ (k, bad) :: post).length)
    (hpre : Forall2 (fun kv kv' => run x fuel .U env kt kv.1 = .ok kv'.1 ∧ run x fuel .U env vt kv.2 = .ok kv'.2) pre pre')
    (hk : run x fuel .U env kt k = .ok k')
    (hbad : run x fuel .U env vt bad = .err e) :
    run x (fuel + 1) .U env (.map kt vt min max) (.map sh (pre ++ (k, bad) :: post)) =
      .err ⟨true, valSeg k :: e.path⟩ := by
  simp only [run, runMap, V.mapEntries?, (checkLen_ok_iff _ _ _).mpr hlen, Out.bind]
  have := forKV_err_first (f := entryKV (run x fuel) .U env kt vt) (post := post)
    (allKV_entry_iff.mpr hpre) (k := k) (v := bad) (e := ⟨true, valSeg k :: e.path⟩)
    (by simp [entryKV, hk, hbad, addSeg, Out.bind])
  rw [this]

/-- If the key `k` itself is the only fault, the map reports the key's error with `{k}` prefixed. -/
theorem C17_map_key (x : Ext) (fuel : Nat) (env : Env) (kt vt : Ty) (min max : Option Int) (sh : MapShape)
    (pre : List (V × V)) (k val : V) (post pre' : List (V × V)) (e : Err)
    (hlen : LenOK min max (pre ++ (k, val) :: post).length)
    (hpre : Forall2 (fun kv kv' => run x fuel .U env kt kv.1 = .ok kv'.1 ∧ run x fuel .U env vt kv.2 = .ok kv'.2) pre pre')
    (hbad : run x fuel .U env kt k = .err e) :
    run x (fuel + 1) .U env (.map kt vt min max) (.map sh (pre ++ (k, val) :: post)) =
      .err ⟨true, keySeg k :: e.path⟩ := by
  simp only [run, runMap, V.mapEntries?, (checkLen_ok_iff _ _ _).mpr hlen, Out.bind]
  have := forKV_err_first (f := entryKV (run x fuel) .U env kt vt) (post := post)
    (allKV_entry_iff.mpr hpre) (k := k) (v := val) (e := ⟨true, keySeg k :: e.path⟩)
    (by simp [entryKV, hbad, addSeg, Out.bind])
  rw [this]

/-- If the value of the present property `id` is the only fault - every EARLIER entry of the
    (defaulted) map is accepted by its property's type - the object reports the value's error
    with the property name prefixed. -/
theorem C17_obj_property (x : Ext) (fuel : Nat) (env : Env) (oid : String) (props : List (String × PropT))
    (sh : MapShape) (kvs : List (V × V)) (skvs pre post pre' : List (String × V)) (id : String) (p : PropT) (d : V) (e : Err)
    (hs : strKeys? kvs = some skvs) (hdecl : ∀ kv, kv ∈ skvs → hasKey kv.1 props = true)
    (hdef : applyDefaults props skvs = .ok (pre ++ (id, d) :: post))
    (hl : lookupS id props = some p) (hdis : p.disabled = false) (hbad : run x fuel .U env p.ty d = .err e)
    (hpre : AllSV (objEntryU (run x fuel) env props) pre pre') :
    run x (fuel + 1) .U env (.obj oid props) (.map sh kvs) = .err ⟨true, id :: e.path⟩ := by
  have hany := any_undeclared_eq_false.mpr hdecl
  simp only [run, runObj, objRaw, V.mapEntries?, hs, hany, hdef, Out.bind, Bool.false_eq_true, if_false]
  rw [forSV_err_first hpre (e := ⟨true, id :: e.path⟩) (by simp [objEntryU, hl, hdis, hbad, addSeg])]

/-- A missing required property (more generally: a property whose presence rule is the only one
    violated) is reported as a constraint error whose path is that property's name. -/
theorem C17_presence_rule (isSet : String → Bool) (id : String) (p : PropT) :
    ∀ (props : List (String × PropT)), (id, p) ∈ props → (props.map Prod.fst).Nodup →
      ¬ RuleHolds isSet id p → (∀ np, np ∈ props → np.1 ≠ id → RuleHolds isSet np.1 np.2) →
      interdeps props isSet = .err ⟨true, [id]⟩ := by
  intro props
  unfold interdeps
  induction props with
  | nil => nofun
  | cons np rest ih =>
    obtain ⟨id0, p0⟩ := np
    intro hm hnd hbad hothers
    rw [interdeps_go_cons]
    rcases List.mem_cons.mp hm with heq | hm'
    · cases heq
      rw [if_pos (Bool.not_eq_false _ ▸ fun h => hbad ((ruleBroken_eq_false _ _ _).mp h))]; rfl
    · have hne : id0 ≠ id := fun he => (List.nodup_cons.mp hnd).1 (he ▸ List.mem_map.mpr ⟨(id, p), hm', rfl⟩)
      rw [(ruleBroken_eq_false _ _ _).mpr (hothers (id0, p0) List.mem_cons_self hne), if_neg Bool.false_ne_true]
      exact ih hm' (List.nodup_cons.mp hnd).2 hbad fun np hnp => hothers np (List.mem_cons_of_mem _ hnp)

/-- An undeclared key is reported as a constraint error at the enclosing object (empty relative
    path; the key is named in the message). -/
theorem C17_obj_undeclared_key (x : Ext) (fuel : Nat) (env : Env) (oid : String) (props : List (String × PropT))
    (sh : MapShape) (kvs : List (V × V)) (skvs : List (String × V)) (k : String) (v : V)
    (hs : strKeys? kvs = some skvs) (hk : (k, v) ∈ skvs) (hund : hasKey k props = false) :
    run x (fuel + 1) .U env (.obj oid props) (.map sh kvs) = .err ⟨true, []⟩ := by
  have hany : (skvs.any fun kv => !hasKey kv.1 props) = true :=
    List.any_eq_true.mpr ⟨(k, v), hk, by simp [hund]⟩
  simp [run, runObj, objRaw, V.mapEntries?, hs, hany, Out.bind, cerr]

/-! ### references, scopes and one-of add no segment -/

theorem C17_ref_passthrough (x : Ext) (fuel : Nat) (op : Op) (env : Env) (id : String) (o : Ty) (v : V)
    (hl : lookupS id env = some o) : run x (fuel + 1) op env (.ref id) v = run x fuel op env o v := by
  simp [run, hl]

theorem C17_scope_passthrough (x : Ext) (fuel : Nat) (op : Op) (env : Env) (objs : List (String × Ty)) (root : String)
    (o : Ty) (v : V) (hl : lookupS root objs = some o) :
    run x (fuel + 1) op env (.scope objs root) v = run x fuel op objs o v := by
  simp [run, hl]

/-- The selected member's rejection is the one-of's rejection, unchanged (the one-of level is not a
    property name, index or key). -/
theorem C17_oneof_passthrough (x : Ext) (fuel : Nat) (env : Env) (intKey : Bool) (disc : String) (inlined : Bool)
    (members : List (Key × Ty)) (sh : MapShape) (kvs : List (V × V))
    (dk d : V) (key : Key) (m : List (String × V)) (mt : Ty) (e : Err)
    (hsh : sh.key = .any ∨ sh.key = .string)
    (hfind : kvs.find? (isDiscKey disc) = some (dk, d))
    (hkey : DiscDenotes x intKey d key) (hm : strKeys? kvs = some m) (hmt : lookupK key members = some mt)
    (hbad : run x fuel .U env mt (toStrAny (if inlined then m else eraseKey disc m)) = .err e) :
    run x (fuel + 1) .U env (.oneOf intKey disc inlined members) (.map sh kvs) = .err e :=
  (oneOfUnser_routed (.mk hsh hfind hkey hm hmt)).trans (by rw [hbad]; rfl)

#print axioms C17_leaf
#print axioms C17_list_item
#print axioms C17_map_value
#print axioms C17_map_key
#print axioms C17_obj_property
#print axioms C17_presence_rule
#print axioms C17_obj_undeclared_key
#print axioms C17_oneof_passthrough

/-! ### the composed statement: every rejection's path leads to the fault

The definitions are in `Lemmas/PathLeads.lean`:

* `Pos` - a position: operation, enclosing scope's objects, sub-schema, sub-value;
* `PathStep x p segs q` - one schema level at `p` hands `q`'s value to `q`'s schema under the segments
  `segs` (`[i]`, `[k]`, `{k}`, a property name, `{oneof[k]}` under Validate; NO segment for
  reference -> target, scope -> root, one-of -> selected member), one constructor per call site of the model;
* `Leads x p path q` - the reflexive-transitive closure, concatenating the segments;
* `FailsHere x n q` - `q`, run on its own, returns an error with the EMPTY path, and nothing `q` passes its
  value to without a segment is rejected: the rejection is `q`'s own;
* `NamesProperty x n q name` - the object level `q` rejects with the path `[name]` because the declared
  property `name` violates its presence rule (it is typically ABSENT) or is disabled. This is the
  one case where the last segment does not lead to a sub-value that is itself at fault, so the
  conclusion is a disjunction rather than a step of `Leads` to a value that is not there.

No well-formedness hypothesis is needed: on an ill-formed schema (dangling reference, scope
without root) the model panics, it does not return an error. -/

/-- C17, composed, for Unserialize, Validate and Serialize alike. EVERY error returned for ANY
    schema, value, externals and budget is located:
    (1) it is a `ConstraintError` unless its path is empty (see `C17_plain_error_sites` for which
        errors those are);
    (2) its path, followed segment by segment from the root, arrives at a position that is
        rejected by its own level (`FailsHere`) - or all but the last segment arrives at an object
        that rejects and names, in the last segment, the declared property whose presence rule is
        violated / which is disabled (`NamesProperty`). -/
theorem C17_path_leads (x : Ext) (n : Nat) (op : Op) (env : Env) (t : Ty) (v : V) (e : Err) (hop : op ≠ .C)
    (h : run x n op env t v = .err e) :
    (e.constraint = true ∨ e.path = []) ∧
    ((∃ q, Leads x ⟨op, env, t, v⟩ e.path q ∧ FailsHere x n q) ∨
     (∃ pre name q, e.path = pre ++ [name] ∧ Leads x ⟨op, env, t, v⟩ pre q ∧ NamesProperty x n q name)) := by
  obtain ⟨hl, hc⟩ := verdict x n ⟨op, env, t, v⟩ e h
  refine ⟨hc.imp_right And.left, ?_⟩
  rcases hl with h1 | h2 | ⟨q, hq, hqc, _⟩
  · exact .inl h1
  · exact .inr h2
  · exact absurd hqc (hq.op_ne_C hop)

/-- C17 for Unserialize: a rejection of raw input is a constraint error (unless its path is
    empty) whose path leads, segment by segment, to the sub-value its own sub-schema rejects. -/
theorem C17_path_leads_U (x : Ext) (n : Nat) (env : Env) (t : Ty) (v : V) (e : Err)
    (h : run x n .U env t v = .err e) :
    (e.constraint = true ∨ e.path = []) ∧
    ((∃ q, Leads x ⟨.U, env, t, v⟩ e.path q ∧ FailsHere x n q) ∨
     (∃ pre name q, e.path = pre ++ [name] ∧ Leads x ⟨.U, env, t, v⟩ pre q ∧ NamesProperty x n q name)) :=
  C17_path_leads x n .U env t v e (by simp) h

/-- C17 for Validate (native values; the one-of level contributes the segment `{oneof[key]}`). -/
theorem C17_path_leads_V (x : Ext) (n : Nat) (env : Env) (t : Ty) (v : V) (e : Err)
    (h : run x n .V env t v = .err e) :
    (e.constraint = true ∨ e.path = []) ∧
    ((∃ q, Leads x ⟨.V, env, t, v⟩ e.path q ∧ FailsHere x n q) ∨
     (∃ pre name q, e.path = pre ++ [name] ∧ Leads x ⟨.V, env, t, v⟩ pre q ∧ NamesProperty x n q name)) :=
  C17_path_leads x n .V env t v e (by simp) h

/-- C17 for Serialize (the position arrived at may be a Validate position: lists and maps
    validate every element before serializing it). -/
theorem C17_path_leads_S (x : Ext) (n : Nat) (env : Env) (t : Ty) (v : V) (e : Err)
    (h : run x n .S env t v = .err e) :
    (e.constraint = true ∨ e.path = []) ∧
    ((∃ q, Leads x ⟨.S, env, t, v⟩ e.path q ∧ FailsHere x n q) ∨
     (∃ pre name q, e.path = pre ++ [name] ∧ Leads x ⟨.S, env, t, v⟩ pre q ∧ NamesProperty x n q name)) :=
  C17_path_leads x n .S env t v e (by simp) h

/-- WHICH errors are not `ConstraintError`s. If the returned error is a plain one, then its path is
    empty and, following references / the scope root / the selected one-of member from the root
    (no segment), one arrives at one of exactly three sites (`PlainSite`) which itself returns the
    plain error: an any-schema (value of a defined integer or float32 type, integer beyond
    int64), a one-of unserializing `nil`, or the single-property shorthand of an object. Below a
    property, index or key every error is a constraint error. -/
theorem C17_plain_error_sites (x : Ext) (n : Nat) (op : Op) (env : Env) (t : Ty) (v : V) (e : Err) (hop : op ≠ .C)
    (h : run x n op env t v = .err e) (hc : e.constraint = false) :
    e.path = [] ∧ ∃ q, Leads x ⟨op, env, t, v⟩ [] q ∧ q.run x n = .err ⟨false, []⟩ ∧ PlainSite q := by
  clear hop  -- data-mode compatibility is no exception here
  rcases (verdict x n ⟨op, env, t, v⟩ e h).2 with hc' | hr
  · rw [hc] at hc'; cases hc'
  · exact hr

/-- The path never names an element that is fine: a position blamed by `FailsHere` is rejected when
    its sub-schema is run on its sub-value alone - with the empty path - and so is every object
    blamed by `NamesProperty`, with exactly the property's name as path. (Immediate from the
    definitions; stated so that the reader sees it.) -/
theorem C17_blamed_is_rejected (x : Ext) (n : Nat) (q : Pos) :
    (FailsHere x n q → ∃ c, run x n q.op q.env q.ty q.val = .err ⟨c, []⟩) ∧
    (∀ name, NamesProperty x n q name → run x n q.op q.env q.ty q.val = .err ⟨true, [name]⟩) :=
  ⟨fun h => h.1, fun _ h => h.1⟩

/-- The blamed level is never a mere pass-through: a reference or a scope is never the position
    `FailsHere` holds of (their error is always their target's). -/
theorem C17_blamed_not_passthrough (x : Ext) (n : Nat) (q : Pos) (h : FailsHere x n q) :
    (∀ id, q.ty ≠ .ref id) ∧ (∀ objs root, q.ty ≠ .scope objs root) := by
  obtain ⟨op, env, t, v⟩ := q
  obtain ⟨⟨c, hc⟩, hfree⟩ := h
  constructor
  · intro id ht
    simp only at ht
    subst ht
    cases n with
    | zero => simp [Pos.run, run] at hc
    | succ n =>
      simp only [Pos.run, run] at hc
      split at hc
      · simp at hc
      · rename_i o hl
        exact hfree _ (.ref hl) n _ hc
  · intro objs root ht
    simp only at ht
    subst ht
    cases n with
    | zero => simp [Pos.run, run] at hc
    | succ n =>
      simp only [Pos.run, run] at hc
      split at hc
      · simp at hc
      · rename_i o hl
        exact hfree _ (.scope hl) n _ hc

theorem errOf_eq_some {α} {o : Out α} {e : Err} (h : errOf o = some e) : o = .err e := by
  cases o <;> simp [errOf] at h
  rw [h]

/- non-vacuity: scope -> object -> list of (referenced) objects -> map -> bounded int, one planted
    fault: the second item's `m["k"]` is 50, above the maximum 10 -/

def c17X : Ext := ⟨fun _ => none, fun _ => "", fun _ => true, fun _ _ => true⟩

def c17Root : Ty := .obj "Root" [("items", .mk (.list (.ref "Item") none none) true [] [] [] none false)]

def c17Objs : Env :=
  [("Root", c17Root),
   ("Item", .obj "Item"
      [("m", .mk (.map (.str none none none) (.int (some 0) (some 10) none) none none) true [] [] [] none false)])]

def c17Schema : Ty := .scope c17Objs "Root"

def c17Item (n : Int) : V := .map .strAny [(.str "m", .map .strAny [(.str "k", .int .int n)])]

def c17Value : V := .map .strAny [(.str "items", .list [c17Item 5, c17Item 50, c17Item 7])]

/-- the model's answer on the planted fault -/
theorem c17_example_run :
    run c17X 10 .U [] c17Schema c17Value = .err ⟨true, ["items", "[1]", "m", "[k]"]⟩ :=
  errOf_eq_some (by decide)

/-- ... and the witness of `C17_path_leads_U` for it, exhibited: the path leads through the scope,
    the property `items`, index 1, the reference `Item`, the property `m` and the key `k` to the
    integer schema with bounds [0, 10] on the value 50, which that schema rejects on its own. -/
example : Leads c17X ⟨.U, [], c17Schema, c17Value⟩ ["items", "[1]", "m", "[k]"]
      ⟨.U, c17Objs, .int (some 0) (some 10) none, .int .int 50⟩ ∧
    FailsHere c17X 10 ⟨.U, c17Objs, .int (some 0) (some 10) none, .int .int 50⟩ := by
  refine ⟨?_, ⟨true, errOf_eq_some (by decide +kernel)⟩, by intro r hs; cases hs⟩
  have l : Leads c17X ⟨.U, [], c17Schema, c17Value⟩
      ([] ++ (["items"] ++ ([idxSeg 1] ++ ([] ++ (["m"] ++ ([valSeg (.str "k")] ++ []))))))
      ⟨.U, c17Objs, .int (some 0) (some 10) none, .int .int 50⟩ :=
    .step (.scope (o := c17Root) rfl) <|
    .step (.property (m := [("items", .list [c17Item 5, c17Item 50, c17Item 7])]) (d := .list _)
      (p := .mk (.list (.ref "Item") none none) true [] [] [] none false) rfl (by simp) rfl) <|
    .step (.listItem (xs := [c17Item 5, c17Item 50, c17Item 7]) (i := 1) (a := c17Item 50) rfl rfl (Or.inl rfl)) <|
    .step (.ref (o := .obj "Item" _) rfl) <|
    .step (.property (m := [("m", .map .strAny [(.str "k", .int .int 50)])]) (d := .map .strAny _)
      (p := .mk (.map (.str none none none) (.int (some 0) (some 10) none) none none) true [] [] [] none false)
      rfl (by simp) rfl) <|
    .step (.mapValue (sh := .strAny) (kvs := [(.str "k", .int .int 50)]) (k := .str "k") (a := .int .int 50)
      rfl (by simp) (Or.inl rfl)) .here
  have hp : ([] ++ (["items"] ++ ([idxSeg 1] ++ ([] ++ (["m"] ++ ([valSeg (.str "k")] ++ [])))))) =
      ["items", "[1]", "m", "[k]"] := by decide +kernel
  rw [hp] at l
  exact l

/-- the theorem applied to the example -/
example :
    (∃ q, Leads c17X ⟨.U, [], c17Schema, c17Value⟩ ["items", "[1]", "m", "[k]"] q ∧ FailsHere c17X 10 q) ∨
    (∃ pre name q, ["items", "[1]", "m", "[k]"] = pre ++ [name] ∧ Leads c17X ⟨.U, [], c17Schema, c17Value⟩ pre q ∧
      NamesProperty c17X 10 q name) :=
  (C17_path_leads_U _ _ _ _ _ _ c17_example_run).2

/- non-vacuity of the second disjunct: the required property `items` is ABSENT; the error names
    it, and what the path leads to (all but its last segment: through the scope) is the object -/

def c17Empty : V := .map .strAny []

theorem c17_example_missing : run c17X 10 .U [] c17Schema c17Empty = .err ⟨true, ["items"]⟩ :=
  errOf_eq_some (by decide)

example : Leads c17X ⟨.U, [], c17Schema, c17Empty⟩ [] ⟨.U, c17Objs, c17Root, c17Empty⟩ ∧
    NamesProperty c17X 10 ⟨.U, c17Objs, c17Root, c17Empty⟩ "items" := by
  refine ⟨.step (segs := []) (path := []) (.scope rfl) .here, errOf_eq_some (by decide +kernel), "Root", _,
    .mk (.list (.ref "Item") none none) true [] [] [] none false, [], rfl, by simp, rfl, Or.inl ?_⟩
  intro hr
  simp [RuleHolds, hasKey, lookupS, PropT.required] at hr

/-- C17 for data-mode ValidateCompatibility, PARTIAL - and the missing part is false of the model.
    Proved: every rejection is a constraint error unless its path is empty, and its path leads
    (`Leads`, same segments) to a position that (a) fails on its own, or (b) is an object naming
    its disabled property in the last segment, or (c) is the VALUE OF AN OBJECT PROPERTY THAT IS
    REJECTED SOMEWHERE INSIDE (`RejectedBelow`): `PropertySchema.ValidateCompatibility` (and likewise
    the any-schema, the one-of and the non-map object fallback) put the sub-schema's error into
    the MESSAGE of a fresh `ConstraintError`, so the segments below the first property are lost.
    Missing for full strength: in case (c) the path does not reach the offending element. The
    example below shows that this is how the model (and the code it mirrors) behaves. -/
theorem C17_path_leads_C_partial (x : Ext) (n : Nat) (env : Env) (t : Ty) (v : V) (e : Err)
    (h : run x n .C env t v = .err e) :
    (e.constraint = true ∨ e.path = []) ∧
    ((∃ q, Leads x ⟨.C, env, t, v⟩ e.path q ∧ FailsHere x n q) ∨
     (∃ pre name q, e.path = pre ++ [name] ∧ Leads x ⟨.C, env, t, v⟩ pre q ∧ NamesProperty x n q name) ∨
     (∃ q, Leads x ⟨.C, env, t, v⟩ e.path q ∧ RejectedBelow x n q)) := by
  obtain ⟨hl, hc⟩ := verdict x n ⟨.C, env, t, v⟩ e h
  exact ⟨hc.imp_right And.left, hl⟩

/- the truncation is real: the same native value against the same schema - Validate reports the
    full path to the offending integer, data-mode compatibility only the outer property -/

def c17Nested : Ty :=
  .obj "A" [("outer", .mk (.obj "B" [("inner", .mk (.int (some 0) (some 10) none) true [] [] [] none false)])
    true [] [] [] none false)]

def c17NestedVal : V := .map .strAny [(.str "outer", .map .strAny [(.str "inner", .int .int64 50)])]

example : run c17X 10 .V [] c17Nested c17NestedVal = .err ⟨true, ["outer", "inner"]⟩ ∧
    run c17X 10 .C [] c17Nested c17NestedVal = .err ⟨true, ["outer"]⟩ :=
  ⟨errOf_eq_some (by decide +kernel), errOf_eq_some (by decide +kernel)⟩

/- non-vacuity of the hypotheses of `C17_path_leads_S` (Serialize of the native value above) and of
   `C17_plain_error_sites` (a plain error: a one-of unserializing nil) -/
example : run c17X 10 .S [] c17Nested c17NestedVal = .err ⟨true, ["outer", "inner"]⟩ := errOf_eq_some (by decide +kernel)
example : run c17X 10 .U [] (.oneOf false "kind" false []) .nil = .err ⟨false, []⟩ := errOf_eq_some (by decide +kernel)

#print axioms C17_path_leads
#print axioms C17_path_leads_U
#print axioms C17_path_leads_V
#print axioms C17_path_leads_S
#print axioms C17_plain_error_sites
#print axioms C17_path_leads_C_partial
#print axioms C17_blamed_is_rejected
#print axioms C17_blamed_not_passthrough
#print axioms c17_example_run
#print axioms c17_example_missing

end Arca
