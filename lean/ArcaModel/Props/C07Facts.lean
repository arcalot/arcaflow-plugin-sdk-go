import ArcaModel.Gen.AtpServerFacts
import ArcaModel.Model.AtpServer
/-
  C07 / C05, translator tie: the facts about atp/server.go (and schema.CallSignal) that the rules of
  `ArcaModel/Model/AtpServer.lean` assume for the `repaired` configuration, checked against the
  table that `harness atpserverfacts` regenerates from the working tree
  (`ArcaModel/Gen/AtpServerFacts.lean`). A change of the synchronisation structure - the channel
  closed somewhere else, a new sender that is not counted in the wait group, the handler leaving
  its loop early, an Encode outside the encoder mutex, the decode target hoisted out of the loop, a
  different channel capacity - changes the generated table and breaks one of the `decide`s below at
  `lake build`.
-/
namespace Arca.AtpServerFacts

open Arca.Gen.AtpServerFacts Arca.AtpServer

/-- F1. Capacity of `workDone` = the model's `cap`. -/
theorem cap_is_model_cap : workDoneCap = repaired.cap := by decide +kernel

/-- F2. `workDone` is closed in exactly one place, directly after `wg.Wait()` (the closer goroutine
    of `RunATPServer`): the model's `close` action with guard `wg = 0`; no close at the end of the
    read loop (`closeAtLoopEnd = false`). -/
theorem close_is_after_wait : closes = [("RunATPServer", true)] ∧ repaired.closeAtLoopEnd = false := by decide +kernel

/-- F3. Every send on `workDone` is performed by a goroutine that is counted in the wait group
    while it can send (the model's `wg` invariant `InvA.wg`), and the read loop is counted before
    it starts. -/
theorem senders_are_counted : sends.all (·.2) = true ∧ readLoopCountedFirst = true := by decide +kernel

/-- F3'. The senders are the ones the model has: the read loop (`loopSend`), step goroutines
    (`gSend` of kind step: `runStep`), signal goroutines (`gSend` of kind signal: the literal in
    `handleSignalMessage`). -/
theorem senders_are_model_senders :
    (sends.map (·.1)).eraseDups =
      ["handleSignalMessage", "handleWorkStartMessage", "onRuntimeMessageReceived", "runATPReadLoop",
       "runStep", "run"] := by decide +kernel

/-- F4. `handleClosure` leaves its loop only when `workDone` is closed: `drainAfterStop = true`. -/
theorem handler_drains : handlerLeavesOnlyWhenClosed = repaired.drainAfterStop := by decide +kernel

/-- F5. The decode target is per iteration: `freshDecode = true`. -/
theorem decode_is_fresh : decodeTargetInLoop = repaired.freshDecode := by decide +kernel

/-- F6. Unknown signals are errors and signal handler panics are recovered: `signalGuarded`. -/
theorem signals_guarded : (callSignalChecksLookup && signalGoroutineRecovers) = repaired.signalGuarded := by decide +kernel

/-- F7 (writer atomicity, used by C05 and by the model's `written` list): every Encode on the
    shared encoder happens under the encoder mutex, except the hello message, which `run()` writes
    before the read loop - the only spawner of other writers - starts. -/
theorem encodes_are_serialised :
    encodes.all (fun e => e.2 != .unguarded) = true ∧ helloBeforeReadLoop = true ∧
    encodes = [("sendInitialMessagesToClient", .init), ("sendRuntimeMessage", .locked)] := by decide +kernel

/-- Stated, not proved away: `sendRuntimeMessage` stops waiting for a stalled Encode after a
    timeout and releases the mutex while that Encode may still be running. Writer atomicity is
    therefore an assumption for clients that stop reading the output for longer than the timeout;
    the model's `written` list does not cover that situation. -/
theorem encode_wait_has_timeout : encodeWaitHasTimeout = true := by decide +kernel

/-! ### unsynchronised session state is confined to the read loop's goroutine

The LTS gives `runningSteps` (and the decode target, and the stdin decoder) to the read loop alone:
`react` reads and extends `running` inside the `loopRead` action, no goroutine action touches it.
In the Go code `runningSteps` is a plain map without a lock, so this is only true as long as every
access sits on the call chain run -> runATPReadLoop -> onRuntimeMessageReceived ->
handleWorkStartMessage / handleSignalMessage, outside `go` literals (context `loop`). An access from
a step or signal goroutine (context `spawned`) or from `handleClosure` (`main`) is a data race - the
runtime ends the process with `fatal error: concurrent map writes`, which nothing can recover. -/

def accessesOf (f : String) : List Access := accesses.filter (fun a => a.field == f)

/-- F8. `runningSteps` is touched exactly twice, both times on the read loop's goroutine: the insert
    in `handleWorkStartMessage` and the lookup in `handleSignalMessage`. -/
theorem runningSteps_read_loop_only :
    accessesOf "runningSteps" =
      [⟨"runningSteps", "read", "handleSignalMessage", "loop"⟩,
       ⟨"runningSteps", "write", "handleWorkStartMessage", "loop"⟩] := by decide +kernel

/-- F9. More generally: a field of the session that is neither a channel, a mutex nor a wait group
    and that is ever written, deleted from, ranged over or has its address taken after
    construction is accessed from the read loop's goroutine only; and a map is never accessed from
    anywhere else, written or not. The remaining fields are only read (their values are interfaces
    or pointers whose methods synchronise themselves: context, pipe, plugin schema; the stdout
    encoder is F7's subject). -/
theorem mutated_fields_read_loop_only :
    sharedFields.all (fun f =>
      let as := accessesOf f.1
      ((as.all (fun a => a.kind == "read")) && !(mapFields.contains f.1)) ||
        as.all (fun a => a.ctx == "loop" || a.ctx == "init")) = true := by decide +kernel

/-- F10. The stdin decoder (stateful, not safe for concurrent use) is used by the read loop's
    goroutine only: the start message in `sendInitialMessagesToClient`, then `runATPReadLoop`. -/
theorem decoder_read_loop_only :
    (accessesOf "cborStdin").all (fun a => a.ctx == "loop") = true ∧
    (accessesOf "cborStdin").length = 2 := by decide +kernel

/-- F11. No function of server.go is unreachable from `RunATPServer` (every access above has a
    goroutine context). -/
theorem every_access_has_a_context :
    accesses.all (fun a => a.ctx == "loop" || a.ctx == "spawned" || a.ctx == "main" || a.ctx == "init") = true := by
  decide +kernel

end Arca.AtpServerFacts
