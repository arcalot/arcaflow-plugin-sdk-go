import ArcaModel.Props.StructRoundTrip
/-
  One-ofs over struct-mapped members (`NewOneOfStringSchema[any]` / `NewOneOfIntSchema[any]` whose
  members are `NewStructMappedObjectSchema[T]`): dispatch (C03), round trip (C01), totality (C04).

  Unserialize routes by the discriminator of the raw map; Validate and Serialize route through
  `findUnderlyingType`, by the DYNAMIC TYPE of the struct value. The two routes agree only when the
  members' struct types are pairwise distinct - part of `wfSB` / `rtOKB`;
  `oneof_shared_type_order_dependent` shows what happens otherwise.

  (a) dispatch: `C03_struct_oneof_unser_iff`, `C03_struct_oneof_unser_struct`,
      `C03_struct_oneof_selects`, `C03_struct_oneof_refuses`;
  (b) round trip: `C01_struct_oneof_roundtrip` (separate and inlined discriminator; the instance of
      `C01_struct_end_to_end_partial`, whose hypotheses `RTOK` have the clauses `oneOf` / `oneOfInl`),
      `C01_struct_oneof_inlined_restores` (the dropped treat-empty-as-default discriminator is put back);
  (c) totality: `C04_struct_no_panic` covers one-ofs through `WFS.oneOf`;
      `C04_struct_oneof_nonobject_member_panics` is the ill-formed shape that panics.
-/
namespace Arca
namespace SM

/-- **Unserialize accepts iff the discriminator denotes a declared member and that member accepts**
    (the map's key type allows strings, all keys are strings, the discriminator - read with the key
    type's lenient mapper - is the key of a declared member, which accepts the map: with the
    discriminator when it is inlined, without it otherwise). The result is the member's result -
    `oneOfOut`: a struct is returned as it is, a `map[string]any` gets the converted discriminator. -/
theorem C03_struct_oneof_unser_iff (x : Ext) (fuel : Nat) (ik : Bool) (disc : String) (inl : Bool)
    (members : List (Key × STy)) (s r : SV) :
    srun x (fuel + 1) .U (.oneOf ik disc inl members) s = .ok r ↔
      ∃ sh kvs dk d key m mt mr, s.toV? = some (.map sh kvs) ∧ (sh.key = .any ∨ sh.key = .string) ∧
        kvs.find? (isDiscKey disc) = some (dk, d) ∧ DiscDenotes x ik d key ∧ strKeys? kvs = some m ∧
        lookupK key members = some mt ∧
        srun x fuel .U mt (.val (toStrAny (if inl then m else eraseKey disc m))) = .ok mr ∧
        oneOfOut disc key mr = .ok r := by
  simp only [srun, runOneOfS]
  constructor
  · intro h
    obtain ⟨R, hout⟩ := oneOfUnserS_routes h
    exact ⟨_, _, _, _, _, _, _, _, R.input, R.keyTy, R.discEntry, R.denotes, R.strKeys, R.member, R.accepted, hout⟩
  · intro ⟨sh, kvs, dk, d, key, m, mt, mr, hs, hsh, hfind, hkey, hm, hmt, hmr, hout⟩
    rw [oneOfUnserS_accepts hs hsh hfind hkey hm hmt hmr]
    exact hout

/-- ... and when the members are struct-mapped objects the result is a struct value whose dynamic
    type is the struct type of one of the members. -/
theorem C03_struct_oneof_unser_struct (x : Ext) (fuel : Nat) (ik : Bool) (disc : String) (inl : Bool)
    (members : List (Key × STy)) (hobj : ∀ m, m ∈ members → ObjLikeS m.2) (s r : SV)
    (h : srun x (fuel + 1) .U (.oneOf ik disc inl members) s = .ok r) :
    ∃ key mt, (key, mt) ∈ members ∧ svTy? r = some (reflTy mt) := by
  obtain ⟨R, hout⟩ := oneOfUnserS_routes (rec := srun x fuel) h
  have hmm := lookupK_mem R.member
  have hty := srun_U_objLike x fuel R.mt _ R.mr (hobj _ hmm) R.accepted
  rw [oneOfOut_struct hty] at hout
  cases hout
  exact ⟨R.key, R.mt, hmm, hty⟩

/-- **Validate and Serialize of a struct value select the member of its dynamic type**: when the
    members' struct types are pairwise distinct, a value whose dynamic type is the struct type of
    the member `(key, mt)` is validated by `mt`, and serialized by `mt` with `key` attached as the
    discriminator unless `mt` serialized one itself. -/
theorem C03_struct_oneof_selects (x : Ext) (fuel : Nat) (ik : Bool) (disc : String) (inl : Bool)
    (members : List (Key × STy)) (hnd : (members.map fun m => reflTy m.2).Nodup)
    (key : Key) (mt : STy) (hm : (key, mt) ∈ members) (s : SV) (hs : svTy? s = some (reflTy mt)) :
    srun x (fuel + 1) .V (.oneOf ik disc inl members) s =
      ((srun x fuel .V mt s).addSeg ("{oneof[" ++ key.fmt ++ "]}")).bind (fun _ => .ok (.val unitV)) ∧
    ∀ rm, srun x fuel .S mt s = .ok (.val (toStrAny rm)) →
      srun x (fuel + 1) .S (.oneOf ik disc inl members) s =
        .ok (.val (toStrAny (if hasKey disc rm then rm else rm ++ [(disc, key.toV)]))) := by
  have hfm := findMember_unique hnd hm hs
  exact ⟨by simp only [srun, runOneOfS, hfm], fun rm hrm => by simp only [srun]; exact runOneOfS_S_of_member hfm hrm⟩

/-- ... and a value of no member's type is refused by both. -/
theorem C03_struct_oneof_refuses (x : Ext) (fuel : Nat) (ik : Bool) (disc : String) (inl : Bool)
    (members : List (Key × STy)) (s : SV) (h : ∀ km, km ∈ members → svTy? s ≠ some (reflTy km.2)) :
    srun x (fuel + 1) .V (.oneOf ik disc inl members) s = .cerr ∧
    srun x (fuel + 1) .S (.oneOf ik disc inl members) s = .cerr := by
  have hfm := findMember_none h
  exact ⟨by simp only [srun, runOneOfS, hfm], by simp only [srun, runOneOfS, hfm]⟩

/-- **Which ill-formed one-of panics**: Serialize asserts that the member serialized to a
    `map[string]any` (`serializedData.(map[string]any)`); a member that is no object (only a cast
    through `Object` could build one) and accepts the value breaks the assertion. -/
theorem C04_struct_oneof_nonobject_member_panics (rec : SRec) (x : Ext) (ik : Bool) (disc : String) (inl : Bool)
    (members : List (Key × STy)) (key : Key) (mt : STy) (s r : SV)
    (hf : findMember members s = some (key, mt)) (hr : rec .S mt s = .ok r)
    (hnm : ∀ rk, r ≠ .val (.map ⟨.string, true⟩ rk)) :
    runOneOfS rec x .S ik disc inl members s = .panic := by
  -- `hnm` is what sends the `match` on `r` to its last branch: `simp` takes it from the context
  -- for the side condition of that branch's equation
  simp only [runOneOfS, hf, hr, Out.bind]

/-- **Round trip through a one-of over struct-mapped members** - the instance of
    `C01_struct_end_to_end_partial` for a one-of, separate or inlined discriminator alike: the members
    satisfy the round-trip hypotheses, are struct-mapped objects (possibly in scopes) of pairwise
    distinct struct types, and are consistent about the discriminator (`RTOK.oneOf` /
    `RTOK.oneOfInl`; decidable: `rtOKB`). Then every accepted input yields a struct that validates,
    serializes to `w`, and `w` leads back - through the SAME member (`Eqv.oneOf`) - to a struct
    identified with the first, which validates and serializes to the identical `w`. -/
theorem C01_struct_oneof_roundtrip (x : Ext) (fuel d : Nat) (ik : Bool) (disc : String) (inl : Bool)
    (members : List (Key × STy)) (hok : RTOK d (.oneOf ik disc inl members)) (hd : d ≤ fuel)
    (v s : SV) (hU : srun x fuel .U (.oneOf ik disc inl members) v = .ok s) :
    srun x fuel .V (.oneOf ik disc inl members) s = .ok (.val unitV) ∧
    ∃ w s' km, srun x fuel .S (.oneOf ik disc inl members) s = .ok (.val w) ∧
      srun x fuel .U (.oneOf ik disc inl members) (.val w) = .ok s' ∧ km ∈ members ∧ Eqv km.2 s s' ∧
      srun x fuel .V (.oneOf ik disc inl members) s' = .ok (.val unitV) ∧
      srun x fuel .S (.oneOf ik disc inl members) s' = .ok (.val w) := by
  obtain ⟨hV, w, s', hS, hU2, hE, hV2, hS2⟩ := C01_struct_end_to_end_partial x fuel d _ hok hd v s hU
  have : ∃ km, km ∈ members ∧ Eqv km.2 s s' := by
    cases hE with
    | refl =>
      obtain ⟨f, rfl⟩ : ∃ f, fuel = f + 1 := by
        cases fuel with
        | zero => simp [srun] at hU
        | succ f => exact ⟨f, rfl⟩
      obtain ⟨R, _⟩ := oneOfUnserS_routes (rec := srun x f) hU
      exact ⟨(R.key, R.mt), lookupK_mem R.member, .refl⟩
    | oneOf hkm hE' => exact ⟨_, hkm, hE'⟩
  obtain ⟨km, hkm, hE'⟩ := this
  exact ⟨hV, w, s', km, hS, hU2, hkm, hE', hV2, hS2⟩

/-- **Inlined discriminator, treat-empty-as-default: the one-of restores what the member dropped**
    (the documented loss, made explicit). When the selected member serialized WITHOUT the
    discriminator (its inlined discriminator field is treat-empty-as-default and holds the zero
    value: the member keyed by 0 / ""), Serialize of the one-of attaches the key of the member found
    by the value's type - at the end of the map, typed as the key - and Unserialize of that wire
    form is routed to the SAME member, which receives the wire form with the restored discriminator
    (that it rebuilds an identified struct from it is part of `C01_struct_oneof_roundtrip`). -/
theorem C01_struct_oneof_inlined_restores (x : Ext) (fuel : Nat) (ik : Bool) (disc : String)
    (members : List (Key × STy)) (hnd : (members.map fun m => reflTy m.2).Nodup)
    (key : Key) (mt : STy) (hl : lookupK key members = some mt) (s : SV) (hs : svTy? s = some (reflTy mt))
    (hkey : ∃ d, DiscDenotes x ik d key)
    (rm : List (String × V)) (hrm : srun x fuel .S mt s = .ok (.val (toStrAny rm))) (hno : hasKey disc rm = false) :
    srun x (fuel + 1) .S (.oneOf ik disc true members) s = .ok (.val (toStrAny (rm ++ [(disc, key.toV)]))) ∧
    ∀ mr, srun x fuel .U mt (.val (toStrAny (rm ++ [(disc, key.toV)]))) = .ok mr →
      srun x (fuel + 1) .U (.oneOf ik disc true members) (.val (toStrAny (rm ++ [(disc, key.toV)]))) =
        oneOfOut disc key mr := by
  obtain ⟨d, hd⟩ := hkey
  have hsel := (C03_struct_oneof_selects x fuel ik disc true members hnd key mt (lookupK_mem hl) s hs).2 rm hrm
  simp only [hno, Bool.false_eq_true, if_false] at hsel
  refine ⟨hsel, fun mr hmr => ?_⟩
  simp only [srun, runOneOfS]
  exact oneOfUnserS_accepts (s := .val (toStrAny (rm ++ [(disc, key.toV)]))) (sh := .strAny)
    (kvs := (rm ++ [(disc, key.toV)]).map fun (kv : String × V) => (V.str kv.1, kv.2))
    (by simp [toV_val, toStrAny]) (Or.inr rfl) (find_disc_append disc key.toV rm hno)
    (discDenotes_toV hd) (strKeys_toStrAny _) hl (by simpa using hmr)

/-! ### instances: non-vacuity, and what happens when two members share a struct type -/

namespace OneOfExample

/-- `type Circle struct { R int64 `json:"r"`; Label *string `json:"label,omitempty"` }` -/
def stCircle : StructTy := ⟨"Circle", [
  ⟨"R", "r", true, .int .int64, .val (.int .int64 0)⟩,
  ⟨"Label", "label,omitempty", true, .ptr .str, .nilPtr⟩]⟩
/-- `type Square struct { S int64 `json:"s"` }` -/
def stSquare : StructTy := ⟨"Square", [⟨"S", "s", true, .int .int64, .val (.int .int64 0)⟩]⟩
/-- `type Holder struct { Shape any `json:"shape"`; Name string `json:"name"` }` -/
def stHolder : StructTy := ⟨"Holder", [
  ⟨"Shape", "shape", true, .iface, .val .nil⟩,
  ⟨"Name", "name", true, .str, .val (.str "")⟩]⟩

def circleObj : STy := .obj "Circle" stCircle false [
  ("r", .mk (.leaf (.int none none none)) true [] [] [] none false false),
  ("label", .mk (.leaf (.str none none none)) false [] [] [] none false false)]
def squareObj : STy := .scope (.obj "Square" stSquare false [
  ("s", .mk (.leaf (.int none none none)) true [] [] [] none false false)])

/-- `NewOneOfStringSchema[any]({"circle": ..., "square": ...}, "_type", false)` -/
def shape : STy := .oneOf false "_type" false [(.s "circle", circleObj), (.s "square", squareObj)]

def holderObj : STy := .scope (.obj "Holder" stHolder false [
  ("shape", .mk shape true [] [] [] none false false),
  ("name", .mk (.leaf (.str none none none)) false [] [] [] none false true)])

theorem holderObj_checks : wfSB 6 holderObj = true ∧ rtOKB 6 holderObj = true := by decide +kernel

/-- the instance is well-formed and inside the round trip theorem's scope ... -/
example : wfSB 6 holderObj = true ∧ rtOKB 6 holderObj = true := holderObj_checks
/-- ... so no operation on it panics, and the end-to-end round trip holds of it -/
example (x : Ext) (fuel : Nat) (op : SOp) (s : SV) : srun x fuel op holderObj s ≠ .panic :=
  srun_np x fuel op holderObj s (wfSB_sound 6 _ holderObj_checks.1)
example (x : Ext) (fuel : Nat) (hf : 8 ≤ fuel) (v s : SV) (hU : srun x fuel .U holderObj v = .ok s) :
    srun x fuel .V holderObj s = .ok (.val unitV) ∧
    ∃ w s', srun x fuel .S holderObj s = .ok (.val w) ∧ srun x fuel .U holderObj (.val w) = .ok s' ∧ Eqv holderObj s s' ∧
      srun x fuel .V holderObj s' = .ok (.val unitV) ∧ srun x fuel .S holderObj s' = .ok (.val w) :=
  C01_struct_end_to_end_partial x fuel 8 holderObj (rtOKB_sound 6 holderObj holderObj_checks.2) hf v s hU

/-- the struct in the interface field; Serialize attaches the discriminator of the member found by
    the struct's type -/
example (x : Ext) :
    srun x 8 .U holderObj (.val (toStrAny [("shape", toStrAny [("_type", .str "square"), ("s", .int .int64 3)])])) =
      .ok (.struct "Holder" [("Shape", .struct "Square" [("S", .val (.int .int64 3))]), ("Name", .val (.str ""))]) := by rfl
example (x : Ext) :
    srun x 8 .S holderObj (.struct "Holder" [("Shape", .struct "Square" [("S", .val (.int .int64 3))]), ("Name", .val (.str ""))]) =
      .ok (.val (toStrAny [("shape", toStrAny [("s", .int .int64 3), ("_type", .str "square")])])) := by rfl

/-- `type Stop struct { Kind int64 `json:"kind"`; Reason string `json:"reason"` }` and
    `type Go struct { Kind int64 `json:"kind"`; Speed int64 `json:"speed"` }`: an inlined int
    discriminator, treat-empty-as-default -/
def stStop : StructTy := ⟨"Stop", [
  ⟨"Kind", "kind", true, .int .int64, .val (.int .int64 0)⟩,
  ⟨"Reason", "reason", true, .str, .val (.str "")⟩]⟩
def stGo : StructTy := ⟨"Go", [
  ⟨"Kind", "kind", true, .int .int64, .val (.int .int64 0)⟩,
  ⟨"Speed", "speed", true, .int .int64, .val (.int .int64 0)⟩]⟩
def kindProp : SProp := .mk (.leaf (.int none none none)) false [] [] [] none false true
def stopObj : STy := .obj "Stop" stStop false [
  ("kind", kindProp), ("reason", .mk (.leaf (.str none none none)) false [] [] [] none false false)]
def goObj : STy := .obj "Go" stGo false [
  ("kind", kindProp), ("speed", .mk (.leaf (.int none none none)) false [] [] [] none false false)]
/-- `NewOneOfIntSchema[any]({0: Stop, 1: Go}, "kind", true)` -/
def signal : STy := .oneOf true "kind" true [(.i 0, stopObj), (.i 1, goObj)]

theorem signal_checks : wfSB 5 signal = true ∧ rtOKB 5 signal = true := by decide +kernel

example : wfSB 5 signal = true ∧ rtOKB 5 signal = true := signal_checks
/-- the round trip holds of the inlined one-of, for every input -/
example (x : Ext) (fuel : Nat) (hf : 7 ≤ fuel) (v s : SV) (hU : srun x fuel .U signal v = .ok s) :
    srun x fuel .V signal s = .ok (.val unitV) ∧
    ∃ w s', srun x fuel .S signal s = .ok (.val w) ∧ srun x fuel .U signal (.val w) = .ok s' ∧ Eqv signal s s' ∧
      srun x fuel .V signal s' = .ok (.val unitV) ∧ srun x fuel .S signal s' = .ok (.val w) :=
  C01_struct_end_to_end_partial x fuel 7 signal (rtOKB_sound 5 signal signal_checks.2) hf v s hU

/-- **the documented loss, and its repair by the one-of**: member 0's own Serialize drops the zero
    discriminator (treat-empty-as-default), the one-of attaches it again - at the END of the map,
    typed as the key (int64) - and the wire form comes back to the same struct; member 1 keeps its
    discriminator in place. -/
example (x : Ext) :
    srun x 5 .U signal (.val (toStrAny [("kind", .str "0"), ("reason", .str "r")])) =
      .ok (.struct "Stop" [("Kind", .val (.int .int64 0)), ("Reason", .val (.str "r"))]) ∧
    srun x 4 .S stopObj (.struct "Stop" [("Kind", .val (.int .int64 0)), ("Reason", .val (.str "r"))]) =
      .ok (.val (toStrAny [("reason", .str "r")])) ∧
    srun x 5 .S signal (.struct "Stop" [("Kind", .val (.int .int64 0)), ("Reason", .val (.str "r"))]) =
      .ok (.val (toStrAny [("reason", .str "r"), ("kind", .int .int64 0)])) ∧
    srun x 5 .U signal (.val (toStrAny [("reason", .str "r"), ("kind", .int .int64 0)])) =
      .ok (.struct "Stop" [("Kind", .val (.int .int64 0)), ("Reason", .val (.str "r"))]) ∧
    srun x 5 .S signal (.struct "Go" [("Kind", .val (.int .int64 1)), ("Speed", .val (.int .int64 7))]) =
      .ok (.val (toStrAny [("kind", .int .int64 1), ("speed", .int .int64 7)])) := by
  refine ⟨?_, ?_, ?_, ?_, ?_⟩ <;> rfl

/-- an inlined one-of does NOT check that the struct's discriminator field names the member found
    by type: a `Go` value whose `Kind` says 0 is valid and serializes with `kind: 0` only because
    the zero is dropped and the key of `Go` attached ... -/
example (x : Ext) :
    srun x 5 .S signal (.struct "Go" [("Kind", .val (.int .int64 0)), ("Speed", .val (.int .int64 7))]) =
      .ok (.val (toStrAny [("speed", .int .int64 7), ("kind", .int .int64 1)])) := by rfl
/-- ... while a `Stop` whose `Kind` says 1 serializes to a map that Unserialize routes to `Go`,
    which refuses `reason` - Unserialize results never look like this (`Eqv`), hand-built values may -/
example (x : Ext) :
    srun x 5 .V signal (.struct "Stop" [("Kind", .val (.int .int64 1)), ("Reason", .val (.str "r"))]) = .ok (.val unitV) ∧
    srun x 5 .S signal (.struct "Stop" [("Kind", .val (.int .int64 1)), ("Reason", .val (.str "r"))]) =
      .ok (.val (toStrAny [("kind", .int .int64 1), ("reason", .str "r")])) ∧
    srun x 5 .U signal (.val (toStrAny [("kind", .int .int64 1), ("reason", .str "r")])) = .err ⟨true, []⟩ := by
  refine ⟨?_, ?_, ?_⟩ <;> rfl

/-- two keys for ONE struct type; `members` lists them in the order in which this run of the
    program iterates over the Go map -/
def twins (members : List (Key × STy)) : STy := .oneOf false "_type" false members
def twinsAB : STy := twins [(.s "a", circleObj), (.s "b", circleObj)]
def twinsBA : STy := twins [(.s "b", circleObj), (.s "a", circleObj)]

end OneOfExample

open OneOfExample in
/-- **Pairwise distinct member struct types cannot be dropped**: with two keys for one struct type
    (`wfSB` fails on nothing else) Unserialize of `_type: a` yields a `Circle`, and Serialize of that
    `Circle` - `findUnderlyingType` keeps the LAST member of matching type in the iteration order of
    a Go map - says `_type: b` in one iteration order and `_type: a` in the other: the outcome
    depends on the map order of the run, and the round trip can change the member. (`members` of
    the model lists the members in the iteration order of the run. Harness: the fixed probe
    `shared-member-type` sees both `_type=a` and `_type=b` in 64 runs on fresh instances; generated
    `oneof-shared-type` groups whose runs disagree are counted under `order-dependent-outcome`
    and not compared - there is no function to compare with.) -/
theorem oneof_shared_type_order_dependent (x : Ext) :
    wfSB 5 twinsAB = false ∧ wfSB 5 (twins [(.s "a", circleObj), (.s "b", squareObj)]) = true ∧
    ∃ s, srun x 5 .U twinsAB (.val (toStrAny [("_type", .str "a"), ("r", .int .int64 2)])) = .ok s ∧
      srun x 5 .U twinsBA (.val (toStrAny [("_type", .str "a"), ("r", .int .int64 2)])) = .ok s ∧
      srun x 5 .S twinsAB s = .ok (.val (toStrAny [("r", .int .int64 2), ("_type", .str "b")])) ∧
      srun x 5 .S twinsBA s = .ok (.val (toStrAny [("r", .int .int64 2), ("_type", .str "a")])) :=
  ⟨by decide +kernel, by decide +kernel,
   .struct "Circle" [("R", .val (.int .int64 2)), ("Label", .nilPtr)], by rfl, by rfl, by rfl, by rfl⟩

end SM
end Arca
