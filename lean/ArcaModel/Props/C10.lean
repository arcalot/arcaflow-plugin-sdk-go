import ArcaModel.Model.Describe
import ArcaModel.Props.C04
/-
  C10  A schema received from a plugin is rejected with an error or fully usable.

  Model of the wire path (`Model/Describe.lean`):
    `rebuild x fuel w`          = `DescribeScope().Unserialize(w)`: `run .U` of the meta-schema
                                  (`metaScope : Ty`) on the decoded value `w`, followed by the
                                  conversion of the resulting map to the schema tree;
    `unserializeScope x jd fuel w` = `UnserializeScope(w)`: `rebuild`, then `linkCheck` (what the
                                  repaired `linkUnserializedScope` verifies: roots, references,
                                  one-of members vs. the inlining flag, decodable defaults);
    `unserializeSchema`         likewise for `UnserializeSchema` / `Client.ReadSchema`, every
                                  data scope of every step (input, outputs, signal handlers,
                                  signal emitters) being checked.
  `w` ranges over ALL Go values (`V`), `x` over all externals (regexp, float parsing/formatting),
  `jd` over all JSON decoders.
-/
namespace Arca

-- 8: fuel of the checker `wfB`, one per level of type nesting; any number the check passes with will do
theorem metaScope_wf : WF [] metaScope := wfB_sound 8 [] metaScope (by decide +kernel)
theorem metaSchema_wf : WF [] metaSchema := wfB_sound 8 [] metaSchema (by decide +kernel)
theorem metaStepOutput_wf : WF [] metaStepOutput := wfB_sound 8 [] metaStepOutput (by decide +kernel)

theorem liftParse_ne_panic {α} (p : V → Option α) (o : Out V) (h : o ≠ .panic) : liftParse p o ≠ .panic := by
  cases o with
  | ok v => simp only [liftParse]; split <;> simp [Out.plain]
  | err e => simp [liftParse]
  | panic => exact absurd rfl h
  | fuel => simp [liftParse]

/-- C10 (load time, scopes): rebuilding never panics, whatever value arrives. -/
theorem C10_total (x : Ext) (fuel : Nat) (w : V) : rebuild x fuel w ≠ .panic :=
  liftParse_ne_panic _ _ (C04_no_panic_closed x fuel .U metaScope w metaScope_wf)

/-- C10 (load time, plugin schemas) -/
theorem C10_total_schema (x : Ext) (fuel : Nat) (w : V) : rebuildSchema x fuel w ≠ .panic :=
  liftParse_ne_panic _ _ (C04_no_panic_closed x fuel .U metaSchema w metaSchema_wf)

/-- C10 (load time, the wire path): `UnserializeScope` / `UnserializeSchema` never panic. -/
theorem C10_total_wire (x : Ext) (jd : JD) (fuel : Nat) (w : V) :
    unserializeScope x jd fuel w ≠ .panic ∧ unserializeSchema x jd fuel w ≠ .panic := by
  constructor
  · unfold unserializeScope
    have := C10_total x fuel w
    split
    · split <;> simp [Out.plain]
    · rename_i o _; intro h; exact this h
  · unfold unserializeSchema
    have := C10_total_schema x fuel w
    split
    · split <;> simp [Out.plain]
    · rename_i o _; intro h; exact this h

/-- what is rebuilt and passes the link check is a well-formed schema -/
theorem C10_rebuild_wf (x : Ext) (jd : JD) (fuel : Nat) (w : V) (s : DTy)
    (_h : rebuild x fuel w = .ok s) (hl : linkCheck jd s = true) : WF [] (forget jd s) := by
  simp only [linkCheck, Bool.and_eq_true] at hl
  exact wfB_sound _ _ _ hl.1

/-- C10 (first use, scopes): no operation on a scope returned by `UnserializeScope` panics -
    for every operation, every Go value, every externals, every fuel. -/
theorem C10_usable (x : Ext) (jd : JD) (fuel : Nat) (w : V) (s : DTy)
    (h : unserializeScope x jd fuel w = .ok s) :
    ∀ (x' : Ext) (fuel' : Nat) (op : Op) (v : V), run x' fuel' op [] (forget jd s) v ≠ .panic := by
  unfold unserializeScope at h
  split at h
  · rename_i s' hs
    split at h
    · rename_i hl
      have : s' = s := by injection h
      subst this
      intro x' fuel' op v
      exact C04_no_panic_closed x' fuel' op _ v (C10_rebuild_wf x jd fuel w s' hs hl)
    · simp [Out.plain] at h
  · rename_i o hne
    exact absurd h (by intro h'; exact hne s h')

/-- C10 (first use, plugin schemas): no operation on any data scope (step input, outputs, signal
    handlers, signal emitters) of a schema returned by `UnserializeSchema` / `ReadSchema` panics. -/
theorem C10_usable_schema (x : Ext) (jd : JD) (fuel : Nat) (w : V) (p : DSchema)
    (h : unserializeSchema x jd fuel w = .ok p) :
    ∀ st, st ∈ p → ∀ sc, sc ∈ st.2.scopes →
      ∀ (x' : Ext) (fuel' : Nat) (op : Op) (v : V), run x' fuel' op [] (forget jd sc) v ≠ .panic := by
  unfold unserializeSchema at h
  split at h
  · rename_i p' hp
    split at h
    · rename_i hl
      have : p' = p := by injection h
      subst this
      intro st hst sc hsc x' fuel' op v
      have h2 := List.all_eq_true.1 (List.all_eq_true.1 hl st hst) sc hsc
      simp only [linkCheck, Bool.and_eq_true] at h2
      exact C04_no_panic_closed x' fuel' op _ v (wfB_sound _ _ _ h2.1)
    · simp [Out.plain] at h
  · rename_i o hne
    exact absurd h (by intro h'; exact hne p h')

/-- Beyond `WF`: in an accepted scope the root object carries the root's ID (Go's `RootObject()`
    panics otherwise; `Arca.run` does not look at the ID, so this is stated separately). -/
theorem C10_root_id (jd : JD) (objs : List (String × DObj)) (root : String)
    (hl : linkCheck jd (.scope objs root) = true) : ∃ o, lookupS root objs = some o ∧ o.id = root := by
  simp only [linkCheck, Bool.and_eq_true] at hl
  have h := hl.2
  simp only [extraOK, Bool.and_eq_true] at h
  cases hr : lookupS root objs with
  | none => simp [hr] at h
  | some o => exact ⟨o, rfl, by simpa [hr] using h.1⟩

theorem scopes_handlers (st : DStep) : ∀ h, h ∈ st.handlers → h.2.data ∈ st.scopes := by
  intro h hh
  simp only [DStep.scopes, List.mem_cons, List.mem_append, List.mem_map]
  exact Or.inr (Or.inl (Or.inr ⟨h, hh, rfl⟩))

theorem scopes_emitters (st : DStep) : ∀ e, e ∈ st.emitters → e.2.data ∈ st.scopes := by
  intro e he
  simp only [DStep.scopes, List.mem_cons, List.mem_append, List.mem_map]
  exact Or.inr (Or.inr ⟨e, he, rfl⟩)

/-- every signal handler's and every signal emitter's data schema of an accepted plugin schema
    passed the link check - also when a handler and an emitter carry the same key -/
theorem C10_signals_checked (jd : JD) (p : DSchema) (h : linkCheckSchema jd p = true) :
    ∀ st, st ∈ p → (∀ g, g ∈ st.2.handlers → linkCheck jd g.2.data = true) ∧
      (∀ g, g ∈ st.2.emitters → linkCheck jd g.2.data = true) := by
  intro st hst
  have h1 := List.all_eq_true.1 (List.all_eq_true.1 h st hst)
  exact ⟨fun g hg => h1 _ (scopes_handlers st.2 g hg), fun g hg => h1 _ (scopes_emitters st.2 g hg)⟩

/-- a description as a plugin would send it (CBOR-decoded: `map[any]any`, `uint64`), with a
    reference, a default and a missing `required` -/
def c10Example : V :=
  .map .anyAny [(.str "root", .str "A"), (.str "objects", .map .anyAny [(.str "A", .map .anyAny
    [(.str "id", .str "A"), (.str "properties", .map .anyAny
      [(.str "next", .map .anyAny [(.str "type", .map .anyAny [(.str "type_id", .str "ref"), (.str "id", .str "A")]),
          (.str "required", .bool false)]),
       (.str "n", .map .anyAny [(.str "type", .map .anyAny [(.str "type_id", .str "integer"), (.str "min", .int .uint64 0)]),
          (.str "default", .str "5")])])])])]

def c10Ext : Ext := ⟨fun _ => none, fun _ => "", fun _ => true, fun _ _ => true⟩
def c10JD : JD := fun s => if s == "5" then some (.float .f64 0x4014000000000000) else none

example : (unserializeScope c10Ext c10JD 40 c10Example).isOk = true := by decide +kernel

/-- the same description with the reference re-pointed to a missing object is rejected -/
def c10Dangling : V :=
  .map .anyAny [(.str "root", .str "A"), (.str "objects", .map .anyAny [(.str "A", .map .anyAny
    [(.str "id", .str "A"), (.str "properties", .map .anyAny
      [(.str "next", .map .anyAny [(.str "type", .map .anyAny [(.str "type_id", .str "ref"), (.str "id", .str "Nope")])])])])])]

example : (rebuild c10Ext 40 c10Dangling).isOk = true := by decide +kernel
example : (unserializeScope c10Ext c10JD 40 c10Dangling).isErr = true := by decide +kernel

/-- a handler and an emitter under the same key: a dangling reference in the HANDLER's data schema
    makes the whole plugin schema unacceptable -/
def c10SameKey (handlerRef : String) : DSchema :=
  let okScope : DTy := .scope [("E", .mk "E" false [])] "E"
  let hdata : DTy := .scope
    [("Root", .mk "Root" false [("item", .mk (.ref handlerRef "" none) none false [] [] [] none [] false none)]),
     ("Item", .mk "Item" false [])] "Root"
  [("s", ⟨"s", okScope, [("ok", ⟨okScope, none, false⟩)], [("sig", ⟨"sig", hdata, none⟩)], [("sig", ⟨"sig", okScope, none⟩)], none⟩)]

example : linkCheckSchema (fun _ => none) (c10SameKey "Item") = true := by decide +kernel
example : linkCheckSchema (fun _ => none) (c10SameKey "Nope") = false := by decide +kernel

theorem extraObjs_eq (env : List (String × DObj)) : ∀ objs, extraObjs env objs = objs.all fun p => extraObj env p.2
  | [] => rfl
  | (_, _) :: rest => congrArg (_ && ·) (extraObjs_eq env rest)

theorem extraProps_eq (env : List (String × DObj)) : ∀ props, extraProps env props = props.all fun np => extraOK env np.2.ty
  | [] => rfl
  | (_, .mk ..) :: rest => congrArg (_ && ·) (extraProps_eq env rest)

theorem forgetObjs_eq (jd : JD) : ∀ objs, forgetObjs jd objs = objs.map fun p => (p.1, forgetObj jd p.2)
  | [] => rfl
  | (_, _) :: rest => congrArg (_ :: ·) (forgetObjs_eq jd rest)

theorem forgetProps_eq (jd : JD) : ∀ props, forgetProps jd props = props.map fun np => (np.1, forgetProp jd np.2)
  | [] => rfl
  | (_, _) :: rest => congrArg (_ :: ·) (forgetProps_eq jd rest)

/-- In an accepted scope EVERY object - whether or not the root object reaches it - has only
    references into the scope's own namespace directly below its properties, each resolving to an
    object of the scope; and every object is well-formed in the scope (`WF`), which covers the
    references at any depth below lists, maps, one-of members and inline objects. -/
theorem C10_all_objects (jd : JD) (objs : List (String × DObj)) (root : String)
    (hl : linkCheck jd (.scope objs root) = true) :
    (∀ p, p ∈ forgetObjs jd objs → WF (forgetObjs jd objs) p.2) ∧
    (∀ o, o ∈ objs → ∀ np, np ∈ o.2.props → ∀ id ns d, np.2.ty = .ref id ns d →
      ns = "" ∧ (lookupS id (forgetObjs jd objs)).isSome = true) := by
  simp only [linkCheck, Bool.and_eq_true] at hl
  have hwf : WF [] (forget jd (.scope objs root)) := wfB_sound _ _ _ hl.1
  have hall : ∀ p, p ∈ forgetObjs jd objs → WF (forgetObjs jd objs) p.2 := by
    simp only [forget] at hwf
    cases hwf with
    | scope _ h => exact h
  refine ⟨hall, ?_⟩
  intro o ho np hnp id ns d hty
  have hx := hl.2
  simp only [extraOK, Bool.and_eq_true] at hx
  have h1 := List.all_eq_true.1 (extraObjs_eq objs objs ▸ hx.2) o ho
  obtain ⟨on, ob⟩ := o
  cases ob with
  | mk oid unenf props =>
    simp only [extraObj] at h1
    have h2 := List.all_eq_true.1 (extraProps_eq objs props ▸ h1) np hnp
    simp only [DObj.props] at hnp
    rw [hty] at h2
    refine ⟨by simpa [extraOK] using h2, ?_⟩
    -- the object is well-formed in the scope, so the reference resolves
    have hmem : (on, forgetObj jd (.mk oid unenf props)) ∈ forgetObjs jd objs :=
      forgetObjs_eq jd objs ▸ List.mem_map_of_mem ho
    have hwo := hall _ hmem
    simp only [forgetObj] at hwo
    cases hwo with
    | obj hp _ =>
      have hpm : (np.1, forgetProp jd np.2) ∈ forgetProps jd props := forgetProps_eq jd props ▸ List.mem_map_of_mem hnp
      have := hp _ hpm
      obtain ⟨pn, pp⟩ := np
      cases pp with
      | mk ty disp req rif rifn conf dflt ex dis reason =>
        simp only [DProp.ty] at hty
        subst hty
        simp only [forgetProp, PropT.ty, forget] at this
        cases this with
        | ref hlk => simp [hlk]

/-- a reference into a foreign namespace in a non-root object is rejected; so is the same reference
    under a list or a one-of member there, and a dangling reference -/
def c10ForeignInChild (leaf : DTy) : DTy :=
  .scope
    [("Root", .mk "Root" false [("child", .mk (.ref "Child" "" none) none false [] [] [] none [] false none)]),
     ("Child", .mk "Child" false [("leaf", .mk leaf none false [] [] [] none [] false none)]),
     ("T", .mk "T" false [])]
    "Root"

example : linkCheck c10JD (c10ForeignInChild (.ref "T" "" none)) = true := by decide +kernel
example : linkCheck c10JD (c10ForeignInChild (.ref "T" "other" none)) = false := by decide +kernel
example : linkCheck c10JD (c10ForeignInChild (.list (.ref "T" "other" none) none none)) = false := by decide +kernel
example : linkCheck c10JD (c10ForeignInChild (.oneOf false "t" false [(.s "a", .ref "T" "other" none)])) = false := by
  decide +kernel
example : linkCheck c10JD (c10ForeignInChild (.ref "Nope" "" none)) = false := by decide +kernel
end Arca

#print axioms Arca.C10_total
#print axioms Arca.C10_total_schema
#print axioms Arca.C10_total_wire
#print axioms Arca.C10_rebuild_wf
#print axioms Arca.C10_usable
#print axioms Arca.C10_usable_schema
#print axioms Arca.C10_root_id
#print axioms Arca.C10_all_objects
#print axioms Arca.C10_signals_checked
