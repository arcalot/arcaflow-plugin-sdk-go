import ArcaModel.Lemmas.Traverse
import ArcaModel.Lemmas.NoPanicRun
/-
  C02  Unserialize accepts exactly the values meeting every declared value constraint; the accepted
       result is exactly the denoted value; Validate and Serialize enforce the same constraints on
       native values.

  The "denotes" relations below are the declarative reading of the SDK's fixed lenient
  conversions, written independently of the operational model (`run`); the theorems say the
  model coincides with them, for every schema parameter and every Go value.
-/
namespace Arca
open Out

/-! ### the shape of a scalar operation: convert, check, build the result -/

theorem rewrapC_bind_ok_iff {α} {m : Out α} {f : α → Out V} {r : V} :
    (rewrapC m).bind f = .ok r ↔ ∃ a, m = .ok a ∧ f a = .ok r :=
  ⟨fun h => let ⟨a, h1, h2⟩ := bind_eq_ok h; ⟨a, rewrapC_eq_ok.mp h1, h2⟩,
   fun ⟨a, h1, h2⟩ => by rw [h1]; exact h2⟩

theorem bind_ok_ok_iff {α} {m : Out α} {f : α → V} {r : V} :
    (m.bind fun a => .ok (f a)) = .ok r ↔ ∃ a, m = .ok a ∧ r = f a :=
  ⟨fun h => let ⟨a, h1, h2⟩ := bind_eq_ok h; ⟨a, h1, (Out.ok.inj h2).symm⟩,
   fun ⟨a, h1, h2⟩ => by rw [h1, h2]; rfl⟩

theorem check_bind_ok_iff {chk : Out Unit} {w r : V} : (chk.bind fun _ => .ok w) = .ok r ↔ chk = .ok () ∧ r = w :=
  ⟨fun h => let ⟨_, h1, h2⟩ := bind_eq_ok h; ⟨h1, (Out.ok.inj h2).symm⟩,
   fun ⟨h1, h2⟩ => by rw [h1, h2]; rfl⟩

theorem ite_ok_cerr_iff {c : Prop} [Decidable c] {w r : V} : (if c then .ok w else .cerr : Out V) = .ok r ↔ c ∧ r = w := by
  split
  · exact ⟨fun h => ⟨‹c›, (Out.ok.inj h).symm⟩, fun h => h.2 ▸ rfl⟩
  · exact ⟨nofun, fun h => absurd h.1 ‹¬ c›⟩

def InBoundsInt (min max : Option Int) (n : Int) : Prop :=
  (∀ m, min = some m → m ≤ n) ∧ (∀ m, max = some m → n ≤ m)

def LenOK (min max : Option Int) (n : Nat) : Prop :=
  (∀ m, min = some m → m ≤ (n : Int)) ∧ (∀ m, max = some m → (n : Int) ≤ m)

/-- a declared float bound admits only ordered values inside it (so never NaN) -/
def InBoundsFloat (min max : Option Nat) (b : Nat) : Prop :=
  (∀ m, min = some m → F64.ge b m = true) ∧ (∀ m, max = some m → F64.le b m = true)

theorem ite_cerr_total {c : Prop} [Decidable c] {o : Out Unit} (h : o = .ok () ∨ o = .cerr) :
    (if c then cerr else o) = .ok () ∨ (if c then cerr else o) = .cerr := by
  split
  · exact .inr rfl
  · exact h

theorem checkInt_ok_iff (min max : Option Int) (n : Int) : checkInt min max n = .ok () ↔ InBoundsInt min max n := by
  unfold checkInt InBoundsInt
  cases min <;> cases max <;>
    simp only [ite_cerr_eq_ok, Option.some.injEq, forall_eq', reduceCtorEq, false_implies, implies_true, and_true,
      true_and, Int.not_lt, gt_iff_lt]

theorem checkLen_ok_iff (min max : Option Int) (n : Nat) : checkLen min max n = .ok () ↔ LenOK min max n := by
  unfold checkLen LenOK
  cases min <;> cases max <;>
    simp only [ite_cerr_eq_ok, Option.some.injEq, forall_eq', reduceCtorEq, false_implies, implies_true, and_true,
      true_and, Int.not_lt, gt_iff_lt]

theorem checkFloat_ok_iff (min max : Option Nat) (b : Nat) : checkFloat min max b = .ok () ↔ InBoundsFloat min max b := by
  unfold checkFloat InBoundsFloat
  cases min <;> cases max <;>
    simp only [ite_cerr_eq_ok, Option.some.injEq, forall_eq', reduceCtorEq, false_implies, implies_true, and_true,
      true_and, Bool.not_eq_true', Bool.not_eq_false]

theorem checkInt_total (min max : Option Int) (n : Int) : checkInt min max n = .ok () ∨ checkInt min max n = .cerr := by
  unfold checkInt
  cases min <;> cases max
  · exact .inl rfl
  · exact ite_cerr_total (.inl rfl)
  · exact ite_cerr_total (.inl rfl)
  · exact ite_cerr_total (ite_cerr_total (.inl rfl))

theorem checkLen_total (min max : Option Int) (n : Nat) : checkLen min max n = .ok () ∨ checkLen min max n = .cerr := by
  unfold checkLen
  cases min <;> cases max
  · exact .inl rfl
  · exact ite_cerr_total (.inl rfl)
  · exact ite_cerr_total (.inl rfl)
  · exact ite_cerr_total (ite_cerr_total (.inl rfl))

theorem checkFloat_total (min max : Option Nat) (b : Nat) : checkFloat min max b = .ok () ∨ checkFloat min max b = .cerr := by
  unfold checkFloat
  cases min <;> cases max
  · exact .inl rfl
  · exact ite_cerr_total (.inl rfl)
  · exact ite_cerr_total (.inl rfl)
  · exact ite_cerr_total (ite_cerr_total (.inl rfl))

theorem F64.nan_not_ge (b m : Nat) (h : F64.isNaN b = true) : F64.ge b m = false := by
  unfold F64.isNaN at h
  have hb : F64.decode b = .nan := by simpa using h
  simp only [F64.ge, F64.le, hb]
  cases F64.decode m <;> simp [F64.ltV, F64.eqV]

theorem F64.nan_not_le (b m : Nat) (h : F64.isNaN b = true) : F64.le b m = false := by
  unfold F64.isNaN at h
  have hb : F64.decode b = .nan := by simpa using h
  simp [F64.le, hb, F64.ltV, F64.eqV]

/-- a float schema with ANY declared bound rejects NaN -/
theorem C02_float_bound_rejects_nan (min max : Option Nat) (b : Nat) (hn : F64.isNaN b = true)
    (hb : min.isSome ∨ max.isSome) : ¬ InBoundsFloat min max b := by
  intro ⟨h1, h2⟩
  rcases hb with hb | hb
  · obtain ⟨m, hm⟩ := Option.isSome_iff_exists.mp hb
    have := h1 m hm
    rw [F64.nan_not_ge b m hn] at this
    exact absurd this (by simp)
  · obtain ⟨m, hm⟩ := Option.isSome_iff_exists.mp hb
    have := h2 m hm
    rw [F64.nan_not_le b m hn] at this
    exact absurd this (by simp)

/-- the integer a raw value denotes: any integer kind (if it fits int64), a float that is exactly an
    integer in int64 range, a decimal (or unit) string, a boolean as 0/1 -/
inductive IntDenotes (u : Option Units) : V → Int → Prop
  | int {k n} : inInt64 n = true → IntDenotes u (.int k n) n
  | float {k b n} : F64.toInt64Exact b = some n → IntDenotes u (.float k b) n
  | strPlain {s n} : u = none → parseInt10 s = some n → IntDenotes u (.str s) n
  | strUnits {s n un} : u = some un → un.parseInt s = some n → IntDenotes u (.str s) n
  | bool {b} : IntDenotes u (.bool b) (if b then 1 else 0)

theorem intInputMapper_ok_iff (u : Option Units) (v : V) (n : Int) :
    intInputMapper u v = .ok n ↔ IntDenotes u v n := by
  constructor
  · intro h
    unfold intInputMapper at h
    -- `v` is: a string (with units, without), an int, a float, a bool, anything else
    split at h
    · split at h
      · split at h
        · rename_i un _ _ hp
          simp at h; subst h; exact .strUnits rfl hp
        · simp [plain] at h
      · split at h
        · rename_i hp
          simp at h; subst h; exact .strPlain rfl hp
        · simp [plain] at h
    · split at h
      · rename_i hle
        simp at h; subst h; exact .int hle
      · simp [plain] at h
    · split at h
      · rename_i hp
        simp at h; subst h; exact .float hp
      · simp [plain] at h
    · simp at h; subst h; exact .bool
    · simp [plain] at h
  · intro h
    cases h with
    | int hle => simp [intInputMapper, hle]
    | float hp => simp [intInputMapper, hp]
    | strPlain hu hp => subst hu; simp [intInputMapper, hp]
    | strUnits hu hp => subst hu; simp [intInputMapper, hp]
    | bool => simp [intInputMapper]

theorem intInputMapper_total (u : Option Units) (v : V) :
    (∃ n, intInputMapper u v = .ok n) ∨ intInputMapper u v = .plain := by
  unfold intInputMapper
  -- every branch is a constant `.ok _` or `.plain`
  repeat' split
  all_goals first | exact .inl ⟨_, rfl⟩ | exact .inr rfl

/-- Unserialize of an integer schema accepts exactly the raw values denoting an integer within
    the declared bounds, and returns that integer as int64. -/
theorem C02_int_unser_iff (x : Ext) (fuel : Nat) (env : Env) (min max : Option Int) (u : Option Units) (v r : V) :
    run x (fuel + 1) .U env (.int min max u) v = .ok r ↔
      ∃ n, IntDenotes u v n ∧ InBoundsInt min max n ∧ r = .int .int64 n := by
  simp only [run, runInt, rewrapC_bind_ok_iff, check_bind_ok_iff, intInputMapper_ok_iff, checkInt_ok_iff]

theorem wrapInt64_of_inInt64 {n : Int} (hn : inInt64 n = true) : wrapInt64 n = n := by
  unfold inInt64 minInt64 maxInt64 at hn
  unfold wrapInt64
  simp at hn
  have h1 : (2:Int)^64 = 18446744073709551616 := by decide
  have h2 : (2:Int)^63 = 9223372036854775808 := by decide
  simp only [h1, h2] at *
  split <;> omega

/-- Validate and Serialize of a native integer enforce the same bounds (and Serialize is the identity). -/
theorem C02_int_native (x : Ext) (fuel : Nat) (env : Env) (min max : Option Int) (u : Option Units) (n : Int)
    (hn : inInt64 n = true) :
    (run x (fuel + 1) .V env (.int min max u) (.int .int64 n) = done ↔ InBoundsInt min max n) ∧
    (∀ r, run x (fuel + 1) .S env (.int min max u) (.int .int64 n) = .ok r ↔ InBoundsInt min max n ∧ r = .int .int64 n) := by
  simp only [run, runInt, asInt, V.under, wrapInt64_of_inInt64 hn, ok_bind, done, check_bind_ok_iff, checkInt_ok_iff, and_true, implies_true]

/-- the float a raw value denotes: integers are converted by round-to-nearest (`float64(n)`),
    strings are parsed by strconv or by the unit grammar, booleans are 0/1 -/
inductive FloatDenotes (x : Ext) (u : Option Units) : V → Nat → Prop
  | int {k n} : FloatDenotes x u (.int k n) (F64.ofInt n)
  | float {k b} : FloatDenotes x u (.float k b) b
  | strPlain {s b} : u = none → x.parseFloat s = some b → FloatDenotes x u (.str s) b
  | strUnits {s b un} : u = some un → un.parseFloat x s = some b → FloatDenotes x u (.str s) b
  | bool {b} : FloatDenotes x u (.bool b) (if b then F64.ofInt 1 else 0)

theorem floatInputMapper_ok_iff (x : Ext) (u : Option Units) (v : V) (b : Nat) :
    floatInputMapper x u v = .ok b ↔ FloatDenotes x u v b := by
  constructor
  · intro h
    unfold floatInputMapper at h
    -- `v` is: a string (with units, without), an int, a float, a bool, anything else
    split at h
    · split at h
      · split at h
        · rename_i un _ _ hp
          simp at h; subst h; exact .strUnits rfl hp
        · simp [plain] at h
      · split at h
        · rename_i hp
          simp at h; subst h; exact .strPlain rfl hp
        · simp [plain] at h
    · simp at h; subst h; exact .int
    · simp at h; subst h; exact .float
    · simp at h; subst h; exact .bool
    · simp [plain] at h
  · intro h
    cases h with
    | int => simp [floatInputMapper]
    | float => simp [floatInputMapper]
    | strPlain hu hp => subst hu; simp [floatInputMapper, hp]
    | strUnits hu hp => subst hu; simp [floatInputMapper, hp]
    | bool => simp [floatInputMapper]

theorem C02_float_unser_iff (x : Ext) (fuel : Nat) (env : Env) (min max : Option Nat) (u : Option Units) (v r : V) :
    run x (fuel + 1) .U env (.float min max u) v = .ok r ↔
      ∃ b, FloatDenotes x u v b ∧ InBoundsFloat min max b ∧ r = .float .f64 b := by
  simp only [run, runFloat, rewrapC_bind_ok_iff, check_bind_ok_iff, floatInputMapper_ok_iff, checkFloat_ok_iff]

/-- Validate / Serialize of a native float64 enforce the same bounds; in particular NaN is rejected
    as soon as a bound is declared. -/
theorem C02_float_native (x : Ext) (fuel : Nat) (env : Env) (min max : Option Nat) (u : Option Units) (b : Nat) :
    (run x (fuel + 1) .V env (.float min max u) (.float .f64 b) = done ↔ InBoundsFloat min max b) ∧
    (∀ r, run x (fuel + 1) .S env (.float min max u) (.float .f64 b) = .ok r ↔ InBoundsFloat min max b ∧ r = .float .f64 b) := by
  simp only [run, runFloat, asFloat, V.under, ok_bind, done, check_bind_ok_iff, checkFloat_ok_iff, and_true, implies_true]

/-- the string a raw value denotes: itself, an integer in decimal, a float as `%f` -/
inductive StrDenotes (x : Ext) : V → String → Prop
  | str {s} : StrDenotes x (.str s) s
  | int {k n} : StrDenotes x (.int k n) (fmtInt n)
  | float {k b} : StrDenotes x (.float k b) (x.fmtF b)

theorem stringInputMapper_ok_iff (x : Ext) (v : V) (s : String) :
    stringInputMapper x v = .ok s ↔ StrDenotes x v s := by
  constructor
  · intro h
    unfold stringInputMapper at h
    split at h <;> simp [plain] at h
    · subst h; exact .str
    · subst h; exact .int
    · subst h; exact .float
  · intro h
    cases h <;> simp [stringInputMapper]

theorem stringInputMapper_total (x : Ext) (v : V) :
    (∃ s, stringInputMapper x v = .ok s) ∨ stringInputMapper x v = .plain := by
  unfold stringInputMapper
  split
  all_goals first | exact .inl ⟨_, rfl⟩ | exact .inr rfl

/-- length (in bytes, as Go's `len`) within bounds and the pattern, if any, matches -/
def StrOK (x : Ext) (min max : Option Int) (pat : Option String) (s : String) : Prop :=
  LenOK min max s.utf8ByteSize ∧ (∀ p, pat = some p → x.reMatch p s = true)

theorem checkStr_ok_iff (x : Ext) (min max : Option Int) (pat : Option String) (s : String) :
    checkStr x min max pat s = .ok () ↔ StrOK x min max pat s := by
  unfold checkStr StrOK
  constructor
  · intro h
    split at h
    · rename_i hl
      refine ⟨(checkLen_ok_iff _ _ _).mp hl, ?_⟩
      split at h
      · rename_i p
        split at h
        · intro p' hp'; cases hp'; assumption
        · simp [cerr] at h
      · intro p hp; cases hp
    · rename_i o hne
      exfalso
      exact hne (by rw [h])
  · intro ⟨h1, h2⟩
    rw [(checkLen_ok_iff _ _ _).mpr h1]
    simp only
    split
    · rename_i p
      simp [h2 p rfl]
    · rfl

theorem C02_str_unser_iff (x : Ext) (fuel : Nat) (env : Env) (min max : Option Int) (pat : Option String) (v r : V) :
    run x (fuel + 1) .U env (.str min max pat) v = .ok r ↔
      ∃ s, StrDenotes x v s ∧ StrOK x min max pat s ∧ r = .str s := by
  simp only [run, runStr, rewrapC_bind_ok_iff, check_bind_ok_iff, stringInputMapper_ok_iff, checkStr_ok_iff]

theorem C02_str_native (x : Ext) (fuel : Nat) (env : Env) (min max : Option Int) (pat : Option String) (s : String) :
    (run x (fuel + 1) .V env (.str min max pat) (.str s) = done ↔ StrOK x min max pat s) ∧
    (∀ r, run x (fuel + 1) .S env (.str min max pat) (.str s) = .ok r ↔ StrOK x min max pat s ∧ r = .str s) := by
  simp only [run, runStr, asString, V.under, ok_bind, done, check_bind_ok_iff, checkStr_ok_iff, and_true, implies_true]

/-- the boolean a raw value denotes: a bool, one of the fourteen words (case-insensitively), or
    an integer of any width equal to 0 or 1 -/
inductive BoolDenotes : V → Bool → Prop
  | bool {b} : BoolDenotes (.bool b) b
  | word {s b} : boolOfWord s = some b → BoolDenotes (.str s) b
  | one {k n} : wrapInt64 n = 1 → BoolDenotes (.int k n) true
  | zero {k n} : wrapInt64 n = 0 → BoolDenotes (.int k n) false

theorem boolInputMapper_ok_iff (v : V) (b : Bool) : boolInputMapper v = .ok b ↔ BoolDenotes v b := by
  constructor
  · intro h
    unfold boolInputMapper at h
    split at h
    · cases h; exact .bool
    · split at h
      · cases h; exact .word ‹_›
      · cases h
    · dsimp only at h
      split at h
      · cases h; exact .one (beq_iff_eq.mp ‹_›)
      · split at h
        · cases h; exact .zero (beq_iff_eq.mp ‹_›)
        · cases h
    · cases h
  · intro h
    cases h with
    | bool => rfl
    | word hw => simp only [boolInputMapper, hw]
    | one hw => simp only [boolInputMapper, hw, beq_self_eq_true, if_true]
    | zero hw => simp only [boolInputMapper, hw]; rfl

theorem C02_bool_unser_iff (x : Ext) (fuel : Nat) (env : Env) (v r : V) :
    run x (fuel + 1) .U env .bool v = .ok r ↔ ∃ b, BoolDenotes v b ∧ r = .bool b := by
  simp only [run, runBool, bind_ok_ok_iff, boolInputMapper_ok_iff]

/-- an integer enum accepts exactly the raw values denoting one of its members -/
theorem C02_enumInt_unser_iff (x : Ext) (fuel : Nat) (env : Env) (vals : List Int) (u : Option Units) (v r : V) :
    run x (fuel + 1) .U env (.enumInt vals u) v = .ok r ↔
      ∃ n, IntDenotes u v n ∧ n ∈ vals ∧ r = .int .int64 n := by
  simp only [run, runEnumInt, rewrapC_bind_ok_iff, ite_ok_cerr_iff, intInputMapper_ok_iff, List.contains_iff_mem]

/-- a string enum accepts exactly the raw values denoting one of its members (so the integer `5`
    is a member of the enum {"5"}) -/
theorem C02_enumStr_unser_iff (x : Ext) (fuel : Nat) (env : Env) (vals : List String) (v r : V) :
    run x (fuel + 1) .U env (.enumStr vals) v = .ok r ↔
      ∃ s, StrDenotes x v s ∧ s ∈ vals ∧ r = .str s := by
  simp only [run, runEnumStr, rewrapC_bind_ok_iff, ite_ok_cerr_iff, stringInputMapper_ok_iff, List.contains_iff_mem]

/-- a pattern schema accepts exactly the raw values denoting a string that compiles as a regexp -/
theorem C02_pattern_unser_iff (x : Ext) (fuel : Nat) (env : Env) (v r : V) :
    run x (fuel + 1) .U env .pattern v = .ok r ↔
      ∃ s, StrDenotes x v s ∧ x.reCompiles s = true ∧ r = .regex s := by
  simp only [run, runPattern, rewrapC_bind_ok_iff, ite_ok_cerr_iff, stringInputMapper_ok_iff]

theorem allIdx_addSeg_iff {g : V → Out V} : ∀ {n : Nat} {xs ys : List V},
    AllIdx (fun i e => (g e).addSeg (idxSeg i)) n xs ys ↔ Forall2 (fun e y => g e = .ok y) xs ys := by
  intro n xs
  induction xs generalizing n with
  | nil =>
    intro ys
    constructor
    · intro h; cases h; exact .nil
    · intro h; cases h; exact .nil
  | cons x xs ih =>
    intro ys
    constructor
    · intro h
      cases h with
      | cons hx hr => exact .cons (addSeg_eq_ok.mp hx) (ih.mp hr)
    · intro h
      cases h with
      | cons hx hr => exact .cons (addSeg_eq_ok.mpr hx) (ih.mpr hr)

/-- A list schema accepts exactly the slices whose length is within the bounds and whose every
    element is accepted by the item schema; the result is the list of the elements' results. -/
theorem C02_list_unser_iff (x : Ext) (fuel : Nat) (env : Env) (item : Ty) (min max : Option Int) (v r : V) :
    run x (fuel + 1) .U env (.list item min max) v = .ok r ↔
      ∃ xs ys, v.sliceElems? = some xs ∧ LenOK min max xs.length ∧
        Forall2 (fun e y => run x fuel .U env item e = .ok y) xs ys ∧ r = .list ys := by
  simp only [run, runList]
  constructor
  · intro h
    split at h
    · cases h
    · rename_i xs hxs
      obtain ⟨_, h1, h2⟩ := bind_eq_ok h
      obtain ⟨ys, h3, h4⟩ := bind_eq_ok h2
      cases h4
      exact ⟨xs, ys, hxs, (checkLen_ok_iff _ _ _).mp h1, allIdx_addSeg_iff.mp (forIdx_ok_iff.mp h3), rfl⟩
  · rintro ⟨xs, ys, hxs, hl, hall, rfl⟩
    simp only [hxs, (checkLen_ok_iff _ _ _).mpr hl, ok_bind, forIdx_ok_iff.mpr (allIdx_addSeg_iff.mpr hall)]

theorem allKV_entry_iff {rec : Rec} {op : Op} {env : Env} {kt vt : Ty} : ∀ {kvs kvs' : List (V × V)},
    AllKV (entryKV rec op env kt vt) kvs kvs' ↔
      Forall2 (fun kv kv' => rec op env kt kv.1 = .ok kv'.1 ∧ rec op env vt kv.2 = .ok kv'.2) kvs kvs' := by
  intro kvs
  induction kvs with
  | nil =>
    intro kvs'
    constructor
    · intro h; cases h; exact .nil
    · intro h; cases h; exact .nil
  | cons p rest ih =>
    obtain ⟨k, e⟩ := p
    intro kvs'
    constructor
    · intro h
      cases h with
      | cons hx hr =>
        rename_i kv rest'
        unfold entryKV at hx
        obtain ⟨k', h1, h2⟩ := bind_eq_ok hx
        obtain ⟨e', h3, h4⟩ := bind_eq_ok h2
        simp at h4
        subst h4
        exact .cons ⟨addSeg_eq_ok.mp h1, addSeg_eq_ok.mp h3⟩ (ih.mp hr)
    · intro h
      cases h with
      | cons hx hr =>
        rename_i kv rest'
        obtain ⟨k', e'⟩ := kv
        refine .cons ?_ (ih.mpr hr)
        unfold entryKV
        simp [addSeg_eq_ok.mpr hx.1, addSeg_eq_ok.mpr hx.2, Out.bind]

/-- A map schema accepts exactly the maps whose size is within the bounds, whose every key and
    value is accepted by the key and value schema, and in which no two raw keys denote the same key. -/
theorem C02_map_unser_iff (x : Ext) (fuel : Nat) (env : Env) (kt vt : Ty) (min max : Option Int) (v r : V) :
    run x (fuel + 1) .U env (.map kt vt min max) v = .ok r ↔
      ∃ sh kvs kvs', v = .map sh kvs ∧ LenOK min max kvs.length ∧
        Forall2 (fun kv kv' => run x fuel .U env kt kv.1 = .ok kv'.1 ∧ run x fuel .U env vt kv.2 = .ok kv'.2) kvs kvs' ∧
        dupKey kvs' = false ∧ r = .map ⟨kt.keyTy, vt.reflectsAny⟩ kvs' := by
  simp only [run, runMap]
  constructor
  · intro h
    split at h
    · cases h
    · rename_i sh kvs hm
      obtain ⟨_, h1, h2⟩ := bind_eq_ok h
      obtain ⟨kvs', h3, h4⟩ := bind_eq_ok h2
      split at h4
      · cases h4
      · cases h4
        exact ⟨sh, kvs, kvs', mapEntries_eq hm, (checkLen_ok_iff _ _ _).mp h1, allKV_entry_iff.mp (forKV_ok_iff.mp h3),
          Bool.not_eq_true _ ▸ ‹_›, rfl⟩
  · rintro ⟨sh, kvs, kvs', rfl, hl, hall, hd, rfl⟩
    simp only [V.mapEntries?, (checkLen_ok_iff _ _ _).mpr hl, ok_bind, forKV_ok_iff.mpr (allKV_entry_iff.mpr hall), hd,
      Bool.false_eq_true, if_false]

#print axioms C02_int_unser_iff
#print axioms C02_map_unser_iff

end Arca
