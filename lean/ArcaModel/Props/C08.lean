import ArcaModel.Props.C06
/-
  C08  A dead stream releases every Execute with an error; results are never fabricated;
  ReadSchema and Close return.  The numbering of the parts continues that of Props/C06.lean:
  (7) a decode error is fanned out to every entry;
  (8) a dead stream stays dead;
  (9) on a dead stream every pending Execute is released, and so is one that registers later;
  (10) no result is fabricated;
  (11) ReadSchema succeeds only on a supported hello message;
  (12) Close returns after a failed client-done write.
-/
namespace Arca.AtpClient

/-- the stream dies (garbage) while Execute 1 waits -/
def trDead : List Label :=
  hs3 ++ [.call 1 1 false false, .cRegister 1 (some 10), .cSend 1 true, .envPut .garbage, .lRead 10,
    .lDeliver 10]

/-- the stream is already dead (end of file) when Execute 1 registers -/
def trLate : List Label := hs3 ++ [.envPut .eof, .call 1 1 false false, .cRegister 1 (some 10)]

/-- C08 (7): when the loop handles a decode error, every entry gets the error result, the flag is
    cleared and the loop is gone, all in the same critical section. -/
theorem C08_fanout {s s' : State} {l : Tid} (hr : Reachable s) (h : Step s (.lDeliver l) s')
    (hl : s.loops.lookup l = some (.handle none)) :
    anyPending s'.entries = false ∧ (∀ r e, (r, e) ∈ s'.entries → e = .result .err) ∧
    s'.flag = false ∧ s'.loops.lookup l = none ∧ s'.loops = [] ∧ keys s'.entries = keys s.entries := by
  have hL := eq_singleton_of_lookup (invA_of_reachable hr).len hl
  simp only [Step, step?, stepG, Label.owner, stepLoop, hl, Bool.false_eq_true, if_false] at h
  cases h
  refine ⟨anyPending_failAll _, fun r e h => mem_failAll h, rfl, lookup_delT_self _ _, ?_, keys_failAll _⟩
  simp [hL, delT]

/- non-vacuity: a concrete instance of the hypotheses of `C08_fanout` -/
example : Reachable (stateAt (trDead.take 11)) ∧
    Step (stateAt (trDead.take 11)) (.lDeliver 10) (stateAt trDead) ∧
    (stateAt (trDead.take 11)).loops.lookup 10 = some (.handle none) :=
  ⟨reachable_stateAt _, by decide +kernel, by decide +kernel⟩

/-- the head of the server-to-client stream is a fault the decoder reports on every call -/
def deadStream (s : State) : Prop := ∃ it rest, s.s2c = it :: rest ∧ it.sticky = true

theorem deadStream.head {s : State} (hd : deadStream s) {it : Item} {rest : List Item}
    (hs : s.s2c = it :: rest) : it.sticky = true := by
  obtain ⟨it', rest', hs', hst⟩ := hd
  rw [hs] at hs'; cases hs'; exact hst

theorem deadStream_of_s2c {s s' : State} (hd : deadStream s) (h : s'.s2c = s.s2c) : deadStream s' := by
  unfold deadStream; rw [h]; exact hd

/-- a reader finds the fault at the head and leaves it there -/
theorem deadStream.pop {s s' : State} (hd : deadStream s) {it : Item} {rest : List Item}
    (hs : s.s2c = it :: rest) (h : s'.s2c = if it.sticky then s.s2c else rest) : deadStream s' :=
  deadStream_of_s2c hd (by rw [h, hd.head hs]; rfl)

theorem deadStream.append {s s' : State} (hd : deadStream s) {l : List Item}
    (h : s'.s2c = s.s2c ++ l) : deadStream s' := by
  obtain ⟨it, rest, hs, hst⟩ := hd
  exact ⟨it, rest ++ l, by rw [h, hs]; rfl, hst⟩

/-- C08 (8): sticky faults are never consumed, so the stream stays dead whatever happens. -/
theorem C08_dead_stable {s s' : State} {l : Label} (hd : deadStream s) (h : Step s l s') :
    deadStream s' := by
  rcases h.inv with h | h | h | h | h | h
  · cases h with
    | hello _ hs => cases hd.head hs
    | readBad _ hs => exact hd.pop hs rfl
    | _ => exact hd
  · cases h with
    | readV1 _ hs => cases hd.head hs
    | readV1Bad _ hs => exact hd.pop hs rfl
    | _ => exact hd
  · cases h with
    | readDone _ hs => cases hd.head hs
    | read _ hs => exact hd.pop hs rfl
    | _ => exact hd
  · cases h <;> exact hd
  · cases h <;> exact hd
  · cases h with
    | recv | late => exact hd
    | _ => exact hd.append rfl

/- non-vacuity: a concrete instance of the hypotheses of `C08_dead_stable` -/
example : deadStream (stateAt (trDead.take 10)) ∧
    Step (stateAt (trDead.take 10)) (.lRead 10) (stateAt (trDead.take 11)) :=
  ⟨⟨.garbage, [], by decide +kernel, rfl⟩, by decide +kernel⟩

/-- the labels of a read loop's own steps, as the release sequences below use them -/
@[simp] theorem owner_lRead (t : Tid) : (Label.lRead t).owner = .loop := rfl
@[simp] theorem owner_lDeliver (t : Tid) : (Label.lDeliver t).owner = .loop := rfl
@[simp] theorem owner_lCheck (t : Tid) : (Label.lCheck t).owner = .loop := rfl

theorem release_handleNone {s : State} {t : Tid} (hl : s.loops.lookup t = some (.handle none)) :
    ∃ s', run s [.lDeliver t] = some s' ∧ anyPending s'.entries = false ∧
      keys s'.entries = keys s.entries :=
  ⟨_, run_cons (LoopStep.fatal hl (.inl rfl)).step (run_nil _), anyPending_failAll _, keys_failAll _⟩

theorem release_decode {s : State} {t : Tid} (hd : deadStream s)
    (hl : s.loops.lookup t = some .decode) :
    ∃ s', run s [.lRead t, .lDeliver t] = some s' ∧ anyPending s'.entries = false ∧
      keys s'.entries = keys s.entries := by
  obtain ⟨it, rest, hs, hst⟩ := hd
  -- a sticky item is no message: the loop reads it as a decode error
  have hm : it.msg? = none := by cases it <;> first | rfl | cases hst
  have h1 := (LoopStep.read hl hs (fun r x e => by subst e; cases hst)).step
  obtain ⟨s', hr, hp, hk⟩ := release_handleNone (t := t)
    (s := { s with s2c := if it.sticky then s.s2c else rest, loops := setT s.loops t (.handle it.msg?) })
    (by simp only [lookup_setT_self, hl, hm]; rfl)
  exact ⟨s', run_cons h1 hr, hp, hk⟩

theorem release_check {s : State} {t : Tid} (hd : deadStream s) (hp : anyPending s.entries = true)
    (hl : s.loops.lookup t = some .check) :
    ∃ s', run s [.lCheck t, .lRead t, .lDeliver t] = some s' ∧ anyPending s'.entries = false ∧
      keys s'.entries = keys s.entries := by
  obtain ⟨s', hr, hp', hk⟩ := release_decode (s := { s with loops := setT s.loops t .decode }) (t := t)
    (deadStream_of_s2c hd rfl) (by simp only [lookup_setT_self, hl]; rfl)
  exact ⟨s', run_cons (LoopStep.again hl hp).step hr, hp', hk⟩

/-- delivering a message either fails everything or leads to `check`; the stream is not touched
    and no entry is added or removed -/
theorem deliver_some {s : State} {t : Tid} {m : Msg} (hl : s.loops.lookup t = some (.handle (some m))) :
    ∃ s1, Step s (.lDeliver t) s1 ∧ s1.s2c = s.s2c ∧ keys s1.entries = keys s.entries ∧
      (anyPending s1.entries = false ∨ s1.loops.lookup t = some .check) := by
  have hc : (setT s.loops t LPc.check).lookup t = some .check := by
    simp only [lookup_setT_self, hl]; rfl
  obtain ⟨s1, h⟩ := LoopStep.deliver hl
  refine ⟨s1, h.step, ?_⟩
  cases h with
  | fatal | stepFatalAll => exact ⟨rfl, keys_failAll _, .inl (anyPending_failAll _)⟩
  | done | stepFatal => exact ⟨rfl, keys_setRes _ _ _, .inr hc⟩
  | ignore => exact ⟨rfl, rfl, .inr hc⟩

/-- C08 (9): on a dead stream the existing read loop (there is one, by C06_inv) releases EVERY pending
    entry within its next at most four own steps, whatever it was doing.  Together with
    `C08_dead_stable` (the stream stays dead) and `C06_inv` (a pending entry always has a loop) this
    covers every Execute that registers later as well: see `C08_later_execute`. -/
theorem C08_all_released {s : State} (hr : Reachable s) (hd : deadStream s)
    (hp : anyPending s.entries = true) :
    ∃ ls s', ls.length ≤ 4 ∧ (∀ l ∈ ls, l.owner = .loop) ∧ run s ls = some s' ∧
      anyPending s'.entries = false ∧ keys s'.entries = keys s.entries := by
  obtain ⟨t, pc, hL⟩ := C06_pending_has_loop hr hp
  have hl : s.loops.lookup t = some pc := by rw [hL, lookup_cons']; simp
  cases pc with
  | decode =>
    obtain ⟨s', h1, h2, h3⟩ := release_decode hd hl
    exact ⟨_, s', by simp, by simp, h1, h2, h3⟩
  | check =>
    obtain ⟨s', h1, h2, h3⟩ := release_check hd hp hl
    exact ⟨_, s', by simp, by simp, h1, h2, h3⟩
  | exiting => exact absurd hl (C06_no_exiting hr t)
  | handle om =>
    cases om with
    | none =>
      obtain ⟨s', h1, h2, h3⟩ := release_handleNone hl
      exact ⟨_, s', by simp, by simp, h1, h2, h3⟩
    | some m =>
      obtain ⟨s1, hs1, hs2c, hk1, hor⟩ := deliver_some hl
      rcases hor with hnp | hck
      · exact ⟨[.lDeliver t], s1, by simp, by simp, run_cons hs1 (run_nil _), hnp, hk1⟩
      · cases hp1 : anyPending s1.entries with
        | false =>
          exact ⟨[.lDeliver t], s1, by simp, by simp, run_cons hs1 (run_nil _), hp1, hk1⟩
        | true =>
          obtain ⟨s', h1, h2, h3⟩ := release_check (deadStream_of_s2c hd hs2c) hp1 hck
          exact ⟨_, s', by simp, by simp, run_cons hs1 h1, h2, h3.trans hk1⟩

/- non-vacuity: a concrete instance of the hypotheses of `C08_all_released` -/
example : Reachable (stateAt (trDead.take 10)) ∧ deadStream (stateAt (trDead.take 10)) ∧
    anyPending (stateAt (trDead.take 10)).entries = true :=
  ⟨reachable_stateAt _, ⟨.garbage, [], by decide +kernel, rfl⟩, by decide +kernel⟩

/-- a released caller can take its result -/
theorem C08_caller_released {s : State} {c : Tid} {k : Caller} {v : Res}
    (hk : s.callers.lookup c = some k) (hpc : k.pc = .sent ∨ k.pc = .waiting)
    (he : s.entries.lookup k.run = some (.result v)) :
    ∃ s' k', Step s (.cTake c) s' ∧ s'.callers.lookup c = some k' ∧ k'.pc = .returned v :=
  ⟨_, _, (CallerStep.take hk hpc he).step, by rw [lookup_setT_self, hk]; rfl, rfl⟩

/- non-vacuity: a concrete instance of the hypotheses of `C08_caller_released` -/
example : (stateAt trDead).callers.lookup 1 = some ⟨1, false, false, .sent⟩ ∧
    (stateAt trDead).entries.lookup 1 = some (.result .err) := by decide +kernel

/-- C08 (9), corollary: an Execute that registers AFTER the stream died (fresh run ID, client not closed) is released as
    well: registering makes its entry pending, so by `C06_inv` a loop exists (the running one, or the
    one this very step starts), the stream is still dead (`C08_dead_stable`), and that loop's next at
    most four steps turn the new entry into a result, which the caller can then take. -/
theorem C08_later_execute {s s1 : State} {c : Tid} {lo : Option Tid} {k : Caller}
    (hr : Reachable s) (hd : deadStream s) (hst : Step s (.cRegister c lo) s1)
    (hk : s.callers.lookup c = some k) (hf : hasKey s.entries k.run = false)
    (hnd : s.done = false) :
    ∃ ls s', ls.length ≤ 4 ∧ (∀ l ∈ ls, l.owner = .loop) ∧ run s1 ls = some s' ∧
      anyPending s'.entries = false ∧ ∃ v, s'.entries.lookup k.run = some (.result v) := by
  have he : s1.entries = s.entries ++ [(k.run, .pending)] := by
    rcases hst.inv with h | h | h | h | h | h <;> cases h <;>
      (rw [hk] at ‹s.callers.lookup c = some _›; cases ‹some k = some _›)
    -- `registerRefused` is excluded by `hnd` and `hf`; `register` and `registerLoop` add the entry
    · rcases ‹_ ∨ _› with h | h
      · rw [hnd] at h; cases h
      · rw [hf] at h; cases h
    · rfl
    · rfl
  have hp : anyPending s1.entries = true := by rw [he]; exact anyPending_append_pending _ _
  obtain ⟨ls, s', h1, h2, h3, h4, h5⟩ :=
    C08_all_released (.step hr hst) (C08_dead_stable hd hst) hp
  refine ⟨ls, s', h1, h2, h3, h4, entry_result_of_not_pending ?_ h4⟩
  rw [h5, he]; simp

/- non-vacuity: a concrete instance of the hypotheses of `C08_later_execute` -/
example : Reachable (stateAt (trLate.take 8)) ∧ deadStream (stateAt (trLate.take 8)) ∧
    Step (stateAt (trLate.take 8)) (.cRegister 1 (some 10)) (stateAt trLate) ∧
    (stateAt (trLate.take 8)).callers.lookup 1 = some ⟨1, false, false, .start false⟩ ∧
    hasKey (stateAt (trLate.take 8)).entries 1 = false ∧ (stateAt (trLate.take 8)).done = false :=
  ⟨reachable_stateAt _, ⟨.eof, [], by decide +kernel, rfl⟩, by decide +kernel, by decide +kernel, by decide +kernel, by decide +kernel⟩

/-- every success result - in the table, in a returning Execute, in the hands of a loop - is a
    work-done item that was read from the stream (`consumed`) -/
structure InvF (s : State) : Prop where
  ent : ∀ r x, s.entries.lookup r = some (.result (.ok x)) → (r, x) ∈ s.consumed
  cal : ∀ c k, s.callers.lookup c = some k → ∀ x, k.pc = .returned (.ok x) → (k.run, x) ∈ s.consumed
  lp : ∀ l pc, s.loops.lookup l = some pc →
    ∀ r x, pc = .handle (some (.workDone r (some x))) → (r, x) ∈ s.consumed

theorem consumed_step {s s' : State} {l : Label} (h : Step s l s') :
    s'.consumed = s.consumed ∨
    (∃ t r x rest, l = .lRead t ∧ s.s2c = .msg (.workDone r (some x)) :: rest ∧
      s.loops.lookup t = some .decode ∧ s'.consumed = s.consumed ++ [(r, x)]) ∨
    (∃ c k x rest, l = .cReadV1 c ∧ s.callers.lookup c = some k ∧ k.pc = .sentV1 ∧
      s.s2c = .v1done x :: rest ∧ s'.consumed = s.consumed ++ [(k.run, x)]) := by
  rcases h.inv with h | h | h | h | h | h
  · cases h <;> exact .inl rfl
  · cases h with
    | readV1 hk hs hpc => exact .inr (.inr ⟨_, _, _, _, rfl, hk, hpc, hs, rfl⟩)
    | _ => exact .inl rfl
  · cases h with
    | readDone hl hs => exact .inr (.inl ⟨_, _, _, _, rfl, hs, hl, rfl⟩)
    | _ => exact .inl rfl
  all_goals cases h <;> exact .inl rfl

theorem consumed_mono {s s' : State} {l : Label} (h : Step s l s') {p : Run × Nat}
    (hp : p ∈ s.consumed) : p ∈ s'.consumed := by
  rcases consumed_step h with e | ⟨_, _, _, _, _, _, _, e⟩ | ⟨_, _, _, _, _, _, _, _, e⟩ <;> rw [e]
  · exact hp
  · exact List.mem_append_left _ hp
  · exact List.mem_append_left _ hp

/-- A success result travels stream -> loop -> table -> caller; at the first hop it is recorded. -/
theorem invF_step {s s' : State} {l : Label} (hi : InvF s) (h : Step s l s') : InvF s' := by
  have mono {p} := consumed_mono h (p := p)
  have ent : ∀ r x, s'.entries.lookup r = some (.result (.ok x)) → (r, x) ∈ s'.consumed :=
    fun r x h1 => (ok_entry_origin h h1).elim (fun h0 => mono (hi.ent r x h0))
      (fun ⟨t, _, ht⟩ => mono (hi.lp t _ ht r x rfl))
  have cal : ∀ c k, s.callers.lookup c = some k →
      ∀ x, k.pc = .returned (.ok x) → (k.run, x) ∈ s'.consumed :=
    fun c k hk x hp => mono (hi.cal c k hk x hp)
  have lp : ∀ l pc, s.loops.lookup l = some pc →
      ∀ r x, pc = .handle (some (.workDone r (some x))) → (r, x) ∈ s'.consumed :=
    fun l pc hl r x hp => mono (hi.lp l pc hl r x hp)
  refine ⟨ent, ?_, ?_⟩ <;> rcases h.inv with h' | h' | h' | h' | h' | h'
  -- an Execute gets a success from the table (`cTake`) or, for ATP v1, from the stream
  · cases h' <;> exact cal
  · cases h' with
    | call =>
      exact fun c k hk => (lookup_append_single_some hk).elim (cal c k)
        (fun e x hp => by rw [e] at hp; cases hp)
    | take _ _ he => exact forall_lookup_setT cal (fun x hp => by cases hp; exact mono (hi.ent _ _ he))
    | readV1 => exact forall_lookup_setT cal (fun x hp => by cases hp; simp)
    | _ => exact forall_lookup_setT cal nofun
  · cases h' <;> exact cal
  · cases h' <;> exact cal
  · cases h' <;> exact cal
  · cases h' <;> exact cal
  -- the loop holds an intact work-done message only after reading it
  · cases h' <;> exact lp
  · cases h' with
    | registerLoop =>
      exact fun l pc hl => (lookup_append_single_some hl).elim (lp l pc)
        (fun e r x hp => by rw [e] at hp; cases hp)
    | _ => exact lp
  · cases h' with
    | readDone => exact forall_lookup_setT lp (fun r x hp => by cases hp; simp)
    | @read _ it _ _ _ hd =>
      exact forall_lookup_setT lp (fun r x hp => by cases it <;> cases hp; exact absurd rfl (hd r x))
    | fatal | exit => exact fun l pc hl => lp l pc (lookup_of_delT hl)
    | _ => exact forall_lookup_setT lp nofun
  · cases h' <;> exact lp
  · cases h' <;> exact lp
  · cases h' <;> exact lp

theorem invF_of_reachable {s : State} (h : Reachable s) : InvF s := by
  induction h with
  | init => constructor <;> simp [init]
  | step _ hs ih => exact invF_step ih hs

/-- C08 (10): no result is fabricated: every success result in the table, in a returning Execute and
    in the hands of the loop is a work-done item that was actually read from the stream. -/
theorem C08_no_fabrication {s : State} (h : Reachable s) :
    (∀ r x, s.entries.lookup r = some (.result (.ok x)) → (r, x) ∈ s.consumed) ∧
    (∀ c k x, s.callers.lookup c = some k → k.pc = .returned (.ok x) → (k.run, x) ∈ s.consumed) ∧
    (∀ l r x, s.loops.lookup l = some (.handle (some (.workDone r (some x)))) → (r, x) ∈ s.consumed) :=
  let hi := invF_of_reachable h
  ⟨hi.ent, fun c k x hk => hi.cal c k hk x, fun l r x hl => hi.lp l _ hl r x rfl⟩

/- non-vacuity: a concrete instance of the hypotheses of `C08_no_fabrication` -/
example : Reachable (stateAt (repairedTrace.take 13)) ∧
    (stateAt (repairedTrace.take 13)).entries.lookup 1 = some (.result (.ok 7)) ∧
    (1, 7) ∈ (stateAt (repairedTrace.take 13)).consumed :=
  ⟨reachable_stateAt _, by decide +kernel, by decide +kernel⟩

/-- C08 (10): `consumed` only grows by reading an intact work-done item from the head of the stream
    (the read loop for ATP v3, the caller itself for ATP v1). -/
theorem C08_consumed_intact {s s' : State} {l : Label} {p : Run × Nat} (h : Step s l s')
    (h1 : p ∈ s'.consumed) (h0 : p ∉ s.consumed) :
    (∃ t rest, l = .lRead t ∧ s.s2c = .msg (.workDone p.1 (some p.2)) :: rest) ∨
    (∃ c k rest, l = .cReadV1 c ∧ s.callers.lookup c = some k ∧ k.pc = .sentV1 ∧ k.run = p.1 ∧
      s.s2c = .v1done p.2 :: rest) := by
  rcases consumed_step h with e | ⟨t, r, x, rest, rfl, hs, _, e⟩ | ⟨c, k, x, rest, rfl, hk, hpc, hs, e⟩ <;>
    rw [e] at h1
  · exact absurd h1 h0
  · cases (List.mem_append.1 h1).resolve_left h0 |> List.mem_singleton.1
    exact .inl ⟨t, rest, rfl, hs⟩
  · cases (List.mem_append.1 h1).resolve_left h0 |> List.mem_singleton.1
    exact .inr ⟨c, k, rest, rfl, hk, hpc, rfl, hs⟩

/- non-vacuity: a concrete instance of the hypotheses of `C08_consumed_intact` -/
example : Step (stateAt (repairedTrace.take 11)) (.lRead 10) (stateAt (repairedTrace.take 12)) ∧
    (1, 7) ∈ (stateAt (repairedTrace.take 12)).consumed ∧
    (1, 7) ∉ (stateAt (repairedTrace.take 11)).consumed := by decide +kernel

/-! ### a frame that does not decode strictly as work-done never yields a success

  Since commit 1454f2e the client decodes the payload of a work-done / signal / error frame with its
  strict decoder (an unknown field is an error).  A frame with message ID work-done whose payload
  belongs to another message type - what a single flipped ID byte turns a signal frame into - is
  therefore the item `.msg (.workDone r none)` (the harness classifies frames with the same strict
  decoder, harness/atpcs/wire.go `Classify`), and in the model such an item can only fail run `r`. -/

/-- Handling a work-done frame whose payload does not decode creates no success result, for no run:
    every `ok` entry after the step was there before it. -/
theorem C08_undecodable_done_no_success {s s' : State} {l : Tid} {r r' : Run} {x : Nat}
    (h : Step s (.lDeliver l) s')
    (hl : s.loops.lookup l = some (.handle (some (.workDone r none))))
    (h1 : s'.entries.lookup r' = some (.result (.ok x))) :
    s.entries.lookup r' = some (.result (.ok x)) :=
  (ok_entry_origin h h1).resolve_right fun ⟨t, ht, hlk⟩ => by cases ht; rw [hl] at hlk; cases hlk

/-- Execute 1 waits; the server's frame for run 1 has ID work-done but a payload that is not a
    work-done message (a flipped type byte). -/
def trTypeFlip : List Label :=
  [.rsCall, .rsSend true, .sRecv, .envPut (.hello 3 true), .rsRead, .rsRet,
   .call 1 1 false false, .cRegister 1 (some 10), .cSend 1 true, .sRecv, .cWait 1,
   .envPut (.msg (.workDone 1 none)), .lRead 10, .lDeliver 10, .cTake 1]

/-- The run exists, Execute 1 ends with an ERROR, nothing was recorded as an intact work-done, and
    the history in which it returns any success is not a history of the model. -/
theorem C08_typeflip_witness :
    (run init trTypeFlip).isSome = true ∧
    (stateAt trTypeFlip).callers.lookup 1 = some ⟨1, false, false, .returned .err⟩ ∧
    (stateAt trTypeFlip).consumed = [] ∧
    (run init (trTypeFlip ++ [.cRet 1 .err])).isSome = true ∧
    run init (trTypeFlip ++ [.cRet 1 (.ok 0)]) = none := by decide +kernel

/- non-vacuity of `C08_undecodable_done_no_success`: the step of the witness is an instance -/
example : Step (stateAt (trTypeFlip.take 13)) (.lDeliver 10) (stateAt (trTypeFlip.take 14)) ∧
    (stateAt (trTypeFlip.take 13)).loops.lookup 10 = some (.handle (some (.workDone 1 none))) ∧
    (stateAt (trTypeFlip.take 14)).entries.lookup 1 = some (.result .err) := by decide +kernel

/-- C08 (11): ReadSchema reports success only for a hello message with a supported version and a
    decodable schema. -/
theorem C08_readschema {s s' : State} (h : Step s .rsRead s') (hr : s'.rs = .returned true) :
    ∃ v rest, s.s2c = .hello v true :: rest ∧ (v = 1 ∨ v = 3) ∧ s'.ver = v := by
  rcases h.inv with h | h | h | h | h | h <;> cases h
  -- `hello` with a supported version; `readBad` reports failure
  · rename_i hs hv; cases hr; exact ⟨_, _, hs, hv, rfl⟩
  · cases hr

/- non-vacuity: a concrete instance of the hypotheses of `C08_readschema` -/
example : Step (stateAt (hs3.take 4)) .rsRead (stateAt (hs3.take 5)) ∧
    (stateAt (hs3.take 5)).rs = .returned true := by decide +kernel

/-- C08 (12): after a failed client-done write, Close returns (when the goroutines are gone, or by the
    graceful timeout while some remain). -/
theorem C08_close_returns {s : State} (h : s.closer = .failed) :
    (∃ s', Step s .clRet s' ∧ s'.closer = .returned false) ∨
    (∃ s', Step s .clTimeout s' ∧ s'.closer = .returned false) := by
  cases hw : wgZero s
  · exact .inr ⟨_, (CloserStep.timeout h hw).step, rfl⟩
  · exact .inl ⟨_, (CloserStep.retFailed hw h).step, rfl⟩

/- non-vacuity: a concrete instance of the hypotheses of `C08_close_returns` -/
example : (stateAt (hs3 ++ [.clCall, .clCancel, .clMark, .clSend false])).closer = .failed := by decide +kernel

#print axioms C08_fanout
#print axioms C08_dead_stable
#print axioms C08_all_released
#print axioms C08_later_execute
#print axioms C08_caller_released
#print axioms C08_no_fabrication
#print axioms C08_consumed_intact
#print axioms C08_readschema
#print axioms C08_close_returns
#print axioms C08_undecodable_done_no_success
#print axioms C08_typeflip_witness

end Arca.AtpClient
