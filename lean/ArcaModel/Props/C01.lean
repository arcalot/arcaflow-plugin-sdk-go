import ArcaModel.Lemmas.RoundTrip
import ArcaModel.Lemmas.CborLeg
import ArcaModel.Lemmas.ValueDecEq
import ArcaModel.Model.WFCheck
/-
  C01  Serialize and Unserialize are mutual inverses.

  Proved for every schema of the modelled kinds (`WF1`), every raw value and every externals:
  whatever Unserialize accepts passes Validate, serializes, and unserializing the serialized form
  yields the identical value, whose serialization is identical again. One-ofs are covered in BOTH
  modes: discriminator not inlined (members must not declare the discriminator) and discriminator
  inlined (members must declare it with a type of the one-of's key kind) - in each mode `WF1` asks
  exactly what `ApplyNamespace` / `validateSubtypeDiscriminatorInlineFields` enforces by panicking,
  and nothing more (see the docstring of `WF1`; `C01_inlined_needs_key_kind` and
  `C01_inlined_needs_key_kind_int` below show that the key-kind condition cannot be dropped).

  The CBOR leg (the type normalisation `cborNorm` that one Marshal / Unmarshal-into-any round trip
  performs) is covered by the `C01_cbor_*` theorems at the end of this file.

  What is NOT covered by a theorem (hence the `_partial` suffix of the in-memory theorems): the
  typed entry points (`UnserializeType`, `SerializeType`, ...). They lie outside the model `run` and
  are covered by the correspondence run and the chain oracle of the check only; that `cborNorm` is
  what fxamacker/cbor does is compared with the real library on every run. Within the model
  nothing is missing. Struct-mapped objects have a model of their own (Model/StructMap.lean); their
  round trip is in Props/StructMap.lean and Props/StructRoundTrip.lean
  (`C01_struct_end_to_end_partial`).
-/
namespace Arca

/-- Unserialize ∘ Serialize is the identity on unserialized values; every unserialized value
    validates. -/
theorem C01_roundtrip_partial (x : Ext) (fuel : Nat) (env : Env) (t : Ty) (v r : V)
    (henv : EnvWF1 env) (hwf : WF1 env t) (h : run x fuel .U env t v = .ok r) :
    run x fuel .V env t r = done ∧
    ∃ w, run x fuel .S env t r = .ok w ∧ run x fuel .U env t w = .ok r :=
  (rt_aux' x fuel env t henv hwf).1 v r h

/-- Serialize ∘ Unserialize is idempotent on wire forms: unserializing a serialized form and
    serializing again yields the identical wire form. -/
theorem C01_serialize_idempotent_partial (x : Ext) (fuel : Nat) (env : Env) (t : Ty) (v r w : V)
    (henv : EnvWF1 env) (hwf : WF1 env t) (h : run x fuel .U env t v = .ok r)
    (hs : run x fuel .S env t r = .ok w) :
    ∃ r', run x fuel .U env t w = .ok r' ∧ run x fuel .S env t r' = .ok w := by
  obtain ⟨_, w', hs', hu⟩ := C01_roundtrip_partial x fuel env t v r henv hwf h
  rw [hs] at hs'
  cases hs'
  exact ⟨r, hu, hs⟩

/-- `C01_roundtrip_partial` for closed (top-level) schemas: there is no enclosing scope to assume
    well-formed. -/
theorem C01_roundtrip_closed_partial (x : Ext) (fuel : Nat) (t : Ty) (v r : V)
    (hwf : WF1 [] t) (h : run x fuel .U [] t v = .ok r) :
    run x fuel .V [] t r = done ∧ ∃ w, run x fuel .S [] t r = .ok w ∧ run x fuel .U [] t w = .ok r :=
  C01_roundtrip_partial x fuel [] t v r (by intro p hp; simp at hp) hwf h

/-! ### an executable check of `WF1`, for the non-vacuity example -/

def declaresB (env : Env) (disc : String) : Ty → Bool
  | .obj _ props => hasKey disc props
  | .ref id => match lookupS id env with
    | some (.obj _ ps) => hasKey disc ps
    | _ => false
  | .scope objs root => match lookupS root objs with
    | some (.obj _ ps) => hasKey disc ps
    | _ => false
  | _ => false

theorem declaresB_complete {env : Env} {disc : String} {t : Ty} (h : declaresB env disc t = false) :
    ¬ declares env disc t := by
  intro hd
  cases t <;> simp only [declares] at hd
  · simp only [declaresB, hd] at h; cases h
  · obtain ⟨oid, ps, hl, hk⟩ := hd
    simp only [declaresB, hl, hk] at h; cases h
  · obtain ⟨oid, ps, hl, hk⟩ := hd
    simp only [declaresB, hl, hk] at h; cases h

def declaresTypedB (env : Env) (ik : Bool) (disc : String) : Ty → Bool
  | .obj _ props => match lookupS disc props with
    | some p => discTyOK ik p.ty
    | none => false
  | .ref id => match lookupS id env with
    | some (.obj _ ps) => (match lookupS disc ps with
      | some p => discTyOK ik p.ty
      | none => false)
    | _ => false
  | .scope objs root => match lookupS root objs with
    | some (.obj _ ps) => (match lookupS disc ps with
      | some p => discTyOK ik p.ty
      | none => false)
    | _ => false
  | _ => false

theorem declaresTypedB_sound {env : Env} {ik : Bool} {disc : String} {t : Ty} (h : declaresTypedB env ik disc t = true) :
    declaresTyped env ik disc t := by
  cases t <;> simp only [declaresTypedB, Bool.false_eq_true] at h <;> simp only [declaresTyped]
  · split at h
    · rename_i p hp; exact ⟨p, hp, h⟩
    · simp at h
  · split at h
    · rename_i oid ps hl
      split at h
      · rename_i p hp; exact ⟨oid, ps, p, hl, hp, h⟩
      · simp at h
    · simp at h
  · split at h
    · rename_i oid ps hl
      split at h
      · rename_i p hp; exact ⟨oid, ps, p, hl, hp, h⟩
      · simp at h
    · simp at h

def wf1B : Nat → Env → Ty → Bool
  | 0, _, _ => false
  | n + 1, env, t =>
    match t with
    | .int _ _ _ | .float _ _ _ | .str _ _ _ | .bool | .pattern | .enumInt _ _ | .enumStr _ | .any => true
    | .list item _ _ => wf1B n env item
    | .map k v _ _ => wf1B n env k && wf1B n env v
    | .obj _ props => props.all fun np => wf1B n env np.2.ty
    | .oneOf ik d inl members =>
      if inl then members.all fun m => wf1B n env m.2 && declaresTypedB env ik d m.2
      else members.all fun m => wf1B n env m.2 && objLikeB env m.2 && !declaresB env d m.2
    | .ref id => (lookupS id env).isSome
    | .scope objs root => (lookupS root objs).isSome && objs.all fun p => wf1B n objs p.2

theorem wf1B_sound : ∀ (n : Nat) (env : Env) (t : Ty), wf1B n env t = true → WF1 env t
  | 0, _, _, h => by simp [wf1B] at h
  | n + 1, env, t, h => by
    have ih := wf1B_sound n
    cases t with
    | int => exact .int
    | float => exact .float
    | str => exact .str
    | bool => exact .bool
    | pattern => exact .pattern
    | enumInt => exact .enumInt
    | enumStr => exact .enumStr
    | any => exact .any
    | list item a b => exact .list (ih _ _ (by simpa [wf1B] using h))
    | map k v a b =>
      simp only [wf1B, Bool.and_eq_true] at h
      exact .map (ih _ _ h.1) (ih _ _ h.2)
    | obj id props =>
      simp only [wf1B, List.all_eq_true] at h
      exact .obj (fun np hnp => ih _ _ (h np hnp))
    | oneOf ik d inl members =>
      simp only [wf1B] at h
      cases inl with
      | true =>
        simp only [if_true, List.all_eq_true, Bool.and_eq_true] at h
        exact .oneOfInl (fun m hmm => ih _ _ (h m hmm).1) (fun m hmm => declaresTypedB_sound (h m hmm).2)
      | false =>
        simp only [Bool.false_eq_true, if_false, List.all_eq_true, Bool.and_eq_true, Bool.not_eq_true'] at h
        exact .oneOf (fun m hmm => ih _ _ (h m hmm).1.1) (fun m hmm => objLikeB_sound (h m hmm).1.2)
          (fun m hmm => declaresB_complete (h m hmm).2)
    | ref id =>
      simp only [wf1B] at h
      cases hl : lookupS id env with
      | none => simp [hl] at h
      | some o => exact .ref hl
    | scope objs root =>
      simp only [wf1B, Bool.and_eq_true, List.all_eq_true] at h
      cases hl : lookupS root objs with
      | none => simp [hl] at h
      | some o => exact .scope hl (fun p hp => ih _ _ (h.2 p hp))

/-- a nested schema like `c04Example` of Props/C04.lean (scope, recursive references, a non-inlined
    one-of, defaults, all container kinds); it satisfies the hypotheses (`c01Example_wf`) -/
def c01Example : Ty :=
  .scope
    [("Root", .obj "Root"
        [("items", .mk (.list (.ref "Item") (some 0) (some 3)) true [] [] [] none false),
         ("choice", .mk (.oneOf false "kind" false [(.s "a", .ref "Item"), (.s "b", .obj "B" [])]) false [] [] [] none false),
         ("n", .mk (.int (some 0) (some 10) none) false [] [] [] (some ⟨some (.float .f64 0), none⟩) false),
         ("m", .mk (.map (.str none none none) .any none none) false [] [] [] none false)]),
     ("Item", .obj "Item" [("name", .mk (.str (some 1) none none) true [] [] [] none false),
                           ("next", .mk (.ref "Item") false [] [] [] none false)])]
    "Root"

theorem c01Example_wf : WF1 [] c01Example := wf1B_sound 10 [] c01Example (by decide)

example : WF1 [] c01Example := c01Example_wf

def c01Ext : Ext := ⟨fun _ => none, fun _ => "", fun _ => true, fun _ _ => true⟩

def c01Bytes : Units := ⟨⟨"B", "B", "byte", "bytes"⟩, [(1024, ⟨"kB", "kB", "kilobyte", "kilobytes"⟩)]⟩

/-- Inlined one-ofs of both key kinds: a string-keyed one over references inside a list (one member
    declares the discriminator as a required bounded string, the other as an optional string enum
    with a default and a conflict rule); an int-keyed one whose members declare the discriminator
    as a required bounded int WITH UNITS and as an int enum, the second member recursing to the
    root; and a non-inlined one-of next to them. -/
def c01InlExample : Ty :=
  .scope
    [("Root", .obj "Root"
        [("shapes", .mk (.list (.oneOf false "kind" true [(.s "circle", .ref "Circle"), (.s "rect", .ref "Rect")])
            none (some 4)) true [] [] [] none false),
         ("level", .mk (.oneOf true "v" true
            [(.i 1, .obj "V1" [("v", .mk (.int (some 0) (some 9) (some c01Bytes)) true [] [] [] none false),
                               ("a", .mk .bool false [] [] [] none false)]),
             (.i 2, .obj "V2" [("v", .mk (.enumInt [2, 3] none) false [] [] [] none false),
                               ("next", .mk (.ref "Root") false [] [] [] none false)])]) false [] [] [] none false),
         ("plain", .mk (.oneOf false "kind" false [(.s "c", .obj "C" [])]) false [] [] [] none false)]),
     ("Circle", .obj "Circle"
        [("kind", .mk (.str (some 1) (some 10) none) true [] [] [] none false),
         ("r", .mk (.int (some 0) none none) true [] [] [] none false)]),
     ("Rect", .obj "Rect"
        [("kind", .mk (.enumStr ["rect", "square"]) false [] [] ["r"] (some ⟨some (.str "square"), none⟩) false),
         ("w", .mk (.int none none none) false [] [] [] (some ⟨some (.int .int64 0), none⟩) false),
         ("r", .mk (.int none none none) false [] [] [] none false)])]
    "Root"

theorem c01InlExample_wf : WF1 [] c01InlExample := wf1B_sound 10 [] c01InlExample (by decide)

example : WF1 [] c01InlExample := c01InlExample_wf

/-- the theorem on that schema -/
example (x : Ext) (fuel : Nat) (v r : V) (h : run x fuel .U [] c01InlExample v = .ok r) :
    run x fuel .V [] c01InlExample r = done ∧
    ∃ w, run x fuel .S [] c01InlExample r = .ok w ∧ run x fuel .U [] c01InlExample w = .ok r :=
  C01_roundtrip_closed_partial x fuel c01InlExample v r c01InlExample_wf h

/-- an input it accepts (so the instance is not vacuous): both string members, the int member with
    units given as the string "1", a nested level through the recursive member -/
def c01InlInput : V :=
  .map .anyAny
    [(.str "shapes", .list
        [.map .anyAny [(.str "kind", .str "circle"), (.str "r", .int .int 2)],
         .map .strAny [(.str "kind", .str "rect"), (.str "w", .str "7")]]),
     (.str "level", .map .anyAny
        [(.str "v", .float .f64 0x4000000000000000),
         (.str "next", .map .anyAny
            [(.str "shapes", .list []),
             (.str "level", .map .anyAny [(.str "v", .str "1"), (.str "a", .str "yes")])])])]

/-- what Unserialize makes of `c01InlInput`; Serialize maps it to itself (every map is a
    `map[string]any` of an object, every integer an int64) -/
def c01InlValue : V :=
  .map .strAny
    [(.str "shapes", .list
        [.map .strAny [(.str "kind", .str "circle"), (.str "r", .int .int64 2)],
         .map .strAny [(.str "kind", .str "rect"), (.str "w", .int .int64 7)]]),
     (.str "level", .map .strAny
        [(.str "v", .int .int64 2),
         (.str "next", .map .strAny
            [(.str "shapes", .list []),
             (.str "level", .map .strAny [(.str "v", .int .int64 1), (.str "a", .bool true)])])])]

open ValueDecEq in
theorem c01Inl_unser : run c01Ext 12 .U [] c01InlExample c01InlInput = .ok c01InlValue := by decide +kernel

example : (run c01Ext 12 .U [] c01InlExample c01InlInput).isOk = true := by rw [c01Inl_unser]; rfl

/-- The key-kind condition of the inlined clause (`discTyOK`) cannot be dropped - string keys.
    Schema: string-keyed inlined one-of on "k", single member "5" = object B {k : int}.
    Raw input {"k": "5"}.  Unserialize accepts (the member converts "5" to the integer 5, the one-of
    then overwrites it with its own converted key, the string "5") and returns the
    `map[string]any{"k": "5"}`; Validate and Serialize of that value both fail (the member's int
    property rejects a string).  `NewOneOfStringSchema` + `ApplyNamespace` refuse this schema (kind
    `int64` ≠ kind `string`), so this is not a defect of the SDK but the reason for the condition. -/
def c01BadKindS : Ty :=
  .oneOf false "k" true [(.s "5", .obj "B" [("k", .mk (.int none none none) false [] [] [] none false)])]

theorem C01_inlined_needs_key_kind :
    run c01Ext 3 .U [] c01BadKindS (.map .anyAny [(.str "k", .str "5")]) = .ok (.map .strAny [(.str "k", .str "5")]) ∧
    (run c01Ext 3 .V [] c01BadKindS (.map .strAny [(.str "k", .str "5")])).isErr = true ∧
    (run c01Ext 3 .S [] c01BadKindS (.map .strAny [(.str "k", .str "5")])).isErr = true :=
  ⟨rfl, by decide, by decide⟩

example : wf1B 10 [] c01BadKindS = false := by decide +kernel

/-- The same for int keys.  Schema: int-keyed inlined one-of on "k", single member 5 = object
    B {k : string}.  Raw input {"k": 5}.  Unserialize accepts and returns
    `map[string]any{"k": int64(5)}`; Validate passes and Serialize succeeds - but `reflect` converts
    the integer 5 to the one-rune string "\x05", so the serialized form is {"k": "\x05"}, which
    Unserialize rejects (not a decimal integer).  Also refused by the constructors. -/
def c01BadKindI : Ty :=
  .oneOf true "k" true [(.i 5, .obj "B" [("k", .mk (.str none none none) false [] [] [] none false)])]

theorem C01_inlined_needs_key_kind_int :
    run c01Ext 3 .U [] c01BadKindI (.map .anyAny [(.str "k", .int .int 5)]) = .ok (.map .strAny [(.str "k", .int .int64 5)]) ∧
    run c01Ext 3 .V [] c01BadKindI (.map .strAny [(.str "k", .int .int64 5)]) = done ∧
    run c01Ext 3 .S [] c01BadKindI (.map .strAny [(.str "k", .int .int64 5)]) = .ok (.map .strAny [(.str "k", .str "\x05")]) ∧
    (run c01Ext 3 .U [] c01BadKindI (.map .strAny [(.str "k", .str "\x05")])).isErr = true :=
  ⟨rfl, rfl, rfl, by decide⟩

example : wf1B 10 [] c01BadKindI = false := by decide +kernel

/-- Nothing beyond the key kind is needed. E.g. a discriminator property whose own constraints
    exclude the member's key (here: an enum without the key "b") is harmless: the member rejects
    the input at Unserialize, so there is nothing to round-trip. -/
def c01Excluding : Ty :=
  .oneOf false "k" true [(.s "a", .obj "A" [("k", .mk (.enumStr ["a"]) true [] [] [] none false)]),
                         (.s "b", .obj "B" [("k", .mk (.enumStr ["a"]) true [] [] [] none false)])]

example : wf1B 10 [] c01Excluding = true := by decide +kernel
example : (run c01Ext 3 .U [] c01Excluding (.map .anyAny [(.str "k", .str "b")])).isErr = true := by decide +kernel
example : (run c01Ext 3 .U [] c01Excluding (.map .anyAny [(.str "k", .str "a")])).isOk = true := by decide +kernel

#print axioms C01_roundtrip_partial
#print axioms C01_serialize_idempotent_partial
#print axioms C01_roundtrip_closed_partial

end Arca

/-! ## The CBOR leg

  ATP does not hand the serialized value `w` to the peer's Unserialize directly: it goes through
  `cbor.Marshal` and is decoded into `any`, which changes the Go types (`cborNorm`,
  Model/Describe.lean, compared with fxamacker/cbor on every run of the check): a non-negative
  integer of any kind arrives as `uint64`, a negative one as `int64`, every float as `float64`,
  every map as `map[any]any`, every slice as `[]any`, a defined type as its underlying type.

  The theorems below close that gap for the whole model: what the receiving side unserializes
  from the CBOR-normalised wire form is IDENTICAL to the sender's value (`C01_cbor_roundtrip`), so
  it validates and serializes to the identical wire form again (`C01_cbor_serialize_fixed`,
  `C01_cbor_end_to_end`).

  The one hypothesis beyond `WF1`: the values are GO VALUES (`GoV`: every integer lies within the
  range of its kind, a byte is below 256, a defined type wraps a scalar). The model type `V` is
  wider than Go's value universe - it can write down an `int64` holding 2^63 - and the encoder
  chooses the unsigned major type by the NUMBER; `C01_cbor_needs_go_values` shows the statement is
  false for that non-value, so the hypothesis cannot be dropped, and that it excludes nothing that
  exists in a Go process. It is asked of the raw input `v` and of the property defaults of the
  schema (`DefGo`/`EnvDefGo`; defaults are what `encoding/json` decoded into `any`), and proved to
  propagate to the unserialized value and to the wire form (`C01_wire_is_go_value`).
  `C01_cbor_unserialize` is the underlying fact about Unserialize alone: no round trip, no
  well-formedness of the schema, any Go value. No kind of schema had to be excluded: in the model
  there is NO Go value on which the CBOR leg changes a successful Unserialize. -/
namespace Arca

/-- Unserialize does not see the CBOR leg: whatever it accepts (a Go value `w`), it accepts in
    CBOR-normalised form too, with the identical result. Every schema kind, every environment
    (references, scopes), every externals; no well-formedness of the schema is needed. -/
theorem C01_cbor_unserialize (x : Ext) (fuel : Nat) (env : Env) (t : Ty) (w r : V)
    (hw : GoV w = true) (h : run x fuel .U env t w = .ok r) :
    run x fuel .U env t (cborNorm w) = .ok r :=
  unser_cborNorm x fuel env t w r hw h

/-- Go values in, Go values out: from a raw Go value (and a schema whose defaults are Go values)
    Unserialize yields a Go value, and Serialize yields a Go value from that. -/
theorem C01_wire_is_go_value (x : Ext) (fuel : Nat) (env : Env) (t : Ty) (v r w : V)
    (hdenv : EnvDefGo env) (hdt : DefGo t) (hv : GoV v = true)
    (h : run x fuel .U env t v = .ok r) (hs : run x fuel .S env t r = .ok w) :
    GoV r = true ∧ GoV w = true := by
  have hr := unserialize_goV x fuel env t v r hdenv hdt hv h
  exact ⟨hr, serialize_goV x fuel env t r w hr hs⟩

/-- The round trip over the CBOR wire, given only that the wire form is a Go value. -/
theorem C01_cbor_roundtrip_wire (x : Ext) (fuel : Nat) (env : Env) (t : Ty) (v r w : V)
    (henv : EnvWF1 env) (hwf : WF1 env t) (hw : GoV w = true)
    (h : run x fuel .U env t v = .ok r) (hs : run x fuel .S env t r = .ok w) :
    run x fuel .U env t (cborNorm w) = .ok r := by
  obtain ⟨_, w', hs', hu⟩ := C01_roundtrip_partial x fuel env t v r henv hwf h
  rw [hs] at hs'
  cases hs'
  exact C01_cbor_unserialize x fuel env t w r hw hu

/-- THE ROUND TRIP OVER THE CBOR WIRE. If Unserialize accepts the raw Go value `v` with result `r`
    and `r` serializes to `w`, then unserializing what CBOR delivers of `w` yields exactly `r`. -/
theorem C01_cbor_roundtrip (x : Ext) (fuel : Nat) (env : Env) (t : Ty) (v r w : V)
    (henv : EnvWF1 env) (hwf : WF1 env t) (hdenv : EnvDefGo env) (hdt : DefGo t) (hv : GoV v = true)
    (h : run x fuel .U env t v = .ok r) (hs : run x fuel .S env t r = .ok w) :
    run x fuel .U env t (cborNorm w) = .ok r :=
  C01_cbor_roundtrip_wire x fuel env t v r w henv hwf
    (C01_wire_is_go_value x fuel env t v r w hdenv hdt hv h hs).2 h hs

/-- Serialization is a fixed point across the wire: the receiving side's value validates and
    serializes to the identical wire form. -/
theorem C01_cbor_serialize_fixed (x : Ext) (fuel : Nat) (env : Env) (t : Ty) (v r w : V)
    (henv : EnvWF1 env) (hwf : WF1 env t) (hdenv : EnvDefGo env) (hdt : DefGo t) (hv : GoV v = true)
    (h : run x fuel .U env t v = .ok r) (hs : run x fuel .S env t r = .ok w) :
    ∃ r', run x fuel .U env t (cborNorm w) = .ok r' ∧ run x fuel .V env t r' = done ∧
      run x fuel .S env t r' = .ok w :=
  ⟨r, C01_cbor_roundtrip x fuel env t v r w henv hwf hdenv hdt hv h hs,
    (C01_roundtrip_partial x fuel env t v r henv hwf h).1, hs⟩

/-- End to end, from acceptance of the raw value alone: the accepted value validates, serializes,
    the wire form is a Go value, and both the wire form and what CBOR delivers of it unserialize
    to the identical value. -/
theorem C01_cbor_end_to_end (x : Ext) (fuel : Nat) (env : Env) (t : Ty) (v r : V)
    (henv : EnvWF1 env) (hwf : WF1 env t) (hdenv : EnvDefGo env) (hdt : DefGo t) (hv : GoV v = true)
    (h : run x fuel .U env t v = .ok r) :
    run x fuel .V env t r = done ∧
    ∃ w, run x fuel .S env t r = .ok w ∧ GoV w = true ∧ run x fuel .U env t w = .ok r ∧
      run x fuel .U env t (cborNorm w) = .ok r := by
  obtain ⟨hV, w, hs, hu⟩ := C01_roundtrip_partial x fuel env t v r henv hwf h
  exact ⟨hV, w, hs, (C01_wire_is_go_value x fuel env t v r w hdenv hdt hv h hs).2, hu,
    C01_cbor_roundtrip x fuel env t v r w henv hwf hdenv hdt hv h hs⟩

/-- `C01_cbor_roundtrip` for closed (top-level) schemas. -/
theorem C01_cbor_roundtrip_closed (x : Ext) (fuel : Nat) (t : Ty) (v r w : V)
    (hwf : WF1 [] t) (hdt : DefGo t) (hv : GoV v = true)
    (h : run x fuel .U [] t v = .ok r) (hs : run x fuel .S [] t r = .ok w) :
    run x fuel .U [] t (cborNorm w) = .ok r :=
  C01_cbor_roundtrip x fuel [] t v r w (by intro p hp; simp at hp) hwf envDefGo_nil hdt hv h hs

/-- The Go-value hypothesis cannot be dropped, and what it excludes is not a Go value.
    Schema: `any`. "Value": an `int64` holding 2^63 = 9223372036854775808 (no such Go value: it is
    outside the range of its kind, `GoV` says so). In the model Unserialize and Serialize pass it
    through unchanged (an `int64` needs no range check in Go); the encoder would write it as an
    unsigned integer, it would arrive as `uint64(2^63)`, and the any-schema rejects a `uint64`
    above MaxInt64. Not a defect of the SDK: the sending side cannot hold this value. -/
theorem C01_cbor_needs_go_values :
    run c01Ext 2 .U [] .any (.int .int64 9223372036854775808) = .ok (.int .int64 9223372036854775808) ∧
    run c01Ext 2 .S [] .any (.int .int64 9223372036854775808) = .ok (.int .int64 9223372036854775808) ∧
    cborNorm (.int .int64 9223372036854775808) = .int .uint64 9223372036854775808 ∧
    (run c01Ext 2 .U [] .any (cborNorm (.int .int64 9223372036854775808))).isErr = true ∧
    GoV (.int .int64 9223372036854775808) = false :=
  ⟨rfl, rfl, rfl, by decide, by decide⟩

/-- the largest real int64 is fine -/
example : run c01Ext 2 .U [] .any (cborNorm (.int .int64 9223372036854775807)) = .ok (.int .int64 9223372036854775807) :=
  C01_cbor_unserialize c01Ext 2 [] .any _ _ (by decide +kernel) rfl

/-! ### non-vacuity: the hypotheses hold of the example schemas, the wire forms really change -/

theorem c01Example_defGo : DefGo c01Example := defGoB_sound 10 c01Example (by decide)
theorem c01InlExample_defGo : DefGo c01InlExample := defGoB_sound 10 c01InlExample (by decide)

example : DefGo c01Example := c01Example_defGo
example : DefGo c01InlExample := c01InlExample_defGo

/-- the theorem on the inlined example schema -/
example (x : Ext) (fuel : Nat) (v r w : V) (hv : GoV v = true)
    (h : run x fuel .U [] c01InlExample v = .ok r) (hs : run x fuel .S [] c01InlExample r = .ok w) :
    run x fuel .U [] c01InlExample (cborNorm w) = .ok r :=
  C01_cbor_roundtrip_closed x fuel c01InlExample v r w c01InlExample_wf c01InlExample_defGo hv h hs

/-- what CBOR delivers of it: every map a `map[any]any`, every integer - including the int
    discriminators `v` - a `uint64` -/
def c01InlCbor : V :=
  .map .anyAny
    [(.str "shapes", .list
        [.map .anyAny [(.str "kind", .str "circle"), (.str "r", .int .uint64 2)],
         .map .anyAny [(.str "kind", .str "rect"), (.str "w", .int .uint64 7)]]),
     (.str "level", .map .anyAny
        [(.str "v", .int .uint64 2),
         (.str "next", .map .anyAny
            [(.str "shapes", .list []),
             (.str "level", .map .anyAny [(.str "v", .int .uint64 1), (.str "a", .bool true)])])])]

example : GoV c01InlInput = true := by decide +kernel
open ValueDecEq in
theorem c01Inl_ser : run c01Ext 12 .S [] c01InlExample c01InlValue = .ok c01InlValue := by decide +kernel

example : run c01Ext 12 .U [] c01InlExample c01InlInput = .ok c01InlValue := c01Inl_unser
example : run c01Ext 12 .S [] c01InlExample c01InlValue = .ok c01InlValue := c01Inl_ser
example : cborNorm c01InlValue = c01InlCbor := by rfl
example : cborNorm c01InlValue ≠ c01InlValue := V.ne_of_beq (by decide +kernel)

/-- the instance of the theorem: the receiving side obtains the sender's value from `c01InlCbor` -/
example : run c01Ext 12 .U [] c01InlExample c01InlCbor = .ok c01InlValue :=
  C01_cbor_roundtrip_closed c01Ext 12 c01InlExample c01InlInput c01InlValue c01InlValue
    c01InlExample_wf c01InlExample_defGo (by decide +kernel) c01Inl_unser c01Inl_ser

/-- A second instance, on `c01Example` (non-inlined one-of, a default, a map with an `any` value
    schema), where raw input, unserialized value, wire form and CBOR-delivered form are four
    different values: a negative int8 under a string schema and under `any`, a float32, a byte
    slice and a defined int64 under `any`. -/
def c01CborInput : V :=
  .map .anyAny
    [(.str "items", .list [.map .strAny [(.str "name", .int .int8 (-3)),
        (.str "next", .map .anyAny [(.str "name", .str "b")])]]),
     (.str "choice", .map .anyAny [(.str "kind", .str "a"), (.str "name", .str "x")]),
     (.str "m", .map .strAny [(.str "k", .int .int8 (-5)),
        (.str "l", .list [.float .f32 0x3FF8000000000000, .bytes [1, 255], .named (.int .int64 7)])])]

/-- the unserialized value: `m` is a `map[string]any` -/
def c01CborValue : V :=
  .map .strAny
    [(.str "items", .list [.map .strAny [(.str "name", .str "-3"),
        (.str "next", .map .strAny [(.str "name", .str "b")])]]),
     (.str "choice", .map .strAny [(.str "name", .str "x"), (.str "kind", .str "a")]),
     (.str "m", .map ⟨.string, true⟩ [(.str "k", .int .int64 (-5)),
        (.str "l", .list [.float .f64 0x3FF8000000000000, .list [.int .int64 1, .int .int64 255], .int .int64 7])]),
     (.str "n", .int .int64 0)]

/-- the wire form: `m` is serialized to a `map[any]any` -/
def c01CborWire : V :=
  .map .strAny
    [(.str "items", .list [.map .strAny [(.str "name", .str "-3"),
        (.str "next", .map .strAny [(.str "name", .str "b")])]]),
     (.str "choice", .map .strAny [(.str "name", .str "x"), (.str "kind", .str "a")]),
     (.str "m", .map .anyAny [(.str "k", .int .int64 (-5)),
        (.str "l", .list [.float .f64 0x3FF8000000000000, .list [.int .int64 1, .int .int64 255], .int .int64 7])]),
     (.str "n", .int .int64 0)]

/-- what CBOR delivers: the negative integer stays an int64, the others become uint64 -/
def c01CborDelivered : V :=
  .map .anyAny
    [(.str "items", .list [.map .anyAny [(.str "name", .str "-3"),
        (.str "next", .map .anyAny [(.str "name", .str "b")])]]),
     (.str "choice", .map .anyAny [(.str "name", .str "x"), (.str "kind", .str "a")]),
     (.str "m", .map .anyAny [(.str "k", .int .int64 (-5)),
        (.str "l", .list [.float .f64 0x3FF8000000000000, .list [.int .uint64 1, .int .uint64 255], .int .uint64 7])]),
     (.str "n", .int .uint64 0)]

example : GoV c01CborInput = true := by decide +kernel
-- (the default of `n` is the float 0, whose exactness test computes 2^1074: the kernel evaluates it,
-- the elaborator refuses exponents of that size)
open ValueDecEq in
theorem c01Cbor_unser : run c01Ext 12 .U [] c01Example c01CborInput = .ok c01CborValue := by decide +kernel
open ValueDecEq in
theorem c01Cbor_ser : run c01Ext 12 .S [] c01Example c01CborValue = .ok c01CborWire := by decide +kernel

set_option exponentiation.threshold 1100 in
example : run c01Ext 12 .U [] c01Example c01CborInput = .ok c01CborValue := c01Cbor_unser
example : run c01Ext 12 .S [] c01Example c01CborValue = .ok c01CborWire := c01Cbor_ser
example : cborNorm c01CborWire = c01CborDelivered := by rfl
example : cborNorm c01CborWire ≠ c01CborWire := V.ne_of_beq (by decide +kernel)

set_option exponentiation.threshold 1100 in
example : run c01Ext 12 .U [] c01Example c01CborDelivered = .ok c01CborValue :=
  C01_cbor_roundtrip_closed c01Ext 12 c01Example c01CborInput c01CborValue c01CborWire
    c01Example_wf c01Example_defGo (by decide +kernel) c01Cbor_unser c01Cbor_ser

#print axioms C01_cbor_unserialize
#print axioms C01_wire_is_go_value
#print axioms C01_cbor_roundtrip_wire
#print axioms C01_cbor_roundtrip
#print axioms C01_cbor_serialize_fixed
#print axioms C01_cbor_end_to_end
#print axioms C01_cbor_roundtrip_closed
#print axioms C01_cbor_needs_go_values

end Arca
