import ArcaModel.Lemmas.StructMap
import ArcaModel.Lemmas.StructMapTotal
import ArcaModel.Props.C03
import ArcaModel.Lemmas.ValueDecEq
/-
  Struct-mapped objects: the map -> struct -> map leg of C01 / C03 / C04.

  Theorems about `Model/StructMap.lean` (the model of `unserializeToStruct`, `serializeStruct` /
  `validateStruct`, `buildObjectFieldCache`, `applySubObjectDefaultValues`), tied to the code by the
  `structmodel` differential stream.

  (a) round trip, per object: `C01_struct_fromStruct_toStruct` (map -> struct -> map, with the
      losses of the code stated exactly: `readBack`), `C01_struct_lossless` (no loss when optional
      properties are on pointer / interface fields and no supplied treat-empty-as-default value is
      the zero value), `C01_struct_toStruct_fromStruct` (struct -> map -> struct under `StructValue`),
      `C01_struct_which_field` (which field gets what, for any typing).
  (b) presence rules read from the struct agree with the rules on `fromStruct`'s map:
      `C03_struct_set_agrees`, `C03_struct_rules_agree`, `C03_struct_validate_iff`.
  (c) totality: see the second half of this file.
-/
namespace Arca
namespace SM
open Out

/-- Which field gets what, for ANY pair and typing: when `unserializeToStruct` succeeds, every
    field holds the value of the last entry assigned to it (`lastTarget`: the entry's value after
    `reflect.Value.Convert`, behind a fresh pointer for a pointer field) and otherwise its zero
    value; the field names and their order are those of the struct type. -/
theorem C01_struct_which_field (st : StructTy) (props : List (String × SProp)) (m fs : List (String × SV))
    (h : toStruct st props m = .ok fs) :
    keysOf fs = st.fields.map (·.name) ∧
    ∀ n, lookupS n fs =
      match lastTarget st props n m with
      | some x => (lookupS n (zeroFields st)).map (fun _ => x)
      | none => lookupS n (zeroFields st) := by
  obtain ⟨rfl, _⟩ := toStructGo_ok_iff.mp h
  exact ⟨by rw [keysOf_applyEntries, keysOf_zeroFields], fun n => lookupS_applyEntries st props n m _⟩

/-- ... and under injectivity the last entry assigned to the field of property `k` is `k`'s own. -/
theorem C01_struct_field_of_property (st : StructTy) (props : List (String × SProp)) (m fs : List (String × SV))
    (hwf : WFObj st props) (hkeys : (keysOf m).Nodup) (h : toStruct st props m = .ok fs)
    (k : String) (p : SProp) (hkp : (k, p) ∈ props) (f : Field) (hf : fieldFor st k = some f) :
    lookupS f.name fs = some (match lookupS k m with
      | some v => (match setField f.ty (srcTy p.ty v) v with | some x => x | none => f.zero)
      | none => f.zero) := by
  obtain ⟨rfl, _⟩ := toStructGo_ok_iff.mp h
  obtain ⟨f', hf', _, hconv, hif⟩ := propOK_field (hwf.prop (k, p) hkp)
  cases hf.symm.trans hf'
  rw [lookupS_appliedC hwf hkeys hkp hf]
  cases lookupS k m with
  | none => rfl
  | some v => simp only [setField_wf hconv hif v]

/-- `unserializeToStruct` succeeds on every map with declared keys, for EVERY well-formed pair. -/
theorem C01_struct_toStruct_total_wf (st : StructTy) (props : List (String × SProp)) (m : List (String × SV))
    (hwf : WFObj st props) (hdecl : ∀ kv, kv ∈ m → hasKey kv.1 props = true) :
    ∃ fs, toStruct st props m = .ok fs :=
  ⟨_, toStruct_wf hwf hdecl⟩

/-- `unserializeToStruct` succeeds on every converted map of an exactly typed well-formed pair. -/
theorem C01_struct_toStruct_total (st : StructTy) (props : List (String × SProp)) (m : List (String × SV))
    (hwf : WFObj st props) (hex : exactObjB st props = true) (hm : ConvertedMap props m) :
    ∃ fs, toStruct st props m = .ok fs :=
  ⟨_, toStruct_wf hwf hm.declared⟩

/-- **map -> struct -> map for every well-formed pair** (the field's type need only be one that
    `reflect.Value.Convert` reaches from the property's type: narrow and unsigned integers, float32,
    defined types, ...). What is read back from the struct built from `m` is `expectedBackC`: per
    property the entry's value AFTER the conversion to the field's type (`convBack`: e.g. 300 comes
    back as 44 from a uint8 field, 65 as "A" from a string field) - dropped when that is the nil
    interface or the zero value of a treat-empty-as-default property - and, for an absent property
    on a non-pointer non-interface field, the field's zero value unless it is treat-empty-as-default
    (for an integer property on a string field the test compares with "\x00", so "" stays). -/
theorem C01_struct_fromStruct_toStruct_conv (st : StructTy) (props : List (String × SProp)) (m fs : List (String × SV))
    (hwf : WFObj st props) (hm : ConvertedMap props m) (h : toStruct st props m = .ok fs) :
    fromStruct st props fs = .ok (expectedBackC st props m) := by
  rw [toStruct_wf hwf hm.declared] at h
  cases h
  have hread : ∀ kp, kp ∈ props → ∃ f, fieldFor st kp.1 = some f ∧
      readProp st (applyEntries st props m (zeroFields st)) kp.1 kp.2 = .ok (readBackC f kp.2 (lookupS kp.1 m)) :=
    fun kp hkp => by
      obtain ⟨f, hf, _⟩ := propOK_field (hwf.prop kp hkp)
      exact ⟨f, hf, readProp_appliedC hwf hm hkp hf⟩
  refine (fromStruct_ok_iff ..).mpr ⟨fun kp hkp => ?_, filterMap_congr' fun kp hkp => ?_⟩
  · obtain ⟨f, _, h⟩ := hread kp hkp
    exact ⟨_, h⟩
  · obtain ⟨f, hf, h⟩ := hread kp hkp
    rw [readOpt_of_ok h, hf]

/-- **map -> struct -> map.** For a well-formed, exactly typed pair and a converted map `m`, what
    `serializeStruct` / `validateStruct` read from the struct built from `m` is `expectedBack`:
    per property, in table order, `readBack` of what `m` held. The losses are exactly these:
    * a supplied value that is the zero value of a treat-empty-as-default or disabled property
      (whose type is not the empty interface) is gone;
    * an absent property whose field is neither a pointer nor an interface comes back holding the
      field's zero value - an optional non-pointer field holding its zero value is
      indistinguishable from unset - unless the property is treat-empty-as-default or disabled. -/
theorem C01_struct_fromStruct_toStruct (st : StructTy) (props : List (String × SProp)) (m fs : List (String × SV))
    (hwf : WFObj st props) (hex : exactObjB st props = true) (hm : ConvertedMap props m)
    (h : toStruct st props m = .ok fs) :
    fromStruct st props fs = .ok (expectedBack st props m) :=
  expectedBackC_exact hwf hex hm ▸ C01_struct_fromStruct_toStruct_conv st props m fs hwf hm h

theorem expectedBack_key (st : StructTy) (m : List (String × SV)) (kp : String × SProp) (y : String × SV)
    (h : (match fieldFor st kp.1 with
      | some f => (readBack f kp.2 (lookupS kp.1 m)).map fun x => (kp.1, x)
      | none => none) = some y) : y.1 = kp.1 := by
  split at h
  · cases hr : readBack _ kp.2 (lookupS kp.1 m) <;> rw [hr] at h <;> cases h
    rfl
  · cases h

theorem lookupS_expectedBack (st : StructTy) (props : List (String × SProp)) (m : List (String × SV))
    (hwf : WFObj st props) (k : String) (p : SProp) (hkp : (k, p) ∈ props) (f : Field) (hf : fieldFor st k = some f) :
    lookupS k (expectedBack st props m) = readBack f p (lookupS k m) := by
  refine (lookupS_filterMap (expectedBack_key st m) props hwf.keys k p hkp).trans ?_
  simp only [hf]
  cases readBack f p (lookupS k m) <;> rfl

/-- **No loss.** When every property absent from `m` sits on a pointer or interface field (or is
    treat-empty-as-default or disabled) and no supplied value of a treat-empty-as-default (or
    disabled) property is the zero value, the map read back from the struct equals `m` as a finite map: same value under every
    key. -/
theorem C01_struct_lossless (st : StructTy) (props : List (String × SProp)) (m fs : List (String × SV))
    (hwf : WFObj st props) (hex : exactObjB st props = true) (hm : ConvertedMap props m)
    (habsent : ∀ kp, kp ∈ props → lookupS kp.1 m = none → ∀ f, fieldFor st kp.1 = some f →
      (f.ty.isPtr || f.ty == .iface || kp.2.disabled || kp.2.emptyIsDefault) = true)
    (hzero : ∀ kp, kp ∈ props → ∀ v, lookupS kp.1 m = some v →
      ((kp.2.disabled || kp.2.emptyIsDefault) && reflTy kp.2.ty != .iface && v.isZero) = false)
    (h : toStruct st props m = .ok fs) :
    ∃ raw, fromStruct st props fs = .ok raw ∧ ∀ k, lookupS k raw = lookupS k m := by
  refine ⟨_, C01_struct_fromStruct_toStruct st props m fs hwf hex hm h, fun k => ?_⟩
  cases hp : lookupS k props with
  | some p =>
    have hkp := lookupS_mem hp
    obtain ⟨f, hf, _⟩ := propOK_field (hwf.prop (k, p) hkp)
    rw [lookupS_expectedBack st props m hwf k p hkp f hf]
    cases hl : lookupS k m with
    | none => simp [readBack, habsent (k, p) hkp hl f hf]
    | some v => simp [readBack, hzero (k, p) hkp v hl]
  | none =>
    -- an undeclared key is in neither map
    refine (lookupS_filterMap_none (expectedBack_key st m) props hp).trans ?_
    refine ((lookupS_eq_none_iff _ _).mpr fun hc => ?_).symm
    obtain ⟨kv, hkv, rfl⟩ := List.mem_map.mp hc
    have := hm.declared kv hkv
    rw [hasKey, hp] at this
    cases this

/-- **struct -> map -> struct.** For a well-formed, exactly typed pair and a value of the struct
    type whose unset and unmapped fields hold their zero values (`StructValue`: the guard
    corresponding to the losses above), `unserializeToStruct` of the map read from the value
    rebuilds the identical value. -/
theorem C01_struct_toStruct_fromStruct (st : StructTy) (props : List (String × SProp)) (fs m : List (String × SV))
    (hwf : WFObj st props) (hex : exactObjB st props = true) (hv : StructValue st props fs)
    (h : fromStruct st props fs = .ok m) : toStruct st props m = .ok fs := by
  obtain ⟨hall, rfl⟩ := (fromStruct_ok_iff st fs props m).mp h
  have hsub := keysOf_filterMap_readOpt st fs props
  rw [toStruct_wf hwf fun kv hkv => (hasKey_iff_mem _ _).mpr (hsub.subset (List.mem_map.mpr ⟨kv, hkv, rfl⟩))]
  congr 1
  -- same field names, same value under every name
  refine assoc_ext (by rw [keysOf_applyEntries, keysOf_zeroFields, hv.names])
    (by rw [keysOf_applyEntries, keysOf_zeroFields]; exact hwf.names) fun n => ?_
  by_cases hn : n ∈ st.fields.map (·.name)
  · obtain ⟨f, hf, rfl⟩ := List.mem_map.mp hn
    by_cases hmapped : ∃ kp, kp ∈ props ∧ fieldName? st kp.1 = some f.name
    · -- the field of a property holds what the property read, stored again
      obtain ⟨⟨k, p⟩, hkp, hfn⟩ := hmapped
      obtain ⟨g, hg, _⟩ := propOK_field (hwf.prop (k, p) hkp)
      rw [fieldName?, hg, Option.map_some, Option.some.injEq] at hfn
      cases field_eq_of_name hwf.names (fieldFor_mem hg) hf hfn
      obtain ⟨o, ho⟩ := hall (k, p) hkp
      rw [lookupS_appliedC hwf (hsub.nodup hwf.keys) hkp hg,
        lookupS_filterMap (readOpt_key st fs) props hwf.keys k p hkp, readOpt_of_ok ho]
      simp only [readProp, hg] at ho
      cases hl : lookupS f.name fs with
      | none => rw [hl] at ho; cases ho
      | some fv =>
        rw [hl] at ho
        cases o with
        | none => exact congrArg some (hv.recoverable (k, p) hkp f fv hg hl ho).symm
        | some x =>
          obtain ⟨rfl, hnn⟩ := readField_some ho
          have hexf := exact_of_mem hex hkp hg
          exact congrArg some ((storedC_exact hexf _).trans
            (stored_eq_of_shaped hexf (hv.shaped (k, p) hkp f fv hg hl) hnn))
    · -- no property is mapped to this field, so no entry is assigned to it
      rw [lookupS_applyEntries, lookupS_zeroFields hwf.names hf, lastTarget_none]
      · exact (hv.unmapped f hf (fun kp hkp hc => hmapped ⟨kp, hkp, hc⟩)).symm
      · intro kv _ n' x hes hnn
        obtain ⟨g, p, hg, hp, rfl, _⟩ := entrySet_some hes
        exact hmapped ⟨(kv.1, p), lookupS_mem hp, by rw [fieldName?, hg, Option.map_some, hnn]⟩
  · rw [lookupS_applyEntries, (lookupS_eq_none_iff _ _).mpr (keysOf_zeroFields st ▸ hn),
      (lookupS_eq_none_iff _ _).mpr (hv.names ▸ hn)]
    cases lastTarget st props n _ <;> rfl

/-- is the property set, as read directly from the struct value (`getFieldReflection` returns a
    value and the treat-empty-as-default test does not discard it)? -/
def isSetIn (st : StructTy) (props : List (String × SProp)) (fs : List (String × SV)) (k : String) : Bool :=
  match lookupS k props with
  | some p => (readOpt st fs (k, p)).isSome
  | none => false

/-- The keys of the map `serializeStruct` / `validateStruct` build are exactly the properties that
    read as set from the struct value. -/
theorem C03_struct_set_agrees (st : StructTy) (props : List (String × SProp)) (fs raw : List (String × SV))
    (hkeys : (keysOf props).Nodup) (h : fromStruct st props fs = .ok raw) (k : String) :
    hasKey k raw = isSetIn st props fs k := by
  obtain ⟨_, rfl⟩ := (fromStruct_ok_iff st fs props raw).mp h
  unfold isSetIn hasKey
  cases hl : lookupS k props with
  | none => rw [lookupS_filterMap_none (readOpt_key st fs) props hl]; rfl
  | some p => rw [lookupS_filterMap (readOpt_key st fs) props hkeys k p (lookupS_mem hl), Option.isSome_map]

/-- **Presence rules evaluated on the struct agree with the rules evaluated on `fromStruct`'s
    map**: `validateFieldInterdependencies` gives the same verdict (same error, same path) on the
    map read from the value as on the set-ness read directly from the fields. -/
theorem C03_struct_rules_agree (st : StructTy) (props : List (String × SProp)) (fs raw : List (String × SV))
    (hkeys : (keysOf props).Nodup) (h : fromStruct st props fs = .ok raw) :
    interdeps (rulesOf props) (fun k => hasKey k raw) = interdeps (rulesOf props) (isSetIn st props fs) := by
  have : (fun k => hasKey k raw) = isSetIn st props fs :=
    funext (C03_struct_set_agrees st props fs raw hkeys h)
  rw [this]

/-- **Validate of a struct value** accepts exactly when the value has the struct type, every
    property reads its field, the value of every SET property validates against the property's
    type, and the declared presence rules (C03's `RuleHolds`: required, required-if,
    required-if-not, conflicts) hold of the set-ness read from the struct. -/
theorem C03_struct_validate_iff (rec : SRec) (fuel : Nat) (st : StructTy) (ptrT : Bool)
    (props : List (String × SProp)) (s : SV) (hkeys : (keysOf props).Nodup) :
    (∃ r, runObjS rec fuel .V st ptrT props s = .ok r) ↔
      ∃ fs raw, unwrapT ptrT st.name s = .ok fs ∧ fromStruct st props fs = .ok raw ∧
        (∀ kx, kx ∈ raw → ∃ r, entryVS rec .V props kx.1 kx.2 = .ok r) ∧
        ∀ np, np ∈ rulesOf props → RuleHolds (isSetIn st props fs) np.1 np.2 := by
  simp only [runObjS]
  constructor
  · intro ⟨r, h⟩
    obtain ⟨fs, hfs, h⟩ := Out.bind_eq_ok h
    obtain ⟨raw, hraw, h⟩ := Out.bind_eq_ok h
    obtain ⟨m', hm', h⟩ := Out.bind_eq_ok h
    obtain ⟨_, hi, _⟩ := Out.bind_eq_ok h
    refine ⟨fs, raw, hfs, hraw, (forSVS_succeeds_iff _ raw).mp ⟨m', hm'⟩, ?_⟩
    rw [C03_struct_rules_agree st props fs raw hkeys hraw] at hi
    exact (C03_rules_iff _ _).mp hi
  · intro ⟨fs, raw, hfs, hraw, hall, hrules⟩
    obtain ⟨m', hm'⟩ := (forSVS_succeeds_iff _ raw).mpr hall
    have hi := (C03_rules_iff (rulesOf props) (isSetIn st props fs)).mpr hrules
    rw [← C03_struct_rules_agree st props fs raw hkeys hraw] at hi
    exact ⟨.val unitV, by simp [hfs, hraw, hm', hi, Out.bind]⟩

/-- **No panic.** On a well-formed tree (`WFS`: well-formed map-backed leaves, well-formed
    struct / property pairs `WFObj`) Unserialize, Validate and Serialize never panic - for every
    input value (raw data, struct values of any shape, pointers, nils), every externals, every
    budget. -/
theorem C04_struct_no_panic (x : Ext) (fuel : Nat) (op : SOp) (t : STy) (s : SV) (hwf : WFS t) :
    srun x fuel op t s ≠ .panic :=
  srun_np x fuel op t s hwf

/-- ... including the construction of the schema (what a harness case observes). -/
theorem C04_struct_case_no_panic (x : Ext) (fuel : Nat) (op : SOp) (t : STy) (s : SV) (hwf : WFS t) :
    caseRun x fuel op t s ≠ .panic :=
  np_bind (construct_np fuel t hwf) (fun _ => srun_np x fuel op t s hwf)

/-- the decidable check implies `WFS` -/
theorem C04_struct_wf_decidable (n : Nat) (t : STy) (h : wfSB n t = true) : WFS t := wfSB_sound n t h

/-- **The constructor panics exactly on these pairs**: a property whose default does not decode
    (`extractObjectDefaultValues`) or a property without a field (`buildObjectFieldCache`: no
    field carries the property ID as its unique json tag, none is named like it). -/
theorem C04_struct_construct_panics_iff (st : StructTy) (props : List (String × SProp)) :
    constructObj st props = .panic ↔
      (∃ kp, kp ∈ props ∧ defaultOK kp.2.rules = false) ∨ (∃ kp, kp ∈ props ∧ fieldFor st kp.1 = none) := by
  unfold constructObj
  rcases defaultsOf_ok_or_panic (rulesOf props) with ⟨ds, hd⟩ | hd
  · have hnd : ¬ ∃ kp, kp ∈ props ∧ defaultOK kp.2.rules = false := by
      intro ⟨kp, hkp, hb⟩
      have := (defaultsOf_panic_iff (rulesOf props)).mpr ⟨(kp.1, kp.2.rules), List.mem_map.mpr ⟨kp, hkp, rfl⟩, hb⟩
      rw [hd] at this; cases this
    rw [hd]
    simp only [Out.bind]
    constructor
    · intro h
      right
      split at h
      · cases h
      · rename_i hall
        apply Classical.byContradiction
        intro hne
        apply hall
        apply List.all_eq_true.mpr
        intro kp hkp
        cases hf : fieldFor st kp.1 with
        | none => exact absurd ⟨kp, hkp, hf⟩ hne
        | some f => rfl
    · intro h
      rcases h with h | ⟨kp, hkp, hn⟩
      · exact absurd h hnd
      · have : ¬ props.all (fun kp => (fieldFor st kp.1).isSome) = true := by
          intro hall
          have := (List.all_eq_true.mp hall) kp hkp
          simp [hn] at this
        simp [this]
  · rw [hd]
    simp only [Out.bind, true_iff]
    left
    obtain ⟨kp, hkp, hb⟩ := (defaultsOf_panic_iff (rulesOf props)).mp hd
    obtain ⟨kp', hkp', rfl⟩ := List.mem_map.mp hkp
    exact ⟨kp', hkp', hb⟩

/-- Construction either succeeds or panics (it reports no error). -/
theorem C04_struct_construct_total (st : StructTy) (props : List (String × SProp)) :
    constructObj st props = .ok () ∨ constructObj st props = .panic := by
  unfold constructObj
  rcases defaultsOf_ok_or_panic (rulesOf props) with ⟨ds, hd⟩ | hd
  · rw [hd]; simp only [Out.bind]; split <;> simp
  · rw [hd]; simp [Out.bind]

/-- **A property on an unexported field**: Unserialize of an input that sets it is an error at that
    key (`reflect.Value.Set` panics, and `unserializeToStruct` recovers) ... -/
theorem C04_struct_unexported_unserialize_err (st : StructTy) (props : List (String × SProp)) (k : String) (v : SV)
    (rest acc : List (String × SV)) (f : Field) (p : SProp) (hf : fieldFor st k = some f) (hp : lookupS k props = some p)
    (hexp : f.exported = false) : toStructGo st props ((k, v) :: rest) acc = .cerrAt [k] := by
  simp [toStructGo, hf, hp, hexp]

/-- ... while Validate and Serialize of EVERY value of the struct type panic
    (`reflect.Value.Interface` on an unexported field), unless the field is a nil pointer. -/
theorem C04_struct_unexported_panics (st : StructTy) (props : List (String × SProp)) (fs : List (String × SV))
    (hall : ∀ kp, kp ∈ props → ∃ f fv, fieldFor st kp.1 = some f ∧ lookupS f.name fs = some fv)
    (kp : String × SProp) (hkp : kp ∈ props) (f : Field) (fv : SV) (hf : fieldFor st kp.1 = some f)
    (hfv : lookupS f.name fs = some fv) (hexp : f.exported = false) (hnil : fv.isNilPtr = false) :
    fromStruct st props fs = .panic := by
  apply fromStruct_panic
  · intro a ha
    obtain ⟨g, gv, hg, hgv⟩ := hall a ha
    simp only [readProp, hg, hgv]
    rcases readField_cases g (reflTy a.2.ty) a.2.disabled a.2.emptyIsDefault gv with h | h | ⟨h, _⟩
    · exact Or.inr h
    · exact Or.inl ⟨_, h⟩
    · exact Or.inl ⟨_, h⟩
  · exact ⟨kp, hkp, by simp [readProp, hf, hfv, readField, hnil, hexp]⟩

/-- **A default that is not a map** under a non-pointer struct-mapped sub-object (its
    single-property shorthand, null, a list, a number) is left as it is by
    `applySubObjectDefaultValues` - nothing is merged into it, nothing panics (repair d52dfb2 of
    the unchecked type assertion `existingData.(map[string]any)`, which panicked whenever the
    property was absent). The property's own Unserialize then judges the value. -/
theorem C04_struct_default_not_map_unchanged (fuel : Nat) (id : String) (st : StructTy) (sub : List (String × SProp))
    (d : V) (hnm : existingMap (some d) = none) :
    subDefS (fuel + 1) (.obj id st false sub) (some d) = .ok (some d) := by
  simp [subDefS, hnm]

/-- **A sub-object behind a pointer (or interface) field stays nil when it is not given**: an
    absent property without a default of its own that is mapped to such a field adds nothing to the
    converted map, whatever defaults its sub-object declares (repair 24991a7: synthesized from the
    defaults below it, a recursive struct type never stopped). -/
theorem C03_struct_pointer_field_stays_nil (st : StructTy) (fuel : Nat) (k : String) (p : SProp)
    (rest : List (String × SProp)) (m : List (String × V)) (hs : fieldSkips st k = true)
    (hd : p.rules.defaultV = none) (hk : hasKey k m = false) :
    applyDefaultsS st fuel ((k, p) :: rest) m = applyDefaultsS st fuel rest m := by
  simp [applyDefaultsS, hk, hd, hs, Out.bind]

/-- **No default, of whatever shape, makes the sub-object defaults panic** on a well-formed tree:
    well-formedness asks nothing of the values of defaults beyond that they decode. -/
theorem C04_struct_subdefaults_no_panic (n : Nat) (t : STy) (e : Option V) (hwf : WFS t) :
    subDefS n t e ≠ .panic :=
  np_subDefS n t e hwf

/-- The parent's declared default wins over the sub-object's own defaults key by key: a key the
    data already has is kept by `overlay` (repair 235a5d4). -/
theorem C03_struct_parent_default_kept : ∀ (defs data : List (String × V)) (k : String) (v : V),
    lookupS k data = some v → lookupS k (overlay data defs) = some v
  | [], _, _, _, h => h
  | (k', v') :: rest, data, k, v, h => by
    rw [overlay]
    apply C03_struct_parent_default_kept rest
    split
    · exact h
    · rename_i hk
      rwa [lookupS_setKey, if_neg]
      intro e
      rw [hasKey, ← e, h] at hk
      exact hk rfl

/-- **Treat-empty-as-default on a field whose type the property's zero value does not convert to**:
    Validate and Serialize panic whenever the field holds a (non-nil) value. -/
theorem C04_struct_empty_unconvertible_panics (f : Field) (src : GoTy) (fv : SV) (hexp : f.exported = true)
    (hconv : convOK (elemTy f.ty src) src = false) (hnil : fv.isNilPtr = false)
    (hni : (fieldValue f.ty src fv).isNilIface = false) : readField f src false true fv = .panic := by
  simp [readField, hnil, hexp, hni, emptyLike, hconv, Out.bind]

/-! ### non-vacuity: a non-trivial well-formed, exactly typed instance, and the documented oddities -/

namespace Example

/-- `type Inner struct { Level int64 `json:"level"`; Tag string `json:"tag"`; P *string `json:"p,omitempty"` }` -/
def stInner : StructTy := ⟨"Inner", [
  ⟨"Level", "level", true, .int .int64, .val (.int .int64 0)⟩,
  ⟨"Tag", "tag", true, .str, .val (.str "")⟩,
  ⟨"P", "p,omitempty", true, .ptr .str, .nilPtr⟩]⟩

def zeroInner : SV := .struct "Inner" [("Level", .val (.int .int64 0)), ("Tag", .val (.str "")), ("P", .nilPtr)]

/-- a struct with a nested struct by value and by pointer, a pointer, a value, an `any`, a slice, a
    field without tag and an unexported field that no property uses -/
def stMid : StructTy := ⟨"Mid", [
  ⟨"Inner", "inner", true, .struct "Inner", zeroInner⟩,
  ⟨"InnerP", "innerp", true, .ptr (.struct "Inner"), .nilPtr⟩,
  ⟨"Note", "note,omitempty", true, .ptr .str, .nilPtr⟩,
  ⟨"Flag", "", true, .bool, .val (.bool false)⟩,
  ⟨"Any", "any", true, .iface, .val .nil⟩,
  ⟨"Items", "items", true, .slice .str, .nilSlice⟩,
  ⟨"hidden", "", false, .int .int64, .val (.int .int64 0)⟩]⟩

def innerProps : List (String × SProp) := [
  ("level", .mk (.leaf (.int none (some 100) none)) false [] [] [] (some ⟨some (.float .f64 0x401C000000000000), none⟩) false false),
  ("tag", .mk (.leaf (.str none none none)) false ["p"] [] [] none false true),
  ("p", .mk (.leaf (.str none none none)) false [] [] [] none false false)]

def innerObj : STy := .obj "Inner" stInner false innerProps

def midProps : List (String × SProp) := [
  ("inner", .mk innerObj false [] [] [] (some ⟨some (toStrAny [("tag", .str "t")]), none⟩) false false),
  ("innerp", .mk innerObj false [] [] [] none false false),
  ("note", .mk (.leaf (.str (some 1) none none)) false [] [] ["Flag"] none false false),
  ("Flag", .mk (.leaf .bool) false [] [] [] none false true),
  ("any", .mk (.leaf .any) false [] [] [] none false false),
  ("items", .mk (.leaf (.list (.str none none none) none none)) true [] [] [] none false false)]

def midObj : STy := .scope (.obj "Mid" stMid false midProps)

theorem midObj_wfSB : wfSB 4 midObj = true := by decide +kernel
theorem midObj_wf : WFS midObj := wfSB_sound 4 midObj midObj_wfSB

/-- the instance passes the decidable check ... -/
example : wfSB 4 midObj = true := midObj_wfSB
/-- ... hence is well-formed, hence never panics -/
example (x : Ext) (fuel : Nat) (op : SOp) (s : SV) : caseRun x fuel op midObj s ≠ .panic :=
  C04_struct_case_no_panic x fuel op midObj s midObj_wf
-- ... and so are the two pairs in it
example : WFObj stMid midProps := midObj_wf.of_scope.of_obj.1
example : exactObjB stMid midProps = true := by decide +kernel
example : WFObj stInner innerProps :=
  (WFS.of_obj (midObj_wf.of_scope.of_obj.2 ("inner", _) (List.mem_cons_self ..))).1
example : exactObjB stInner innerProps = true := by decide +kernel

/-- map -> struct -> map on the instance: `tag` is treat-empty-as-default, so the absent tag stays
    absent although its field holds ""; `p` sits behind a fresh pointer -/
example : toStruct stInner innerProps [("level", .val (.int .int64 5)), ("p", .val (.str "x"))] =
    .ok [("Level", .val (.int .int64 5)), ("Tag", .val (.str "")), ("P", .ptr (.val (.str "x")))] := by rfl
example : fromStruct stInner innerProps [("Level", .val (.int .int64 5)), ("Tag", .val (.str "")), ("P", .ptr (.val (.str "x")))] =
    .ok [("level", .val (.int .int64 5)), ("p", .val (.str "x"))] := by rfl
/-- the loss: an absent `level` (a plain int64 field) reads back as 0 -/
example : fromStruct stInner innerProps [("Level", .val (.int .int64 0)), ("Tag", .val (.str "")), ("P", .nilPtr)] =
    .ok [("level", .val (.int .int64 0))] := by rfl

/-- clashing json tags: "x" names two fields and no field is called x - the constructor panics;
    "Y" is the tag of field Z (and the name of field Y): the tag wins -/
def stDup : StructTy := ⟨"Dup", [
  ⟨"A", "x", true, .str, .val (.str "")⟩, ⟨"B", "x", true, .str, .val (.str "")⟩,
  ⟨"X", "", true, .str, .val (.str "")⟩,
  ⟨"Y", "y", true, .int .int64, .val (.int .int64 0)⟩, ⟨"Z", "Y", true, .int .int64, .val (.int .int64 0)⟩]⟩
example : (fieldFor stDup "x").map (·.name) = none := by decide +kernel
example : (fieldFor stDup "Y").map (·.name) = some "Z" := by decide +kernel
example : (fieldFor stDup "y").map (·.name) = some "Y" := by decide +kernel
example : (fieldFor stDup "X").map (·.name) = some "X" := by decide +kernel
example : constructObj stDup [("x", .mk (.leaf (.str none none none)) false [] [] [] none false false)] = .panic := by rfl

section
open ValueDecEq
/-- the parent's default for the sub-object (level 5) is kept; the sub-object's own default (level 7)
    fills in only when the parent's default does not name the key -/
example : subDefS 3 innerObj (some (toStrAny [("level", .float .f64 0x4014000000000000)])) =
    .ok (some (toStrAny [("level", .float .f64 0x4014000000000000)])) := by decide +kernel
example : subDefS 3 innerObj (some (toStrAny [("tag", .str "t")])) =
    .ok (some (toStrAny [("tag", .str "t"), ("level", .float .f64 0x401C000000000000)])) := by decide +kernel
/-- `inner` (by value) is filled in from its default and the sub-object's defaults; `innerp` (the same
    sub-object on a `*Inner` field) stays absent -/
example : applyDefaultsS stMid 3 midProps [] =
    .ok [("inner", toStrAny [("tag", .str "t"), ("level", .float .f64 0x401C000000000000)])] := by decide +kernel
/-- a default that is not a map stays as it is -/
example : subDefS 3 innerObj (some (.float .f64 0x4014000000000000)) = .ok (some (.float .f64 0x4014000000000000)) := by decide +kernel
end

end Example

end SM
end Arca
