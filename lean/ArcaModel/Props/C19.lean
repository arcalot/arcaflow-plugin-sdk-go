import ArcaModel.Model.Codegen
import ArcaModel.Lemmas.NodupMap
/-
  C19 - "The code generator is total, deterministic, one typed field per property."

  Theorems about `Arca.Codegen.generate` (the model of `cmd/arcaflow-codegen/gen.go` after the
  `fix:` commits: sorted keys, optional ignore argument, title-cased reference types,
  `map -> map[any]any`), for ALL documents:

    * `C19_total`        no panic for any document whose names are identifiers (`Doc.wf`), with or
                         without an ignore argument;
    * `C19_order_indep`  the output does not depend on the order of the object list nor on the order
                         of any property list (the orders stand for Go map iteration orders), given
                         that keys are distinct (they are keys of Go maps);
    * `C19_structs`      exactly one struct per non-ignored object, exactly one json-tagged field per
                         property, with the type mapping spelled out in `expectedType`.

  The tie between `generate` and the Go program is the correspondence check (harness sub-command
  `codegen`, op "CODEGEN").
-/
namespace Arca.Codegen

-- `Char.ofNat n` is the character with code `n` only for valid scalar values and does not reduce for
-- a variable `n`; for the 26 lower-case letters the kernel checks it by enumeration
theorem upper_table : ∀ n, n < 123 → 97 ≤ n → (Char.ofNat (n - 32)).toNat = n - 32 := by decide +kernel

theorem isUpper_upper_of_isLower {c : Char} (h : isLower c = true) : isUpper (upper c) = true := by
  simp only [isLower, Bool.and_eq_true, decide_eq_true_eq] at h
  have t := upper_table c.toNat (by omega) h.1
  simp only [upper, isLower, isUpper, h.1, h.2, decide_true, Bool.and_self, if_true, t,
    Bool.and_eq_true, decide_eq_true_eq]
  omega

theorem upper_of_not_isLower {c : Char} (h : isLower c = false) : upper c = c := by
  simp [upper, h]

theorem isLower_false_of_isUpper {c : Char} (h : isUpper c = true) : isLower c = false := by
  simp only [isUpper, Bool.and_eq_true, decide_eq_true_eq] at h
  simp only [isLower, Bool.and_eq_false_iff, decide_eq_false_iff_not]
  omega

theorem isUpper_upper_of_isLetter {c : Char} (h : isLetter c = true) : isUpper (upper c) = true := by
  simp only [isLetter, Bool.or_eq_true] at h
  cases hl : isLower c with
  | true => exact isUpper_upper_of_isLower hl
  | false =>
    rw [upper_of_not_isLower hl]
    rcases h with h | h
    · rw [hl] at h; cases h
    · exact h

theorem isLower_false_of_not_isLetter {c : Char} (h : isLetter c = false) : isLower c = false :=
  (Bool.or_eq_false_iff.mp h).1

theorem isIdentStart_of_isUpper {c : Char} (h : isUpper c = true) : isIdentStart c = true := by
  simp [isIdentStart, isLetter, h]

theorem isIdentPart_of_isUpper {c : Char} (h : isUpper c = true) : isIdentPart c = true := by
  simp [isIdentPart, isIdentStart_of_isUpper h]

/-! ## `title` keeps identifiers identifiers and never yields an all-lowercase word -/

theorem titleChars_not_allLower : ∀ (cs : List Char), cs ≠ [] → (titleChars cs).all isLower = false
  | [], h => absurd rfl h
  | c :: cs, _ => by
    cases hl : isLetter c with
    | true =>
      have := isLower_false_of_isUpper (isUpper_upper_of_isLetter hl)
      simp [titleChars, hl, this]
    | false => simp [titleChars, hl, isLower_false_of_not_isLetter hl]

theorem titleChars_ne_of_allLower (cs k : List Char) (hk : k ≠ []) (hl : k.all isLower = true) :
    titleChars cs ≠ k := by
  intro h
  cases cs with
  | nil => exact hk (by simpa [titleChars] using h.symm)
  | cons c cs =>
    have := titleChars_not_allLower (c :: cs) (by simp)
    rw [h, hl] at this
    cases this

theorem titleChars_allPart : ∀ (cs : List Char), cs.all isIdentPart = true →
    (titleChars cs).all isIdentPart = true
  | [], _ => rfl
  | c :: cs, h => by
    simp only [List.all_cons, Bool.and_eq_true] at h
    cases hl : isLetter c with
    | true =>
      simp only [titleChars, hl, if_true, List.all_cons, Bool.and_eq_true]
      exact ⟨isIdentPart_of_isUpper (isUpper_upper_of_isLetter hl), h.2⟩
    | false =>
      simp only [titleChars, hl, Bool.false_eq_true, ↓reduceIte, List.all_cons, Bool.and_eq_true]
      exact ⟨h.1, titleChars_allPart cs h.2⟩

theorem isIdentChars_titleChars (cs : List Char) (h : isIdentChars cs = true) :
    isIdentChars (titleChars cs) = true := by
  cases cs with
  | nil => cases h
  | cons c cs =>
    simp only [isIdentChars, Bool.and_eq_true] at h
    cases hl : isLetter c with
    | true =>
      simp only [titleChars, hl, if_true, isIdentChars, Bool.and_eq_true]
      exact ⟨isIdentStart_of_isUpper (isUpper_upper_of_isLetter hl), h.2⟩
    | false =>
      simp only [titleChars, hl, Bool.false_eq_true, ↓reduceIte, isIdentChars, Bool.and_eq_true]
      exact ⟨h.1, titleChars_allPart cs h.2⟩

theorem title_toList (s : String) : (title s).toList = titleChars s.toList := by
  simp [title]

theorem keywordChars_lower : ∀ k ∈ keywordChars, k ≠ [] ∧ k.all isLower = true := by decide +kernel

theorem isKeyword_title (s : String) : isKeyword (title s) = false := by
  cases h : isKeyword (title s) with
  | false => rfl
  | true =>
    simp only [isKeyword, title_toList, List.contains_iff_mem] at h
    have := keywordChars_lower _ h
    exact absurd rfl (titleChars_ne_of_allLower s.toList _ this.1 this.2)

/-- the title-cased form of an identifier is a legal Go name (never a keyword) -/
theorem goIdent_title (s : String) (h : isIdent s = true) : goIdent (title s) = true := by
  simp only [goIdent, isIdent, title_toList, isKeyword_title, Bool.not_false, Bool.and_true]
  exact isIdentChars_titleChars _ h

theorem title_ne_of_allLower (s t : String) (hk : t.toList ≠ []) (hl : t.toList.all isLower = true) :
    title s ≠ t := by
  intro h
  have := congrArg String.toList h
  rw [title_toList] at this
  exact titleChars_ne_of_allLower _ _ hk hl this

/-- `parseType` leaves a title-cased name alone: it can be none of "integer", "float", "map" -/
theorem parseType_title (s : String) : parseType (title s) = title s := by
  have h1 : title s ≠ "integer" := title_ne_of_allLower s _ (by decide +kernel) (by decide +kernel)
  have h2 : title s ≠ "float" := title_ne_of_allLower s _ (by decide +kernel) (by decide +kernel)
  have h3 : title s ≠ "map" := title_ne_of_allLower s _ (by decide +kernel) (by decide +kernel)
  simp [parseType, h1, h2, h3]

/-- C19's type mapping: references are typed by the Go name of the referenced object, `integer`
    and `float` by `int64` / `float64`, `map` (a Go keyword, so it cannot be emitted as is) by
    `map[any]any`, every other type by its type ID. -/
def expectedType (t : TypeDesc) : String :=
  if t.typeId = "ref" then title t.refId
  else if t.typeId = "integer" then "int64"
  else if t.typeId = "float" then "float64"
  else if t.typeId = "map" then "map[any]any"
  else t.typeId

theorem goType_eq_expectedType (t : TypeDesc) : goType t = expectedType t := by
  unfold goType varType expectedType
  by_cases h : t.typeId = "ref"
  · simp only [h, if_true, parseType_title]
  · simp only [h, if_false, parseType]

section Sorting
variable {α : Type}

def KeyLE (a b : String × α) : Prop := a.1 ≤ b.1

theorem insertByKey_perm (x : String × α) : ∀ l, (insertByKey x l).Perm (x :: l)
  | [] => List.Perm.refl _
  | y :: ys => by
    unfold insertByKey
    split
    · exact List.Perm.refl _
    · exact ((insertByKey_perm x ys).cons y).trans (List.Perm.swap x y ys)

theorem sortByKey_perm : ∀ l : List (String × α), (sortByKey l).Perm l
  | [] => List.Perm.refl _
  | x :: xs => (insertByKey_perm x (sortByKey xs)).trans ((sortByKey_perm xs).cons x)

theorem insertByKey_sorted (x : String × α) :
    ∀ l, l.Pairwise KeyLE → (insertByKey x l).Pairwise KeyLE
  | [], _ => by simp [insertByKey]
  | y :: ys, h => by
    have hy := List.pairwise_cons.mp h
    unfold insertByKey
    split
    · rename_i hxy
      refine List.pairwise_cons.mpr ⟨?_, h⟩
      intro z hz
      rcases List.mem_cons.mp hz with rfl | hz
      · exact hxy
      · exact String.le_trans hxy (hy.1 z hz)
    · rename_i hxy
      have hyx : y.1 ≤ x.1 := (String.le_total y.1 x.1).resolve_right hxy
      refine List.pairwise_cons.mpr ⟨?_, insertByKey_sorted x ys hy.2⟩
      intro z hz
      rcases List.mem_cons.mp ((insertByKey_perm x ys).mem_iff.mp hz) with rfl | hz
      · exact hyx
      · exact hy.1 z hz

theorem sortByKey_sorted : ∀ l : List (String × α), (sortByKey l).Pairwise KeyLE
  | [] => List.Pairwise.nil
  | x :: xs => insertByKey_sorted x _ (sortByKey_sorted xs)

/-- Sorting a permutation of a list with distinct keys gives the same list. -/
theorem sortByKey_congr {l₁ l₂ : List (String × α)} (h : l₁.Perm l₂)
    (nd : (l₁.map Prod.fst).Nodup) : sortByKey l₁ = sortByKey l₂ := by
  refine List.Perm.eq_of_pairwise (le := KeyLE) ?_ (sortByKey_sorted l₁) (sortByKey_sorted l₂)
    (((sortByKey_perm l₁).trans h).trans (sortByKey_perm l₂).symm)
  intro a b ha hb hab hba
  have ha' : a ∈ l₁ := (sortByKey_perm l₁).mem_iff.mp ha
  have hb' : b ∈ l₁ := h.mem_iff.mpr ((sortByKey_perm l₂).mem_iff.mp hb)
  exact eq_of_map_eq_of_nodup nd ha' hb' (String.le_antisymm hab hba)

theorem insertByKey_mapSnd {β : Type} (f : α → β) (x : String × α) :
    ∀ l : List (String × α),
      insertByKey (x.1, f x.2) (l.map fun y => (y.1, f y.2))
        = (insertByKey x l).map fun y => (y.1, f y.2)
  | [] => rfl
  | y :: ys => by
    simp only [List.map_cons, insertByKey]
    split
    · rfl
    · simp only [List.map_cons, insertByKey_mapSnd f x ys]

/-- sorting looks at the keys only -/
theorem sortByKey_mapSnd {β : Type} (f : α → β) :
    ∀ l : List (String × α),
      sortByKey (l.map fun y => (y.1, f y.2)) = (sortByKey l).map fun y => (y.1, f y.2)
  | [] => rfl
  | x :: xs => by
    simp only [List.map_cons, sortByKey, sortByKey_mapSnd f xs, insertByKey_mapSnd]

end Sorting

inductive Pointwise {α β : Type} (R : α → β → Prop) : List α → List β → Prop where
  | nil : Pointwise R [] []
  | cons {a b as bs} : R a b → Pointwise R as bs → Pointwise R (a :: as) (b :: bs)

theorem Pointwise.length_eq {α β : Type} {R : α → β → Prop} {as : List α} {bs : List β}
    (h : Pointwise R as bs) : as.length = bs.length := by
  induction h with
  | nil => rfl
  | cons _ _ ih => simp [ih]

theorem Pointwise.map_eq {α β γ : Type} {R : α → β → Prop} {f : α → γ} {g : β → γ} {as : List α}
    {bs : List β} (h : Pointwise R as bs) : (∀ a ∈ as, ∀ b, R a b → f a = g b) → as.map f = bs.map g := by
  induction h with
  | nil => intro _; rfl
  | cons hab _ ih =>
    intro hfg
    rw [List.map_cons, List.map_cons, hfg _ List.mem_cons_self _ hab,
      ih fun a ha => hfg a (List.mem_cons_of_mem _ ha)]

theorem pointwise_map {α β : Type} {R : α → β → Prop} (f : α → β) (h : ∀ a, R a (f a)) :
    ∀ l : List α, Pointwise R l (l.map f)
  | [] => .nil
  | a :: as => .cons (h a) (pointwise_map f h as)

/-- a `type_id` the generator can turn into a Go type: absent, `map`, or a non-keyword identifier
    (all fifteen type IDs of the schema package qualify, see `knownTypeIds_ok`) -/
def typeIdOk (t : String) : Bool := t == "" || t == "map" || goIdent t

/-- the `id` of a reference: absent or an identifier (the name of an object) -/
def refIdOk (r : String) : Bool := r == "" || isIdent r

def propOk (p : String × TypeDesc) : Bool := isIdent p.1 && typeIdOk p.2.typeId && refIdOk p.2.refId

/-- The precondition of C19: object and property names are identifiers (and the type names written
    in the document are identifiers too, which holds for every schema type ID and for every
    reference to an object of the document). -/
def Doc.wf (d : Doc) : Bool := d.all fun o => isIdent o.1 && o.2.all propOk

def knownTypeIds : List String :=
  ["string", "integer", "float", "bool", "pattern", "enum_string", "enum_integer", "list", "map",
   "object", "one_of_string", "one_of_int", "scope", "any", "ref"]

theorem knownTypeIds_ok : knownTypeIds.all typeIdOk = true := by decide +kernel

theorem title_empty : title "" = "" := by decide

/-- an identifier that is not a lower-case word (`int64`) is no keyword -/
theorem typeOk_of_not_lower {t : String} (hi : isIdent t = true) (hl : t.toList.all isLower = false) :
    typeOk t = true := by
  have hk : isKeyword t = false := Bool.eq_false_iff.mpr fun h => by
    rw [(keywordChars_lower _ (List.contains_iff_mem.mp h)).2] at hl
    cases hl
  simp [typeOk, goIdent, hi, hk]

theorem typeOk_parseType {s : String} (h : s ≠ "map" → typeOk s = true) : typeOk (parseType s) = true := by
  unfold parseType
  by_cases hi : s = "integer"
  · rw [if_pos hi]
    exact typeOk_of_not_lower (by decide +kernel) (by decide +kernel)
  by_cases hf : s = "float"
  · rw [if_neg hi, if_pos hf]
    exact typeOk_of_not_lower (by decide +kernel) (by decide +kernel)
  by_cases hm : s = "map"
  · rw [if_neg hi, if_neg hf, if_pos hm]
    decide
  · rw [if_neg hi, if_neg hf, if_neg hm]
    exact h hm

theorem typeOk_goType (t : TypeDesc) (h1 : typeIdOk t.typeId = true) (h2 : refIdOk t.refId = true) :
    typeOk (goType t) = true := by
  refine typeOk_parseType fun hm => ?_
  unfold varType at hm ⊢
  by_cases hr : t.typeId = "ref"
  · rw [if_pos hr]
    simp only [refIdOk, Bool.or_eq_true, beq_iff_eq] at h2
    rcases h2 with h2 | h2
    · rw [h2, title_empty]; decide
    · simp [typeOk, goIdent_title _ h2]
  · rw [if_neg hr] at hm ⊢
    simp only [typeIdOk, Bool.or_eq_true, beq_iff_eq] at h1
    rcases h1 with (h1 | h1) | h1
    · rw [h1]; decide
    · exact absurd h1 hm
    · simp [typeOk, h1]

theorem mem_emitted {d : Doc} {ign : Option String} {s : StructDecl} (h : s ∈ emitted d ign) :
    ∃ o, o ∈ d ∧ ignored ign o.1 = false ∧ s = structOf o := by
  simp only [emitted, List.mem_map, List.mem_filter] at h
  obtain ⟨o, ⟨ho, hk⟩, rfl⟩ := h
  exact ⟨o, (sortByKey_perm d).mem_iff.mp ho, by simpa using hk, rfl⟩

theorem structOk_structOf (o : String × Props) (h1 : isIdent o.1 = true)
    (h2 : o.2.all propOk = true) : structOk (structOf o) = true := by
  simp only [structOk, structOf, Bool.and_eq_true, List.all_eq_true, List.mem_map]
  refine ⟨goIdent_title _ h1, ?_⟩
  rintro f ⟨p, hp, rfl⟩
  have hp' : p ∈ o.2 := (sortByKey_perm o.2).mem_iff.mp hp
  have := List.all_eq_true.mp h2 p hp'
  simp only [propOk, Bool.and_eq_true] at this
  simp only [fieldOk, fieldOf, Bool.and_eq_true]
  exact ⟨goIdent_title _ this.1.1, typeOk_goType _ this.1.2 this.2⟩

theorem emitted_all_ok (d : Doc) (ign : Option String) (h : Doc.wf d = true) :
    (emitted d ign).all structOk = true := by
  rw [List.all_eq_true]
  intro s hs
  obtain ⟨o, ho, _, rfl⟩ := mem_emitted hs
  have := List.all_eq_true.mp h o ho
  simp only [Bool.and_eq_true] at this
  exact structOk_structOf o this.1 this.2

theorem generate_eq_ok_of {d : Doc} {ign : Option String} {ds : List StructDecl}
    (h1 : emitted d ign = ds) (h2 : ds.all structOk = true) : generate d ign = .ok ds := by
  simp [generate, h1, h2]

theorem generate_eq_panic_of {d : Doc} {ign : Option String}
    (h : (emitted d ign).all structOk = false) : generate d ign = .panic := by
  simp [generate, h]

theorem generate_of_wf {d : Doc} {ign : Option String} {ds : List StructDecl} (h : Doc.wf d = true)
    (he : emitted d ign = ds) : generate d ign = .ok ds :=
  generate_eq_ok_of he (he ▸ emitted_all_ok d ign h)

/-- **C19, totality.** For every document whose object and property names are identifiers, with
    (`ign = some o`) or without (`ign = none`) an ignore argument, the generator does not panic: it
    returns declarations. -/
theorem C19_total (d : Doc) (ign : Option String) (h : Doc.wf d = true) :
    ∃ ds, generate d ign = .ok ds :=
  ⟨_, generate_of_wf h rfl⟩

/-- A *schema file with identifier names*, literally: object and property names are identifiers,
    every `type_id` is one of the fifteen type IDs of the schema package, a reference names an
    object of the document and nothing else carries an `id`. -/
def Doc.valid (d : Doc) : Bool :=
  d.all fun o => isIdent o.1 && o.2.all fun p =>
    isIdent p.1 && knownTypeIds.contains p.2.typeId &&
      (if p.2.typeId = "ref" then (d.map Prod.fst).contains p.2.refId else p.2.refId == "")

theorem wf_of_valid (d : Doc) (h : Doc.valid d = true) : Doc.wf d = true := by
  simp only [Doc.valid, Doc.wf, propOk, refIdOk, List.all_eq_true, Bool.and_eq_true, Bool.or_eq_true,
    List.contains_iff_mem] at h ⊢
  intro o ho
  refine ⟨(h o ho).1, fun p hp => ?_⟩
  obtain ⟨⟨hn, ht⟩, hr⟩ := (h o ho).2 p hp
  refine ⟨⟨hn, List.all_eq_true.mp knownTypeIds_ok _ ht⟩, ?_⟩
  split at hr
  · obtain ⟨o', ho', hk⟩ := List.mem_map.mp (List.contains_iff_mem.mp hr)
    exact .inr (hk ▸ (h o' ho').1)
  · exact .inl hr

/-- totality, with the precondition in the words of C19 -/
theorem C19_total_valid (d : Doc) (ign : Option String) (h : Doc.valid d = true) :
    ∃ ds, generate d ign = .ok ds := C19_total d ign (wf_of_valid d h)

/-- the same for the whole program run on `os.Args[1:] = file :: rest` (any number of extra
    arguments): it produces the text for `format.Source` -/
theorem C19_total_raw (d : Doc) (file : String) (rest : List String) (h : Doc.wf d = true) :
    ∃ txt, generateRaw d (file :: rest) = .ok txt := by
  obtain ⟨ds, hds⟩ := C19_total d (ignoreArg (file :: rest)) h
  exact ⟨renderRaw (file :: rest) ds, by simp [generateRaw, hds]⟩

def ObjEquiv (o₁ o₂ : String × Props) : Prop := o₁.1 = o₂.1 ∧ o₁.2.Perm o₂.2

/-- `d₂` is `d₁` with every property list permuted and then the object list permuted: another pair
    of iteration orders of the same Go maps -/
def DocEquiv (d₁ d₂ : Doc) : Prop := ∃ d', Pointwise ObjEquiv d₁ d' ∧ d'.Perm d₂

/-- object keys are distinct and, within each object, property keys are distinct (they are keys of
    Go maps) -/
def Doc.distinct (d : Doc) : Prop :=
  (d.map Prod.fst).Nodup ∧ ∀ o ∈ d, (o.2.map Prod.fst).Nodup

instance (d : Doc) : Decidable (Doc.distinct d) := by unfold Doc.distinct; infer_instance

def normObj (o : String × Props) : String × Props := (o.1, sortByKey o.2)

def structOfNorm (o : String × Props) : StructDecl := ⟨title o.1, o.2.map fieldOf⟩

theorem emitted_eq_norm (d : Doc) (ign : Option String) :
    emitted d ign =
      ((sortByKey (d.map normObj)).filter (fun o => !ignored ign o.1)).map structOfNorm := by
  have h := sortByKey_mapSnd (fun ps : Props => sortByKey ps) d
  have hn : (fun y : String × Props => (y.1, sortByKey y.2)) = normObj := rfl
  rw [hn] at h
  rw [h, List.filter_map, List.map_map]
  rfl

theorem emitted_order_indep (d₁ d₂ : Doc) (ign : Option String) (hd : Doc.distinct d₁)
    (he : DocEquiv d₁ d₂) : emitted d₁ ign = emitted d₂ ign := by
  obtain ⟨d', hp, hperm⟩ := he
  have hn : d₁.map normObj = d'.map normObj := hp.map_eq fun a ha b hab => by
    unfold normObj
    rw [hab.1, sortByKey_congr hab.2 (hd.2 a ha)]
  have h1 : emitted d₁ ign = emitted d' ign := by rw [emitted_eq_norm, emitted_eq_norm, hn]
  have nd' : (d'.map Prod.fst).Nodup := hp.map_eq (fun _ _ _ hab => hab.1) ▸ hd.1
  rw [h1]
  unfold emitted
  rw [sortByKey_congr hperm nd']

/-- **C19, determinism.** The result (declarations or panic) is IDENTICAL for any two iteration
    orders of the object map and of every property map. -/
theorem C19_order_indep (d₁ d₂ : Doc) (ign : Option String) (hd : Doc.distinct d₁)
    (he : DocEquiv d₁ d₂) : generate d₁ ign = generate d₂ ign := by
  unfold generate
  rw [emitted_order_indep d₁ d₂ ign hd he]

/-- ... hence the text handed to `format.Source`, and with it the bytes of `typedef_output.go`
    (gofmt is a function of that text), are identical on every run with the same arguments. -/
theorem C19_order_indep_raw (d₁ d₂ : Doc) (args : List String) (hd : Doc.distinct d₁)
    (he : DocEquiv d₁ d₂) : generateRaw d₁ args = generateRaw d₂ args := by
  unfold generateRaw
  cases args with
  | nil => rfl
  | cons f rest => rw [C19_order_indep d₁ d₂ _ hd he]

theorem DocEquiv.of_perm {d₁ d₂ : Doc} (h : d₁.Perm d₂) : DocEquiv d₁ d₂ := by
  refine ⟨d₁, ?_, h⟩
  simpa using pointwise_map id (fun o => (⟨rfl, .refl _⟩ : ObjEquiv o o)) d₁

/-- `f` is the field of property `p`: title-cased name, the property name as json tag, mapped type -/
def FieldFor (p : String × TypeDesc) (f : FieldDecl) : Prop :=
  f.name = title p.1 ∧ f.tag = p.1 ∧ f.type = expectedType p.2

/-- `s` is the struct of object `o`: title-cased name and exactly one field per property (matched
    one to one with some ordering `ps` of the property list) -/
def StructFor (o : String × Props) (s : StructDecl) : Prop :=
  s.name = title o.1 ∧ ∃ ps, ps.Perm o.2 ∧ Pointwise FieldFor ps s.fields

theorem structFor_structOf (o : String × Props) : StructFor o (structOf o) := by
  refine ⟨rfl, sortByKey o.2, sortByKey_perm o.2, ?_⟩
  exact pointwise_map fieldOf (fun p => ⟨rfl, rfl, goType_eq_expectedType p.2⟩) _

theorem generate_ok {d : Doc} {ign : Option String} {ds : List StructDecl}
    (h : generate d ign = .ok ds) : ds = emitted d ign := by
  unfold generate at h
  simp only at h
  split at h
  · injection h with h; exact h.symm
  · cases h

/-- **C19, shape of the output.** If the generator returns declarations `ds` then they match, one
    to one and in order, an ordering `objs` of exactly the non-ignored objects; each struct has
    exactly one field per property, tagged with the property name and typed by `expectedType`. -/
theorem C19_structs (d : Doc) (ign : Option String) (ds : List StructDecl)
    (h : generate d ign = .ok ds) :
    ∃ objs, objs.Perm (d.filter fun o => !ignored ign o.1) ∧ Pointwise StructFor objs ds := by
  rw [generate_ok h]
  refine ⟨(sortByKey d).filter (fun o => !ignored ign o.1), (sortByKey_perm d).filter _, ?_⟩
  exact pointwise_map structOf structFor_structOf _

/-- the ordering is the sorted one: the declarations are exactly the non-ignored objects in key
    order, each with its properties in key order -/
theorem C19_structs_sorted (d : Doc) (ign : Option String) (ds : List StructDecl)
    (h : generate d ign = .ok ds) :
    ds = ((sortByKey d).filter fun o => !ignored ign o.1).map fun o =>
      ⟨title o.1, (sortByKey o.2).map fun p => ⟨title p.1, expectedType p.2, p.1⟩⟩ := by
  rw [generate_ok h]
  unfold emitted
  have hf : fieldOf = fun p => ⟨title p.1, expectedType p.2, p.1⟩ := by
    funext p; simp only [fieldOf, goType_eq_expectedType]
  congr 1
  funext o
  simp only [structOf, hf]

/-- counting form: as many structs as non-ignored objects -/
theorem C19_structs_count (d : Doc) (ign : Option String) (ds : List StructDecl)
    (h : generate d ign = .ok ds) :
    ds.length = (d.filter fun o => !ignored ign o.1).length := by
  obtain ⟨objs, hp, hm⟩ := C19_structs d ign ds h
  rw [← hm.length_eq, hp.length_eq]

/-- counting form: as many fields as properties -/
theorem StructFor.fields_length {o : String × Props} {s : StructDecl} (h : StructFor o s) :
    s.fields.length = o.2.length := by
  obtain ⟨_, ps, hp, hm⟩ := h
  rw [← hm.length_eq, hp.length_eq]

/-- every emitted field line carries its json tag -/
theorem renderField_tag (f : FieldDecl) :
    renderField f = "\t" ++ f.name ++ " " ++ f.type ++ " `json:\"" ++ f.tag ++ "\"`\n" := rfl

/-! ## Non-vacuity: concrete instances of the hypotheses -/

/-- three objects; names needing capitalisation, an underscore, a leading underscore and digit, a Go
    keyword as object name, a reference to it, a map, integer, float -/
def exDoc : Doc :=
  [("beta", [("b_x", ⟨"bool", ""⟩), ("a", ⟨"ref", "type"⟩), ("m", ⟨"map", ""⟩)]),
   ("type", []),
   ("alpha", [("x", ⟨"integer", ""⟩), ("_1q", ⟨"float", ""⟩), ("L", ⟨"list", ""⟩)])]

/-- the same maps iterated in another order -/
def exDoc' : Doc :=
  [("alpha", [("L", ⟨"list", ""⟩), ("x", ⟨"integer", ""⟩), ("_1q", ⟨"float", ""⟩)]),
   ("beta", [("m", ⟨"map", ""⟩), ("a", ⟨"ref", "type"⟩), ("b_x", ⟨"bool", ""⟩)]),
   ("type", [])]

def exOut : List StructDecl :=
  [⟨"Alpha", [⟨"L", "list", "L"⟩, ⟨"_1Q", "float64", "_1q"⟩, ⟨"X", "int64", "x"⟩]⟩,
   ⟨"Beta", [⟨"A", "Type", "a"⟩, ⟨"B_x", "bool", "b_x"⟩, ⟨"M", "map[any]any", "m"⟩]⟩,
   ⟨"Type", []⟩]

theorem exDoc_valid : Doc.valid exDoc = true := by decide +kernel
theorem exDoc_wf : Doc.wf exDoc = true := wf_of_valid _ exDoc_valid

example : Doc.wf exDoc = true := exDoc_wf
example : Doc.valid exDoc = true := exDoc_valid
example : Doc.distinct exDoc := by decide +kernel

theorem exDoc_equiv : DocEquiv exDoc exDoc' :=
  ⟨exDoc'.rotateLeft 1,
   .cons ⟨rfl, by decide +kernel⟩ (.cons ⟨rfl, by decide +kernel⟩ (.cons ⟨rfl, by decide +kernel⟩ .nil)),
   by decide +kernel⟩

example : DocEquiv exDoc exDoc' := exDoc_equiv

theorem generate_exDoc : generate exDoc none = .ok exOut := generate_of_wf exDoc_wf (by decide +kernel)

/-- the hypothesis of `C19_structs` holds, with and without an ignore argument -/
example : generate exDoc none = .ok exOut := generate_exDoc
example : generate exDoc' none = .ok exOut :=
  (C19_order_indep exDoc exDoc' none (by decide +kernel) exDoc_equiv).symm.trans generate_exDoc
example : generate exDoc (some "type") = .ok (exOut.take 2) :=
  generate_of_wf exDoc_wf (by decide +kernel)
example : generate exDoc (some "nosuch") = .ok exOut := generate_of_wf exDoc_wf (by decide +kernel)

/-- outside the precondition the generator does panic: a type that is a Go keyword -/
example : generate [("a", [("f", ⟨"func", ""⟩)])] none = .panic :=
  generate_eq_panic_of (by decide +kernel)
/-- ... or a name that is not an identifier -/
example : generate [("a-b", [])] none = .panic := generate_eq_panic_of (by decide +kernel)

end Arca.Codegen

section Axioms
open Arca.Codegen
#print axioms C19_total
#print axioms C19_total_valid
#print axioms C19_total_raw
#print axioms C19_order_indep
#print axioms C19_order_indep_raw
#print axioms C19_structs
#print axioms C19_structs_sorted
#print axioms C19_structs_count
#print axioms sortByKey_congr
end Axioms
