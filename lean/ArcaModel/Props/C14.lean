import ArcaModel.Lemmas.Link
import ArcaModel.Lemmas.Inline
import ArcaModel.Lemmas.NoFuel
import ArcaModel.Lemmas.TerminatesRec
/-
  C14  References resolve lexically; inlining a reference never changes behaviour.

  Part 1 (LINKING, model `Arca.Link`): what the constructors and any sequence of `ApplyNamespace`
  calls do to every reference, proved for ALL schema trees.
  Part 2 (INLINING, on `Arca.run`): replacing a reference by the object it denotes - at any
  position, inside any nesting of lists, maps, properties, one-of members and inner scopes, any
  finite number of times - preserves every result any operation reaches, for all values.
  Part 3: recursion through references on finite inputs (see `C14_recursive_...` below).

  KNOWN FINDING the theorems are stated around: a single-property object whose property refers to
  the object itself (`scope{A{next: ref A}}`), given a non-map input, re-enters the single-property
  shorthand for ever. The model has this behaviour too (`run` returns `fuel` for every budget), so
  the inlining theorems speak about REACHED results (`Reaches`: outcome ≠ `fuel`), and say that
  inlining neither creates nor removes such a divergence; the termination statement carries the
  explicit hypothesis that excludes it (no object with exactly one property).
-/
namespace Arca
open Arca.Link

/-! ## Part 1: linking -/

/-- a freshly written tree: no reference is linked yet (`NewRefSchema`, `NewNamespacedRefSchema`) -/
def Link.Fresh (t : LTy) : Prop := ∀ o ∈ occs "" none [] t, o.link = none

theorem filter_map_of_fixed {α} (p : α → Bool) (f : α → α) (hp : ∀ a, p (f a) = p a) (hf : ∀ a, p a = true → f a = a) :
    ∀ (l : List α), (l.map f).filter p = l.filter p
  | [] => rfl
  | a :: l => by
    simp only [List.map, List.filter, hp a]
    cases h : p a with
    | true => simp only; rw [hf a h, filter_map_of_fixed p f hp hf l]
    | false => simp only; exact filter_map_of_fixed p f hp hf l

/-- `applying one namespace leaves references to other namespaces untouched`: a pass for namespace
    `n` (with ANY table, at any position, successful) leaves every occurrence of a different
    namespace exactly as it was - same position, ID, namespace, link. -/
theorem C14_other_ns_untouched (w : String) (n : String) (tbl : Table) (ctx : Option Table) (p : Path) (t t' : LTy)
    (hc : n = "" → ctx.getD tbl = tbl)
    (h : applyNs w tbl n p t = .ok t') :
    (occs w ctx p t').filter (fun o => o.ns != n) = (occs w ctx p t).filter (fun o => o.ns != n) := by
  rw [applyNs_occs w n t tbl ctx p t' hc h]
  apply filter_map_of_fixed
  · intro o; rw [(relink_linkOnly tbl n).ns]
  · intro o ho; simp only [relink, ho, ↓reduceIte]

/-- the same for a root-level call, where no side condition is needed -/
theorem C14_other_ns_untouched_root (n : String) (tbl : Table) (t t' : LTy)
    (h : applyNs "" tbl n [] t = .ok t') :
    (occs "" none [] t').filter (fun o => o.ns != n) = (occs "" none [] t).filter (fun o => o.ns != n) :=
  C14_other_ns_untouched "" n tbl none [] t t' (fun _ => rfl) h

/-- `a missing ID panics`: the pass returns iff every occurrence of the namespace finds its ID in
    the table it is looked up in (its nearest scope for the self namespace, the given table else) -/
theorem C14_apply_ok_iff (n : String) (tbl : Table) (t : LTy) :
    (∃ t', applyNs "" tbl n [] t = .ok t') ↔
      ∀ o ∈ occs "" none [] t, o.ns = n → (lookupS o.id (passTable tbl n o)).isSome :=
  applyNs_ok_iff "" n t tbl none [] (fun _ => rfl)

/-- **Links are lexical.** Build a fresh tree with the public constructors (every scope applies
    itself, innermost first, outer scopes re-traversing inner ones), then apply ANY sequence of
    namespaces with pairwise distinct names: every reference ends up linked to exactly what
    `lexical` says - the object with its ID in the nearest enclosing scope for the self namespace
    (never an outer scope's object: inner scopes shadow), the entry of its own namespace's table
    otherwise - and references whose namespace was not applied stay unlinked. -/
theorem C14_links_lexical (apps : List (String × Table)) (t₀ t₁ t₂ : LTy)
    (hfresh : Fresh t₀)
    (hbuild : build "" [] t₀ = .ok t₁) (happly : applySeq apps t₁ = .ok t₂)
    (hnd : (apps.map (·.1)).Nodup) (hne : ∀ a ∈ apps, a.1 ≠ "") :
    occs "" none [] t₂ = (occs "" none [] t₀).map (fun o => { o with link := lexical apps o }) := by
  rw [applySeq_occs apps t₁ t₂ happly, build_occs "" t₀ [] t₁ hbuild, List.map_map]
  apply List.map_congr_left
  intro o ho
  have hl := hfresh o ho
  simp only [Function.comp]
  obtain ⟨path, id, ns, link, ctx⟩ := o
  simp only at hl
  subst hl
  by_cases hns : ns = ""
  · subst hns
    have hnone : lookupS "" apps = none := by
      apply (lookupS_none_iff ..).mpr
      intro hm
      obtain ⟨a, ha, he⟩ := List.mem_map.mp hm
      exact hne a ha he
    cases ctx with
    | none =>
      rw [seqLink_eq apps _ hnd hne]
      simp [selfLinked, lexical, hnone]
    | some tb =>
      rw [seqLink_eq apps _ hnd hne]
      simp [selfLinked, lexical, hnone]
  · have hb : (ns == "") = false := by simpa using hns
    have : selfLinked ⟨path, id, ns, none, ctx⟩ = ⟨path, id, ns, none, ctx⟩ := by simp [selfLinked, hb]
    rw [this, seqLink_eq apps _ hnd hne]
    simp only [lexical, hb, Bool.false_eq_true, ↓reduceIte]
    cases lookupS ns apps <;> rfl

/-- the reading asked for: every LINKED reference points to `lexical` -/
theorem C14_linked_points_to_lexical (apps : List (String × Table)) (t₀ t₁ t₂ : LTy)
    (hfresh : Fresh t₀) (hbuild : build "" [] t₀ = .ok t₁) (happly : applySeq apps t₁ = .ok t₂)
    (hnd : (apps.map (·.1)).Nodup) (hne : ∀ a ∈ apps, a.1 ≠ "") :
    ∀ o ∈ occs "" none [] t₂, ∀ a, o.link = some a → lexical apps o = some a := by
  intro o ho a ha
  rw [C14_links_lexical apps t₀ t₁ t₂ hfresh hbuild happly hnd hne] at ho
  obtain ⟨o₀, _, rfl⟩ := List.mem_map.mp ho
  simp only at ha
  rw [← ha]
  simp [lexical]

/-- **Order independence.** Passes for pairwise distinct namespaces may be applied in any order:
    the outcome - the linked tree, or a panic - is the same. -/
theorem C14_order_independent {apps apps' : List (String × Table)} (hp : apps.Perm apps')
    (hnd : (apps.map (·.1)).Nodup) (t : LTy) : applySeq apps t = applySeq apps' t :=
  applySeq_perm hp hnd t

/-- **Re-application is idempotent.** A pass that succeeded is a fixed point of itself: applying
    the same namespace with the same table again (e.g. `ApplySelf()` a second time) returns the very
    same tree - no link changes, no panic. -/
theorem C14_reapply_idempotent (w : String) (ns : String) (tbl : Table) (p : Path) (t t' : LTy)
    (h : applyNs w tbl ns p t = .ok t') : applyNs w tbl ns p t' = .ok t' :=
  applyNs_idem w ns t tbl p t' h

/-- in `Out` form: `applyNs … (applyNs … t) = applyNs … t` for successful applications -/
theorem C14_reapply_idempotent_bind (w : String) (ns : String) (tbl : Table) (p : Path) (t t' : LTy)
    (h : applyNs w tbl ns p t = .ok t') :
    (applyNs w tbl ns p t).bind (applyNs w tbl ns p) = applyNs w tbl ns p t := by
  rw [h]; exact applyNs_idem w ns t tbl p t' h

/-- `ApplySelf()` on a scope right after its construction changes nothing -/
theorem C14_applySelf_after_build (w : String) (p : Path) (objs : LTy) (root : String) (t₁ : LTy)
    (h : build w p (.scope objs root) = .ok t₁) : applyNs w [] "" p t₁ = .ok t₁ := by
  simp only [build] at h
  obtain ⟨x, _, hx⟩ := Out.bind_eq_ok h
  exact applyNs_idem w "" _ [] p t₁ hx

/-- **Re-applying anything already applied, at any later time, changes nothing.** After any
    sequence of passes (repetitions allowed, the self namespace included) in which a namespace is
    always applied with the same table, the resulting tree is a fixed point of every pass of the
    sequence. Together with `C14_order_independent`: only the SET of (namespace, table) pairs
    applied matters, not order and not multiplicity. -/
theorem C14_reapply_anywhere (apps : List (String × Table)) (t r : LTy) (ns : String) (tbl : Table)
    (h : applySeq apps t = .ok r) (hmem : (ns, tbl) ∈ apps) (hcons : ∀ b ∈ apps, b.1 = ns → b.2 = tbl) :
    applySeq [(ns, tbl)] r = .ok r := by
  simp only [applySeq]
  rw [applySeq_fix apps t r ns tbl h hmem hcons]; rfl

/-- **Re-binding: the last binding wins, for every occurrence.** Applying a namespace a second time
    with ANOTHER table (another object set for the same namespace name) gives exactly the tree that
    applying the second table to the original tree gives: no reference - below a list, a list of
    lists, a map, a one-of member, an inline object, an inner scope - keeps its old target. -/
theorem C14_rebind_last_wins (w : String) (ns : String) (tb1 tb2 : Table) (p : Path) (t t1 t2 : LTy)
    (h1 : applyNs w tb1 ns p t = .ok t1) (h2 : applyNs w tb2 ns p t1 = .ok t2) :
    applyNs w tb2 ns p t = .ok t2 :=
  applyNs_overwrite w ns t tb1 tb2 p t1 t2 h1 h2

/-- the same on the occurrences of a root-level call: after the second application every occurrence
    of the namespace is linked to the entry of the SECOND table, whatever it was linked to before -/
theorem C14_rebind_every_occurrence (ns : String) (tb1 tb2 : Table) (t t1 t2 : LTy)
    (h1 : applyNs "" tb1 ns [] t = .ok t1) (h2 : applyNs "" tb2 ns [] t1 = .ok t2) :
    occs "" none [] t2 = (occs "" none [] t).map (relink tb2 ns) :=
  applyNs_occs "" ns t tb2 none [] t2 (fun _ => rfl) (applyNs_overwrite "" ns t tb1 tb2 [] t1 t2 h1 h2)

/-- **When an application fails.** A root-level pass panics exactly when some occurrence of the
    namespace does not find its ID in the table it is looked up in; it then yields NO tree (there is
    nothing to observe of a failed application), ... -/
theorem C14_apply_panics_iff (n : String) (tbl : Table) (t : LTy) :
    applyNs "" tbl n [] t = .panic ↔
      ∃ o ∈ occs "" none [] t, o.ns = n ∧ lookupS o.id (passTable tbl n o) = none :=
  applyNs_panic_iff "" n t tbl none [] (fun _ => rfl)

/-- ... so a caller that recovers from the panic keeps the tree it had: every reference - the one
    whose ID is missing included - is linked (or unlinked) exactly as before, and `ValidateReferences`
    answers as before. -/
theorem C14_failed_apply_unchanged (w : String) (ns : String) (tbl : Table) (p : Path) (t : LTy)
    (h : applyNs w tbl ns p t = .panic) :
    recovered (applyNs w tbl ns p t) t = t ∧
    validateRefs (recovered (applyNs w tbl ns p t) t) = validateRefs t := by
  rw [h]; exact ⟨rfl, rfl⟩

/-- **`ApplySelf` on the root re-links every nested scope against ITS OWN objects**, whatever the
    nested references were linked to before (nothing, a plain `&ScopeSchema{}` value that never
    applied itself, a tree rebuilt from its description, an object that has since been replaced):
    after a successful root-level application of the self namespace every self-namespace occurrence
    below a scope carries the entry of its nearest enclosing scope's table. -/
theorem C14_root_self_relinks_nested (tbl : Table) (t t' : LTy) (h : applyNs "" tbl "" [] t = .ok t') :
    ∀ o ∈ occs "" none [] t', o.ns = "" → ∀ tb, o.ctx = some tb → o.link = lookupS o.id tb := by
  intro o ho hns tb hctx
  rw [applyNs_occs "" "" t tbl none [] t' (fun _ => rfl) h] at ho
  obtain ⟨o₀, _, rfl⟩ := List.mem_map.mp ho
  rw [(relink_linkOnly tbl "").ns] at hns
  rw [(relink_linkOnly tbl "").ctx] at hctx
  simp [relink, hns, hctx]

/-- **`ValidateReferences` succeeds exactly when every reference is linked** - at any depth:
    `occs` lists the references below properties, list items, map keys and values, one-of members,
    and in ALL objects of every (inner) scope, reachable from the root object or not. -/
theorem C14_validate_refs_iff (w : String) (ctx : Option Table) (p : Path) (t : LTy) :
    validateRefs t = true ↔ ∀ o ∈ occs w ctx p t, o.link.isSome = true :=
  validateRefs_iff w t ctx p

/-- **The two models agree on what a reference denotes.** Take a scope `scope objs root` at
    position `p` of tree `w` whose translation for `run` is `.scope env root`. Then
    (1) `run` executes the scope's root with `env`, the translated objects of exactly this scope;
    (2) for every ID, looking the ID up in `env` (what `run` does for `.ref id`) gives the
        translation of the object `child id objs` - the object whose address `⟨w, p, id⟩` the
        linking pass stores (`lexical` for a self-namespace occurrence whose nearest scope this is);
    (3) hence `.ref id` runs that object, in the same environment. -/
theorem C14_run_env_is_lexical (x : Ext) (w : String) (p : Path) (objs : LTy) (root : String) (env : Env)
    (ht : toTy (.scope objs root) = some (.scope env root)) :
    (∀ n op e v, run x (n + 1) op e (.scope env root) v =
        match lookupS root env with
        | none => .panic
        | some o => run x n op env o v) ∧
    (∀ (o : Occ), o.ns = "" → o.ctx = some (selfTable w p objs) →
        lexical [] o = (child o.id objs).map (fun _ => (⟨w, p, o.id⟩ : Addr))) ∧
    (∀ id, lookupS id env = (child id objs).bind toTy) ∧
    (∀ id obj ty, child id objs = some obj → toTy obj = some ty →
        ∀ n op v, run x (n + 1) op env (.ref id) v = run x n op env ty v) := by
  have henv : toTy.toKids objs = some env := by
    simp only [toTy] at ht
    cases hk : toTy.toKids objs with
    | none => rw [hk] at ht; simp at ht
    | some env' =>
      rw [hk] at ht
      simp only [Option.map_some, Option.some.injEq, Ty.scope.injEq, and_true] at ht
      rw [ht]
  refine ⟨fun n op e v => rfl, ?_, fun id => toKids_lookup id objs env henv, ?_⟩
  · intro o hns hctx
    simp only [lexical, hns, hctx, BEq.rfl, ↓reduceIte]
    exact lookupS_selfTable w p o.id objs
  · intro id obj ty hc hty n op v
    have := toKids_lookup id objs env henv
    rw [hc] at this
    simp only [Option.bind_some, hty] at this
    simp only [run, this]

/-! ## Part 2: inlining -/

/-- **Inlining a reference at the root.** For every operation, value and outcome other than
    `fuel`: the reference reaches it iff the object it denotes does. -/
theorem C14_inline_ref (x : Ext) (env : Env) (id : String) (o : Ty) (h : lookupS id env = some o)
    (op : Op) (v : V) (r : Out V) (hr : r ≠ .fuel) :
    (∃ n, run x n op env (.ref id) v = r) ↔ (∃ n, run x n op env o v = r) := by
  constructor
  · rintro ⟨n, hn⟩
    cases n with
    | zero => exact absurd hn.symm hr
    | succ n => exact ⟨n, by simpa only [run, h] using hn⟩
  · rintro ⟨n, hn⟩
    exact ⟨n + 1, by simp only [run, h]; exact hn⟩

/-- what "same behaviour" means for two schemas in their environments -/
def SameBehaviour (x : Ext) (e : Env) (t : Ty) (e' : Env) (t' : Ty) : Prop :=
  ∀ op v r, Reaches x op e t v r ↔ Reaches x op e' t' v r

def Refines (x : Ext) (e : Env) (t : Ty) (e' : Env) (t' : Ty) : Prop :=
  ∀ op v r, Reaches x op e t v r → Reaches x op e' t' v r

theorem sameBehaviour_iff {x : Ext} {e e' : Env} {t t' : Ty} :
    SameBehaviour x e t e' t' ↔ Refines x e t e' t' ∧ Refines x e' t' e t :=
  ⟨fun h => ⟨fun op v r => (h op v r).mp, fun op v r => (h op v r).mpr⟩, fun h op v r => ⟨h.1 op v r, h.2 op v r⟩⟩

theorem limRec_of_refines (x : Ext) {e e' : Env} {t t' : Ty} (h : Refines x e t e' t') (n : Nat) :
    LimRec (run x n) (run x) e t e' t' := by
  intro op v
  by_cases hf : run x n op e t v = .fuel
  · exact Or.inl hf
  · obtain ⟨m, hm, _⟩ := h op v _ ⟨n, rfl, hf⟩
    exact Or.inr ⟨m, fun k => run_mono x m k op e' t' v _ hm hf⟩

theorem reaches_of_lim {x : Ext} {op : Op} {e' : Env} {t' : Ty} {v : V} {a : Out V}
    (h : Lim (fun m => run x m op e' t' v) a) (ha : a ≠ .fuel) : Reaches x op e' t' v a := by
  rcases h with h | ⟨m, hm⟩
  · exact absurd h ha
  · exact ⟨m, hm 0, ha⟩

/-- a schema refines another if each of its runs is the limit of the other's runs -/
theorem refines_of_lim {x : Ext} {e e' : Env} {t t' : Ty}
    (h : ∀ n op v, Lim (fun m => run x (m + 1) op e' t' v) (run x (n + 1) op e t v)) : Refines x e t e' t' := by
  rintro op v r ⟨n, hn, hne⟩
  cases n with
  | zero => exact absurd hn.symm hne
  | succ n =>
    rw [← hn] at hne ⊢
    exact reaches_of_lim (lim_run_succ (h n op v)) hne

theorem refines_list (x : Ext) {e e' : Env} {i i' : Ty} (a b : Option Int) (h : Refines x e i e' i') :
    Refines x e (.list i a b) e' (.list i' a b) :=
  refines_of_lim fun n op v => by simp only [run]; exact lim_runList (limRec_of_refines x h n) op a b v

theorem refines_map (x : Ext) {e e' : Env} {k k' w w' : Ty} (a b : Option Int)
    (hk : Refines x e k e' k') (hw : Refines x e w e' w') (hkt : k.keyTy = k'.keyTy) (hvt : w.reflectsAny = w'.reflectsAny) :
    Refines x e (.map k w a b) e' (.map k' w' a b) :=
  refines_of_lim fun n op v => by
    simp only [run]; exact lim_runMap (limRec_of_refines x hk n) (limRec_of_refines x hw n) hkt hvt op a b v

theorem refines_oneOf (x : Ext) {e e' : Env} (ik : Bool) (d : String) (inl : Bool) {ms ms' : List (Key × Ty)}
    (h : MembersRel (fun t t' => Refines x e t e' t') ms ms') :
    Refines x e (.oneOf ik d inl ms) e' (.oneOf ik d inl ms') :=
  refines_of_lim fun n op v => by
    simp only [run]; exact lim_runOneOf (MembersRel.imp (fun _ _ hq => limRec_of_refines x hq n) h) x op ik d inl v

/-- an object in data-mode compatibility re-enters itself, hence the induction over its own budget -/
theorem limRec_obj (x : Ext) {e e' : Env} {id : String} {ps ps' : List (String × PropT)}
    (h : PropsRel (fun t t' => Refines x e t e' t') ps ps') :
    ∀ n, LimRec (run x n) (run x) e (.obj id ps) e' (.obj id ps')
  | 0 => fun _ _ => Or.inl rfl
  | n + 1 => fun op v =>
    lim_run_succ (by
      simp only [run]
      exact lim_runObj (PropsRel.imp (fun _ _ hq => limRec_of_refines x hq n) h) (limRec_obj x h n) op v)

theorem refines_obj (x : Ext) {e e' : Env} (id : String) {ps ps' : List (String × PropT)}
    (h : PropsRel (fun t t' => Refines x e t e' t') ps ps') : Refines x e (.obj id ps) e' (.obj id ps') := by
  rintro op v r ⟨n, hn, hne⟩
  rw [← hn] at hne ⊢
  exact reaches_of_lim (limRec_obj x h n op v) hne

/-- congruence, lists: if the item schemas behave the same, so do the lists -/
theorem C14_congr_list (x : Ext) {e e' : Env} {i i' : Ty} (a b : Option Int) (h : SameBehaviour x e i e' i') :
    SameBehaviour x e (.list i a b) e' (.list i' a b) :=
  have h := sameBehaviour_iff.mp h
  sameBehaviour_iff.mpr ⟨refines_list x a b h.1, refines_list x a b h.2⟩

/-- congruence, maps (key and value schemas; the two shape facts the map consults must agree) -/
theorem C14_congr_map (x : Ext) {e e' : Env} {k k' w w' : Ty} (a b : Option Int)
    (hk : SameBehaviour x e k e' k') (hw : SameBehaviour x e w e' w')
    (hkt : k.keyTy = k'.keyTy) (hvt : w.reflectsAny = w'.reflectsAny) :
    SameBehaviour x e (.map k w a b) e' (.map k' w' a b) :=
  have hk := sameBehaviour_iff.mp hk
  have hw := sameBehaviour_iff.mp hw
  sameBehaviour_iff.mpr ⟨refines_map x a b hk.1 hw.1 hkt hvt, refines_map x a b hk.2 hw.2 hkt.symm hvt.symm⟩

/-- congruence, objects: same property names and flags, property types that behave the same -/
theorem C14_congr_obj (x : Ext) {e e' : Env} (id : String) {ps ps' : List (String × PropT)}
    (h : PropsRel (fun t t' => SameBehaviour x e t e' t') ps ps') :
    SameBehaviour x e (.obj id ps) e' (.obj id ps') :=
  sameBehaviour_iff.mpr
    ⟨refines_obj x id (PropsRel.imp (fun _ _ hq => (sameBehaviour_iff.mp hq).1) h),
     refines_obj x id (PropsRel.imp (fun _ _ hq => (sameBehaviour_iff.mp hq).2) (PropsRel.flip h))⟩

/-- congruence, one-of: same keys, members that behave the same -/
theorem C14_congr_oneOf (x : Ext) {e e' : Env} (ik : Bool) (d : String) (inl : Bool) {ms ms' : List (Key × Ty)}
    (h : MembersRel (fun t t' => SameBehaviour x e t e' t') ms ms') :
    SameBehaviour x e (.oneOf ik d inl ms) e' (.oneOf ik d inl ms') :=
  sameBehaviour_iff.mpr
    ⟨refines_oneOf x ik d inl (MembersRel.imp (fun _ _ hq => (sameBehaviour_iff.mp hq).1) h),
     refines_oneOf x ik d inl (MembersRel.imp (fun _ _ hq => (sameBehaviour_iff.mp hq).2) (MembersRel.flip h))⟩

def PropT.withTy : PropT → Ty → PropT
  | .mk _ r ri rin c d dis, t => .mk t r ri rin c d dis

/-- `InlinedOnce env t t'`: `t'` is `t` with ONE reference occurrence replaced by the object that
    reference denotes in the scope it occurs in (`env` = the objects of the scope enclosing `t`;
    below an inner scope, that scope's own objects). -/
inductive InlinedOnce : Env → Ty → Ty → Prop
  | here {env id oid ps} : lookupS id env = some (.obj oid ps) → InlinedOnce env (.ref id) (.obj oid ps)
  | list {env i i' a b} : InlinedOnce env i i' → InlinedOnce env (.list i a b) (.list i' a b)
  | mapKey {env k k' v a b} : InlinedOnce env k k' → InlinedOnce env (.map k v a b) (.map k' v a b)
  | mapVal {env k v v' a b} : InlinedOnce env v v' → InlinedOnce env (.map k v a b) (.map k v' a b)
  | prop {env id pre post name p t'} : InlinedOnce env p.ty t' →
      InlinedOnce env (.obj id (pre ++ (name, p) :: post)) (.obj id (pre ++ (name, p.withTy t') :: post))
  | member {env ik d inl pre post key m m'} : InlinedOnce env m m' →
      InlinedOnce env (.oneOf ik d inl (pre ++ (key, m) :: post)) (.oneOf ik d inl (pre ++ (key, m') :: post))
  | scopeObj {env pre post root k o o'} : InlinedOnce (pre ++ (k, o) :: post) o o' →
      InlinedOnce env (.scope (pre ++ (k, o) :: post) root) (.scope (pre ++ (k, o') :: post) root)

theorem PRel.withTy {Q : Ty → Ty → Prop} (p : PropT) (t' : Ty) (hq : Q p.ty t') (hs : p.ty.isStr = t'.isStr) :
    PRel Q p (p.withTy t') := by
  cases p
  exact ⟨hq, hs, rfl, rfl, rfl, rfl, rfl, rfl⟩

theorem sim_of_inlinedOnce {env : Env} {t t' : Ty} (h : InlinedOnce env t t') :
    ∀ (e' : Env), ∃ k, Sim k env e' t t' := by
  induction h with
  | here hl => intro e'; exact ⟨1, Or.inr (.inlL hl rfl)⟩
  | list _ ih => intro e'; obtain ⟨k, hk⟩ := ih e'; exact ⟨k + 1, Or.inr (.list hk)⟩
  | mapKey _ ih =>
    intro e'; obtain ⟨k, hk⟩ := ih e'
    exact ⟨k + 1, Or.inr (.map hk (Sim.refl k _ _ _) hk.shape.1 rfl)⟩
  | mapVal _ ih =>
    intro e'; obtain ⟨k, hk⟩ := ih e'
    exact ⟨k + 1, Or.inr (.map (Sim.refl k _ _ _) hk rfl hk.shape.2.1)⟩
  | @prop env id pre post name p t' _ ih =>
    intro e'; obtain ⟨k, hk⟩ := ih e'
    refine ⟨k + 1, Or.inr (.obj ?_)⟩
    exact Forall2.append (Forall2.refl (fun a => ⟨rfl, PRel.refl (Sim.refl k _ _) a.2⟩) pre)
      (.cons ⟨rfl, PRel.withTy p t' hk hk.shape.2.2⟩ (Forall2.refl (fun a => ⟨rfl, PRel.refl (Sim.refl k _ _) a.2⟩) post))
  | @member env ik d inl pre post key m m' _ ih =>
    intro e'; obtain ⟨k, hk⟩ := ih e'
    refine ⟨k + 1, Or.inr (.oneOf ?_)⟩
    exact Forall2.append (Forall2.refl (fun a => ⟨rfl, Sim.refl k _ _ a.2⟩) pre)
      (.cons ⟨rfl, hk⟩ (Forall2.refl (fun a => ⟨rfl, Sim.refl k _ _ a.2⟩) post))
  | @scopeObj env pre post root k0 o o' _ ih =>
    intro e'; obtain ⟨k, hk⟩ := ih (pre ++ (k0, o') :: post)
    refine ⟨k + 1, Or.inr (.scope ?_)⟩
    exact Forall2.append (Forall2.refl (fun a => ⟨rfl, Sim.refl k _ _ a.2⟩) pre)
      (.cons ⟨rfl, hk⟩ (Forall2.refl (fun a => ⟨rfl, Sim.refl k _ _ a.2⟩) post))

/-- **Inlining never changes behaviour.** Replace one reference occurrence - anywhere: under list
    items, map keys/values, object properties, one-of members, inside inner scopes (where the
    scope's own object table, which the replaced occurrence lives in, changes with it) - by the
    object it denotes: every operation reaches exactly the same results on every value.
    (A result is "reached" when it is not `fuel`; see the header for why.) -/
theorem C14_inline (x : Ext) {env : Env} {t t' : Ty} (h : InlinedOnce env t t') :
    ∀ op v r, Reaches x op env t v r ↔ Reaches x op env t' v r := by
  intro op v r
  obtain ⟨k, hk⟩ := sim_of_inlinedOnce h env
  exact sim_reaches_of_Sim x (EnvSim.refl env) hk op v r

/-- finitely many inlining steps (any finite unfolding of recursive objects included) -/
inductive InlinedStar (env : Env) : Ty → Ty → Prop
  | refl {t} : InlinedStar env t t
  | step {t t' t''} : InlinedStar env t t' → InlinedOnce env t' t'' → InlinedStar env t t''

theorem C14_inline_star (x : Ext) {env : Env} {t t' : Ty} (h : InlinedStar env t t') :
    ∀ op v r, Reaches x op env t v r ↔ Reaches x op env t' v r := by
  induction h with
  | refl => intro op v r; exact Iff.rfl
  | step _ h1 ih => intro op v r; exact (ih op v r).trans (C14_inline x h1 op v r)

/-- consequence for accepted inputs and their values: with enough fuel both sides return the SAME
    outcome (`ok` with the same value, the same error, or a panic) -/
theorem C14_inline_same_result (x : Ext) {env : Env} {t t' : Ty} (h : InlinedStar env t t')
    (op : Op) (v : V) (n : Nat) (hn : run x n op env t v ≠ .fuel) :
    ∃ m, run x m op env t' v = run x n op env t v := by
  obtain ⟨m, hm, _⟩ := (C14_inline_star x h op v _).mp ⟨n, rfl, hn⟩
  exact ⟨m, hm⟩

theorem diverges_of_refines {x : Ext} {e e' : Env} {t t' : Ty} (h : Refines x e' t' e t) {op : Op} {v : V}
    (hall : ∀ n, run x n op e t v = .fuel) (n : Nat) : run x n op e' t' v = .fuel := by
  apply Classical.byContradiction
  intro hne
  obtain ⟨m, hm, _⟩ := h op v _ ⟨n, rfl, hne⟩
  exact hne (hm.symm.trans (hall m))

/-- ... and inlining neither introduces nor removes non-termination -/
theorem C14_inline_diverges_iff (x : Ext) {env : Env} {t t' : Ty} (h : InlinedStar env t t') (op : Op) (v : V) :
    (∀ n, run x n op env t v = .fuel) ↔ (∀ n, run x n op env t' v = .fuel) :=
  ⟨diverges_of_refines fun op v r => (C14_inline_star x h op v r).mpr,
    diverges_of_refines fun op v r => (C14_inline_star x h op v r).mp⟩

/-! ## Part 3: self-referential object graphs on finite inputs -/

/-- **Recursion through references terminates on every finite input, with a linear budget.**
    Let `t` be a schema (typically a scope of recursive / mutually recursive objects) of nesting
    depth ≤ `M` in which no object has exactly one property and no property has a default
    (`okTy M t`), and `v` ANY value whose containers are nested at most `d` deep. Then Unserialize
    does not run out of the budget `(d + 1) * (M + 2)`: every reference step is followed by an object
    that either rejects a non-map input at once or hands strictly shallower values to its properties.

    `_partial`: (1) the hypothesis "no defaults" is stronger than necessary - a default is input
    supplied by the schema, and only a default that re-enters a reference cycle is harmful
    (`scope{A{next: ref A, default "{}"; x: int}}` on `{}` overflows the stack in the implementation
    and is `fuel` in the model, although `A` has two properties); defaults elsewhere would need their
    depth added to the budget. (2) Only Unserialize is covered; Validate / Serialize / data-mode
    ValidateCompatibility recurse over native values in the same way but are not proved here.
    The hypothesis "no object with exactly one property" is the recorded known finding
    (single-property shorthand: `scope{A{next: ref A}}` on `5` never returns). -/
theorem C14_recursive_total_partial (x : Ext) (M d : Nat) (t : Ty) (v : V)
    (ht : okTy M t = true) (hv : vfits d v = true) :
    run x ((d + 1) * (M + 2)) .U [] t v ≠ .fuel := by
  have h := nf_run_U x M d M [] t v (Nat.le_refl _) (fun p hp => by cases hp) ht hv
  have e : (d + 1) * (M + 2) = M + 2 + d * (M + 2) := by rw [Nat.add_mul, Nat.one_mul, Nat.add_comm]
  rw [e]; exact h

/-- the same inside any enclosing scope whose objects satisfy the hypothesis -/
theorem C14_recursive_total_env_partial (x : Ext) (M d : Nat) (env : Env) (t : Ty) (v : V)
    (henv : EnvOK M env) (ht : okTy M t = true) (hv : vfits d v = true) :
    run x ((d + 1) * (M + 2)) .U env t v ≠ .fuel := by
  have h := nf_run_U x M d M env t v (Nat.le_refl _) henv ht hv
  have e : (d + 1) * (M + 2) = M + 2 + d * (M + 2) := by rw [Nat.add_mul, Nat.one_mul, Nat.add_comm]
  rw [e]; exact h

/-- hence Unserialize on such a schema always HAS a result -/
theorem C14_recursive_reaches_partial (x : Ext) (M d : Nat) (t : Ty) (v : V)
    (ht : okTy M t = true) (hv : vfits d v = true) : ∃ r, Reaches x .U [] t v r :=
  ⟨_, _, rfl, C14_recursive_total_partial x M d t v ht hv⟩

/-- The recorded known finding, in the model: the single-property self-reference on a non-map
    input never returns, whatever the budget (so the hypotheses above cannot be dropped). -/
theorem C14_known_shorthand_divergence (x : Ext) (n : Nat) :
    run x n .U [] (.scope [("A", .obj "A" [("next", .mk (.ref "A") false [] [] [] none false)])] "A")
      (.int .int64 5) = .fuel :=
  selfLoop_fuel x rfl n

namespace C14Examples

/-- nested scopes with a COLLIDING object ID: the outer scope has objects `A` and `B`; `A` embeds an
    inner scope with its own `B`, which refers to `B` (itself: shadowing), and to `Z` of namespace
    `n1`; `A.x` refers to the outer `B`; `A.l` is a list of references to `A` (recursion). -/
def tree : LTy :=
  .scope
    (.cons "A" (.obj "A"
        (.cons "x" (.ref "B" "" none)
        (.cons "in" (.scope (.cons "B" (.obj "B" (.cons "self" (.ref "B" "" none) (.cons "e" (.ref "Z" "n1" none) .nil))) .nil) "B")
        (.cons "l" (.list (.ref "A" "" none)) .nil))))
    (.cons "B" (.obj "B" (.cons "o" (.oneOf "_t" (.cons "m0" (.ref "A" "" none) (.cons "m1" (.ref "Y" "n2" none) .nil))) .nil)) .nil))
    "A"

def extTables : List (String × Table) :=
  [("n1", [("Z", ⟨"n1", [], "Z"⟩)]), ("n2", [("Y", ⟨"n2", [], "Y"⟩)])]

theorem tree_fresh : Fresh tree := by
  intro o ho
  simp only [tree, occs, List.append_nil, List.nil_append, List.cons_append, List.mem_cons, List.not_mem_nil, or_false] at ho
  rcases ho with rfl | rfl | rfl | rfl | rfl | rfl <;> rfl

/-- what construction and the two applications (here: n2 before n1) produce -/
example :
    ((build "" [] tree).bind (applySeq extTables.reverse)).bind (fun t => .ok ((occs "" none [] t).map fun o => (o.path, o.link))) =
    .ok [ (["A", "x"], some ⟨"", [], "B"⟩),
          (["A", "in", "B", "self"], some ⟨"", ["A", "in"], "B"⟩),   -- the INNER `B`, not the outer one
          (["A", "in", "B", "e"], some ⟨"n1", [], "Z"⟩),
          (["A", "l", "[]"], some ⟨"", [], "A"⟩),
          (["B", "o", "m0"], some ⟨"", [], "A"⟩),
          (["B", "o", "m1"], some ⟨"n2", [], "Y"⟩) ] := by
  rfl

/-- the hypotheses of `C14_links_lexical` are satisfiable on this tree, in both orders -/
example : ∃ t₁ t₂, build "" [] tree = .ok t₁ ∧ applySeq extTables t₁ = .ok t₂ ∧
    (extTables.map (·.1)).Nodup ∧ (∀ a ∈ extTables, a.1 ≠ "") ∧ validateRefs t₁ = false ∧ validateRefs t₂ = true :=
  ⟨_, _, rfl, rfl, by decide +kernel, by decide +kernel, rfl, rfl⟩

/-- a dangling reference (ID only in the OUTER scope) panics at construction instead of linking outwards -/
example : build "" [] (.scope
    (.cons "A" (.obj "A" (.cons "in" (.scope (.cons "C" (.obj "C" (.cons "x" (.ref "B" "" none) .nil)) .nil) "C") .nil))
    (.cons "B" (.obj "B" .nil) .nil)) "A") = .panic := by
  rfl

/-- a recursive list-of-self object ... -/
def nodeProps (item : Ty) : List (String × PropT) :=
  [("v", .mk (.int none none none) true [] [] [] none false),
   ("kids", .mk (.list item none none) false [] [] [] none false)]

def recScope : Ty := .scope [("Node", .obj "Node" (nodeProps (.ref "Node")))] "Node"

/-- ... with the reference inside the scope's own object replaced by the object (one unfolding) -/
def recScope1 : Ty := .scope [("Node", .obj "Node" (nodeProps (.obj "Node" (nodeProps (.ref "Node")))))] "Node"

example : InlinedOnce [] recScope recScope1 :=
  .scopeObj (pre := []) (post := []) (k := "Node")
    (.prop (pre := [("v", .mk (.int none none none) true [] [] [] none false)]) (post := []) (name := "kids")
      (p := .mk (.list (.ref "Node") none none) false [] [] [] none false)
      (.list (.here rfl)))

def noExt : Ext := ⟨fun _ => none, fun _ => "", fun _ => false, fun _ _ => false⟩

def nodeVal (kids : List V) : V :=
  .map .strAny [(.str "v", .int .int64 1), (.str "kids", .list kids)]

/-- both accept a three-level value (the inlined one with less fuel), as `C14_inline` predicts -/
example : (run noExt 12 .U [] recScope (nodeVal [nodeVal [nodeVal []], nodeVal []])).isOk = true := by decide +kernel
example : (run noExt 10 .U [] recScope1 (nodeVal [nodeVal [nodeVal []], nodeVal []])).isOk = true := by decide +kernel
/-- and both reject a value whose innermost node lacks the required property -/
example : (run noExt 12 .U [] recScope (nodeVal [.map .strAny []])).isErr = true := by decide +kernel
example : (run noExt 12 .U [] recScope1 (nodeVal [.map .strAny []])).isErr = true := by decide +kernel

/-- nested scopes with a colliding ID on the `run` side: inlining inside the INNER scope uses the
    inner `B` -/
def innerB : Ty := .obj "B" [("n", .mk (.int none none none) false [] [] [] none false),
                            ("s", .mk (.str none none none) false [] [] [] none false)]
def outerB : Ty := .obj "B" [("n", .mk .bool false [] [] [] none false),
                            ("t", .mk .bool false [] [] [] none false)]
def shadow (r : Ty) : Ty :=
  .scope [("A", .obj "A" [("in", .mk (.scope [("R", .obj "R" [("b", .mk r false [] [] [] none false),
                                                             ("k", .mk .bool false [] [] [] none false)]),
                                               ("B", innerB)] "R") false [] [] [] none false),
                          ("z", .mk .bool false [] [] [] none false)]),
          ("B", outerB)] "A"

example : InlinedOnce [] (shadow (.ref "B")) (shadow innerB) :=
  .scopeObj (pre := []) (post := [("B", outerB)]) (k := "A")
    (.prop (pre := []) (post := [("z", .mk .bool false [] [] [] none false)]) (name := "in")
      (p := .mk _ false [] [] [] none false)
      (.scopeObj (pre := []) (post := [("B", innerB)]) (k := "R")
        (.prop (pre := []) (post := [("k", .mk .bool false [] [] [] none false)]) (name := "b")
          (p := .mk (.ref "B") false [] [] [] none false) (.here rfl))))

/-- the recursive list-of-self scope satisfies the hypothesis of `C14_recursive_total_partial`
    (depth 4), and so does the mutually recursive pair below -/
example : okTy 4 recScope = true := by decide +kernel

def mutualScope : Ty :=
  .scope [("A", .obj "A" [("b", .mk (.ref "B") false [] [] [] none false), ("n", .mk (.int none none none) true [] [] [] none false)]),
          ("B", .obj "B" [("a", .mk (.oneOf false "_t" false [(.s "x", .ref "A")]) false [] [] [] none false),
                          ("m", .mk (.map (.str none none none) (.ref "B") none none) false [] [] [] none false)])] "A"

example : okTy 5 mutualScope = true := by decide +kernel
example : vfits 6 (nodeVal [nodeVal [nodeVal []], nodeVal []]) = true := by decide +kernel

/-- the known finding does NOT satisfy it -/
example : ∀ M, okTy M (.scope [("A", .obj "A" [("next", .mk (.ref "A") false [] [] [] none false)])] "A") = false := by
  intro M
  cases M with
  | zero => rfl
  | succ M => cases M <;> simp [okTy, Ty.isObj]

end C14Examples

end Arca

#print axioms Arca.C14_links_lexical
#print axioms Arca.C14_linked_points_to_lexical
#print axioms Arca.C14_other_ns_untouched
#print axioms Arca.C14_apply_ok_iff
#print axioms Arca.C14_order_independent
#print axioms Arca.C14_reapply_idempotent
#print axioms Arca.C14_reapply_idempotent_bind
#print axioms Arca.C14_applySelf_after_build
#print axioms Arca.C14_reapply_anywhere
#print axioms Arca.C14_rebind_last_wins
#print axioms Arca.C14_apply_panics_iff
#print axioms Arca.C14_root_self_relinks_nested
#print axioms Arca.C14_failed_apply_unchanged
#print axioms Arca.C14_rebind_every_occurrence
#print axioms Arca.C14_validate_refs_iff
#print axioms Arca.C14_run_env_is_lexical
#print axioms Arca.C14_inline_ref
#print axioms Arca.C14_congr_list
#print axioms Arca.C14_congr_map
#print axioms Arca.C14_congr_obj
#print axioms Arca.C14_congr_oneOf
#print axioms Arca.C14_inline
#print axioms Arca.C14_inline_star
#print axioms Arca.C14_inline_same_result
#print axioms Arca.C14_inline_diverges_iff
#print axioms Arca.C14_recursive_total_partial
#print axioms Arca.C14_recursive_total_env_partial
#print axioms Arca.C14_recursive_reaches_partial
#print axioms Arca.C14_known_shorthand_divergence
