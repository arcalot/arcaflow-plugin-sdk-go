import ArcaModel.Lemmas.AtpServerProgress
import ArcaModel.Lemmas.AtpServerRunId
/-
  C07  "The ATP server survives any client and answers each accepted run exactly once."

  All theorems are about `Arca.AtpServer.step?` (Model/AtpServer.lean), over ALL reachable states
  of the `repaired` rules (= atp/server.go after the fix commits), for unboundedly many runs, any
  client behaviour (`offer` of arbitrary items, `closeInput`, `breakOutput`, `cancel` at any time)
  and any step behaviour (`gStart _ reject/enter`, `exit _ ok/fail/panic` at any time).
  The `pinned` rules (before the repairs) are kept to document what the repairs fixed.

  What ties the model to the Go code is not in this file: trace inclusion of real sessions
  (harness `atpserver` + `Arca.Dispatch.atpServerHandler`) and the extracted facts
  (`Gen/AtpServerFacts.lean`).
-/
namespace Arca.AtpServer

/-- No reachable state of the repaired server has crashed: no send on the closed `workDone`
    channel, no nil dereference in `CallSignal`, no unrecovered handler panic. (Every send in the
    model checks the `closed` flag and sets `crashed` when it is set; see `chanSend`, `sigRun`.) -/
theorem C07_no_panic {s : State} (h : Reachable repaired s) : s.crashed = false :=
  (inv_reachable repaired_good h).a.crashed

/-- the same for every configuration with the repaired structure, whatever the channel capacity -/
theorem C07_no_panic_any_capacity {c : Cfg} (hg : c.Good) {s : State} (h : Reachable c s) :
    s.crashed = false :=
  (inv_reachable hg h).a.crashed

/-- in particular no enabled action of a reachable state leads to a crash -/
theorem C07_no_panic_step {s s' : State} {a : Act} (h : Reachable repaired s)
    (e : step? repaired s a = some s') : s'.crashed = false :=
  C07_no_panic (Reachable.step h e)

/-- the reason: the channel is closed only when the WaitGroup counter is zero, and the counter
    counts the read loop and every goroutine that may still send -/
theorem C07_closed_means_no_sender {s : State} (h : Reachable repaired s) (hc : s.closed = true) :
    s.loop = .ended ∧ ∀ (g : Nat) (x : G), s.gs[g]? = some x → x.pc.done = true := by
  have I := inv_reachable repaired_good h
  have h0 := I.a.closed hc
  have hw := I.a.wg
  rw [h0] at hw
  have hl : loopLive s.loop = 0 := by omega
  have hv : live s.gs = 0 := by omega
  refine ⟨?_, ?_⟩
  · unfold loopLive at hl
    split at hl
    · assumption
    · simp at hl
  · intro g x hx
    have := (sumW_eq_zero_iff liveW s.gs).mp hv g x hx
    unfold liveW at this
    split at this
    · assumption
    · simp at this

-- non-vacuity: a reachable state in which a step goroutine is about to report an error after the
-- read loop has ended (the situation that crashed the pinned server)
example : ∃ s, Reachable repaired s ∧ s.loop = .ended ∧ s.closed = false ∧
    (∃ x, s.gs[0]? = some x ∧ x.pc = .failing) := by
  refine ⟨_, reachable_runActs (c := repaired) Reachable.init (as :=
    [.offer (.msg ⟨none, none, none⟩), .loopRead,
     .offer (.msg ⟨some 1, some 1, some ⟨some false, true⟩⟩), .loopRead, .gStart 0 .enter,
     .offer (.msg ⟨some 4, some 0, some ⟨some true, true⟩⟩), .loopRead, .loopEnd,
     .exit 0 .fail]) rfl, ?_⟩
  decide

/-- While the output is open each accepted work-start gets at most one terminal message (its
    work-done, or the step-fatal error message for the report it sent), and exactly one once its
    goroutine has finished and its report (if any) has been handled. "Output open" is the model's
    `outClosed s = false`: the client has not closed the output and the handler has not stopped
    sending (which it does after writing a server-fatal error message, after a failed write, and on
    cancellation). -/
theorem C07_terminal_once {s : State} (h : Reachable repaired s) (g : Nat) (x : G)
    (hx : s.gs[g]? = some x) (hk : x.kind = .step) :
    termCount s g ≤ 1 ∧
    (x.pc.done = true → pendCount s g = 0 → termCount s g = 1 ∨ outClosed s = true) := by
  have I := (inv_reachable repaired_good h).t g
  rw [hx] at I
  unfold TG at I
  simp only [hk] at I
  cases hpc : x.pc <;> simp only [hpc] at I <;> simp only [GPc.done]
  case doneOk => exact ⟨by omega, fun _ _ => Or.inl I.1⟩
  case doneLost => exact ⟨by omega, fun _ _ => Or.inr I.2.2⟩
  case doneErr =>
    rcases I with I | I
    · exact ⟨by omega, fun _ hp => Or.inl (by omega)⟩
    · exact ⟨by omega, fun _ _ => Or.inr I.2.2⟩
  all_goals exact ⟨by omega, fun hd => by simp at hd⟩

/-- at the moment `RunATPServer` returns, every accepted work-start has been answered exactly
    once, unless the output was no longer open -/
theorem C07_terminal_at_return {s : State} (h : Reachable repaired s) (hr : s.returned = true)
    (g : Nat) (x : G) (hx : s.gs[g]? = some x) (hk : x.kind = .step) :
    termCount s g = 1 ∨ outClosed s = true := by
  have I := inv_reachable repaired_good h
  obtain ⟨hd, hw⟩ := I.s.ret hr
  obtain ⟨hcl, hq⟩ := I.s.hDone hd
  have hdone := (C07_closed_means_no_sender h hcl).2 g x hx
  have hp : pendCount s g = 0 := by simp [pendCount, heldErrs, hd, hq]
  exact (C07_terminal_once h g x hx hk).2 hdone hp

/-- no terminal message is written for anything but an accepted work-start -/
theorem C07_no_spurious_terminal {s : State} (h : Reachable repaired s) (g : Nat)
    (hx : ∀ x, s.gs[g]? = some x → x.kind = .signal) : termCount s g = 0 := by
  have I := (inv_reachable repaired_good h).t g
  cases hgx : s.gs[g]? with
  | none => rw [hgx] at I; exact I.1
  | some x =>
    rw [hgx] at I
    have hk := hx x hgx
    unfold TG at I
    simp only [hk] at I
    exact I.1

/-- the terminal messages counted for an accepted work-start carry that work-start's run ID, and
    are a work-done message or a step-fatal (not server-fatal) error message -/
theorem C07_terminal_run_id {s : State} (h : Reachable repaired s) (g : Nat) (m : OutMsg)
    (hm : m ∈ s.written) (ht : isTerm g m = true) :
    ∃ x, s.gs[g]? = some x ∧ x.kind = .step ∧
      (m = .workDone x.run g ∨
       ∃ e, m = .error e ∧ e.run = x.run ∧ e.stepFatal = true ∧ e.serverFatal = false) := by
  have R := (invR_reachable repaired_good h).written m hm
  cases m with
  | hello => simp [isTerm] at ht
  | workDone r g' =>
    simp [isTerm] at ht
    subst ht
    obtain ⟨x, hx, hk, hr⟩ := R
    exact ⟨x, hx, hk, Or.inl (by rw [hr])⟩
  | error e =>
    simp [isTerm] at ht
    obtain ⟨⟨x, hx, hk, hr⟩, h2, h3⟩ := R g ht
    exact ⟨x, hx, hk, Or.inr ⟨e, rfl, hr.symm, h2, h3⟩⟩

-- non-vacuity: a returned state with output open in which run 1 failed after client-done and was
-- answered by exactly one step-fatal error message
example : ∃ s, Reachable repaired s ∧ s.returned = true ∧ outClosed s = false ∧ termCount s 0 = 1 ∧
    s.written = [.hello, .error ⟨1, true, false, .step 0⟩] := by
  refine ⟨_, reachable_runActs (c := repaired) Reachable.init (as :=
    [.offer (.msg ⟨none, none, none⟩), .loopRead,
     .offer (.msg ⟨some 1, some 1, some ⟨some false, true⟩⟩), .loopRead, .gStart 0 .enter,
     .offer (.msg ⟨some 4, some 0, some ⟨some true, true⟩⟩), .loopRead, .loopEnd,
     .exit 0 .panic, .gSend 0, .hRecv, .hEmit, .close, .hRecv, .ret]) rfl, ?_⟩
  decide

/-- a run of the server and the running handlers without new client input -/
inductive Progress (c : Cfg) : State → State → Prop where
  | refl (s : State) : Progress c s s
  | step {s s1 s2 : State} {a : Act} : a.isEnvInput = false → step? c s a = some s1 →
      Progress c s1 s2 → Progress c s s2

/-- every action other than new client input strictly decreases `mu`: without new input the server
    can only take finitely many steps -/
theorem C07_measure {s s' : State} {a : Act} (h : Reachable repaired s) (ha : a.isEnvInput = false)
    (e : step? repaired s a = some s') : mu s' < mu s :=
  mu_decreases ha (step_inv repaired_good (invA_reachable repaired_good h) e)

/-- once the input has ended no reachable state is stuck: if `RunATPServer` has not returned, the
    server or a running handler has an enabled action (no goroutine blocks forever on `workDone`,
    no `wg.Wait()` waits for a goroutine that cannot finish) -/
theorem C07_no_stuck {s : State} (h : Reachable repaired s) (hin : s.inputClosed = true)
    (hr : s.returned = false) : ∃ a : Act, a.isEnvInput = false ∧ (step? repaired s a).isSome = true :=
  no_stuck repaired_good (inv_reachable repaired_good h) hin hr

theorem inputClosed_mono {c : Cfg} {s s' : State} {a : Act} (h : Step c s a s')
    (hin : s.inputClosed = true) : s'.inputClosed = true := by
  cases h with
  | offer _ h => exact absurd (h.symm.trans hin) nofun
  | closeInput => rfl
  | _ => exact hin

/-- From every reachable state in which the input has ended, the server returns: every maximal run
    without new input is finite (`C07_measure`) and can only end in the returned state
    (`C07_no_stuck`); here: such a run exists. Running handlers are assumed to finish (their `exit`
    is a `Progress` step), nothing else is assumed. -/
theorem C07_returns {s : State} (h : Reachable repaired s) (hin : s.inputClosed = true) :
    ∃ s', Progress repaired s s' ∧ s'.returned = true := by
  generalize hn : mu s = n
  induction n using Nat.strongRecOn generalizing s with
  | _ n ih =>
    cases hr : s.returned with
    | true => exact ⟨s, Progress.refl s, hr⟩
    | false =>
      obtain ⟨a, ha, hs⟩ := C07_no_stuck h hin hr
      cases hst : step? repaired s a with
      | none => simp [hst] at hs
      | some s1 =>
        have hlt := C07_measure h ha hst
        obtain ⟨s', hp, hret⟩ := ih (mu s1) (by omega) (Reachable.step h hst)
          (inputClosed_mono (step_inv repaired_good (invA_reachable repaired_good h) hst) hin) rfl
        exact ⟨s', Progress.step ha hst hp, hret⟩

-- non-vacuity: the hypotheses hold in a state with a blocked-looking configuration: input ended,
-- handler has stopped sending after a fatal error, a failing step still has to report
example : ∃ s, Reachable repaired s ∧ s.inputClosed = true ∧ s.returned = false ∧ s.stopped = true ∧
    (∃ x, s.gs[0]? = some x ∧ x.pc = .failing) := by
  refine ⟨_, reachable_runActs (c := repaired) Reachable.init (as :=
    [.offer (.msg ⟨none, none, none⟩), .loopRead,
     .offer (.msg ⟨some 1, some 1, some ⟨some false, true⟩⟩), .loopRead, .gStart 0 .enter,
     .offer .bad, .closeInput, .loopRead, .loopSend, .loopEnd, .hRecv, .hEmit,
     .exit 0 .fail]) rfl, ?_⟩
  decide

/-- the repaired read loop's decoding of a message depends only on that message -/
theorem C07_stateless_decode (prev prev' : Decoded) (w : Wire) :
    decode repaired prev w = decode repaired prev' w := rfl

/-- and so does the read loop's whole reaction: the decode target of the previous iteration has no
    influence on the next state (other than being overwritten) -/
theorem C07_stateless_read (s : State) (prev : Decoded) :
    (step? repaired { s with last := prev } .loopRead).map (fun t => { t with last := Decoded.zero }) =
    (step? repaired s .loopRead).map (fun t => { t with last := Decoded.zero }) := by
  have hd : ∀ p w, decode repaired p w = fill Decoded.zero w := fun _ _ => rfl
  unfold step? loopRead
  simp only [hd]
  cases s.crashed <;> simp only [Bool.false_eq_true, if_false, if_true] <;> try rfl
  cases s.input with
  | nil => rfl
  | cons it rest =>
    cases s.loop <;> cases it <;> simp only <;> try rfl
    · split <;> rfl

/-- the pinned read loop is not stateless: a work-start without `run_id` inherits the previous
    message's run ID and is accepted -/
theorem C07_pinned_stale_decode :
    decode pinned ⟨1, 7, ⟨some false, true⟩⟩ ⟨some 1, none, some ⟨some false, true⟩⟩ =
      ⟨1, 7, ⟨some false, true⟩⟩ ∧
    decode repaired ⟨1, 7, ⟨some false, true⟩⟩ ⟨some 1, none, some ⟨some false, true⟩⟩ =
      ⟨1, 0, ⟨some false, true⟩⟩ := by
  decide

/-- Pinned rules: work-start, client-done (the read loop ends and closes `workDone`), then the step
    fails and sends its report on the closed channel: the process dies. -/
theorem C07_pinned_crash :
    ∃ s, Reachable pinned s ∧ s.crashed = true := by
  refine ⟨_, reachable_runActs (c := pinned) Reachable.init (as :=
    [.offer (.msg ⟨none, none, none⟩), .loopRead,
     .offer (.msg ⟨some 1, some 1, some ⟨some false, true⟩⟩), .loopRead, .gStart 0 .enter,
     .offer (.msg ⟨some 4, some 0, some ⟨some true, true⟩⟩), .loopRead, .loopEnd,
     .exit 0 .fail, .gSend 0]) rfl, ?_⟩
  decide

/-- the same history is harmless under the repaired rules -/
theorem C07_repaired_same_history :
    (runActs repaired State.init
      [.offer (.msg ⟨none, none, none⟩), .loopRead,
       .offer (.msg ⟨some 1, some 1, some ⟨some false, true⟩⟩), .loopRead, .gStart 0 .enter,
       .offer (.msg ⟨some 4, some 0, some ⟨some true, true⟩⟩), .loopRead, .loopEnd,
       .exit 0 .fail, .gSend 0]).map (·.crashed) = some false := by
  decide

/-- Pinned rules: a signal with an unknown signal ID dereferences nil in `CallSignal`. -/
theorem C07_pinned_crash_signal :
    ∃ s, Reachable pinned s ∧ s.crashed = true := by
  refine ⟨_, reachable_runActs (c := pinned) Reachable.init (as :=
    [.offer (.msg ⟨none, none, none⟩), .loopRead,
     .offer (.msg ⟨some 1, some 1, some ⟨some false, true⟩⟩), .loopRead,
     .offer (.msg ⟨some 3, some 1, some ⟨none, true⟩⟩), .loopRead,
     .sigRun 1 .unknown]) rfl, ?_⟩
  decide

/-- the state reached under the pinned rules by: cancellation (the handler returns), four messages
    with an unknown message ID (three reports fill the channel, the read loop blocks on the fourth),
    end of input -/
def pinnedStuck : Option State :=
  runActs pinned State.init
    [.offer (.msg ⟨none, none, none⟩), .loopRead, .cancel, .hCancel,
     .offer (.msg ⟨some 99, some 0, none⟩), .offer (.msg ⟨some 99, some 0, none⟩),
     .offer (.msg ⟨some 99, some 0, none⟩), .offer (.msg ⟨some 99, some 0, none⟩), .closeInput,
     .loopRead, .loopSend, .loopRead, .loopSend, .loopRead, .loopSend, .loopRead]

/-- Pinned rules: that state is reachable, the input has ended, and neither a server-internal action
    nor `RunATPServer`'s return is enabled: it hangs forever. (No work-start is accepted in that
    history, so no handler is running either.) -/
theorem C07_pinned_hang :
    ∃ s, Reachable pinned s ∧ s.inputClosed = true ∧ s.returned = false ∧ s.crashed = false ∧
      (internalActs s ++ [Act.ret]).all (fun a => (step? pinned s a).isNone) = true := by
  cases h : pinnedStuck with
  | none => exact absurd h (by decide)
  | some s =>
    refine ⟨s, reachable_runActs (c := pinned) Reachable.init h, ?_⟩
    have hs : s = (pinnedStuck.get (by decide)) := by simp [h]
    subst hs
    decide

end Arca.AtpServer

open Arca.AtpServer in
#print axioms C07_no_panic
open Arca.AtpServer in
#print axioms C07_no_panic_any_capacity
open Arca.AtpServer in
#print axioms C07_closed_means_no_sender
open Arca.AtpServer in
#print axioms C07_terminal_once
open Arca.AtpServer in
#print axioms C07_terminal_at_return
open Arca.AtpServer in
#print axioms C07_terminal_run_id
open Arca.AtpServer in
#print axioms C07_no_spurious_terminal
open Arca.AtpServer in
#print axioms C07_measure
open Arca.AtpServer in
#print axioms C07_no_stuck
open Arca.AtpServer in
#print axioms C07_returns
open Arca.AtpServer in
#print axioms C07_stateless_decode
open Arca.AtpServer in
#print axioms C07_stateless_read
open Arca.AtpServer in
#print axioms C07_pinned_stale_decode
open Arca.AtpServer in
#print axioms C07_pinned_crash
open Arca.AtpServer in
#print axioms C07_pinned_crash_signal
open Arca.AtpServer in
#print axioms C07_pinned_hang
