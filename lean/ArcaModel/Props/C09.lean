import ArcaModel.Lemmas.DescribeSchema
import ArcaModel.Lemmas.DescribeCbor
import ArcaModel.Gen.Meta
/-
  C09  Self-description is faithful: describe, rebuild, describe is a fixed point.

  `describe s`      the wire form `ScopeSchema.SelfSerialize()` produces
  `rebuild x f w`   `DescribeScope().Unserialize(w)`: `run .U` of the meta-schema `metaScope` on
                    `w`, then the conversion of the unserialized map to the schema tree
  `describable x s` what the meta-schema demands of a description (see `Model/Describe.lean`);
                    every scope built through the public constructors from the kinds the
                    meta-schema knows satisfies it, except for the cases listed as known findings
                    (typed containers D26, nil enum display D27) and negative length bounds,
                    enum-keyed maps, empty enums, IDs outside the ID pattern, empty display
                    strings (the harness compares this verdict with `SelfSerialize`'s).
  `forget jd s`     the schema as a value of `Arca.Ty`, the type `Arca.run` interprets.

  All theorems hold for every externals `x` (regexp, float parsing) and every JSON decoder `jd`.
-/
namespace Arca

/-- `Unserialize` followed by the conversion to the schema tree: if the meta-schema evaluates `v`
    to `out` and the conversion reads `out` back as `a`, the two together yield `a`. -/
theorem liftParse_evals {α} {x : Ext} {t : Ty} {v out : V} {p : Nat → V → Option α} {a : α}
    (h : Evals x [] t v out) (n0 : Nat) (hp : ∀ n, n0 ≤ n → p n out = some a) :
    ∃ f0, ∀ f, f0 ≤ f → liftParse (p f) (run x f .U [] t v) = .ok a := by
  obtain ⟨f1, hf1⟩ := h
  exact ⟨max f1 n0, fun f hf => by simp only [hf1 f (by omega), liftParse, hp f (by omega)]⟩

/-- C09 in representation `r` (`Rep.direct`: what `SelfSerialize` returns; `Rep.cbor`: the same
    after one CBOR round trip): with enough fuel, rebuilding the description of a describable
    scope yields that very scope. -/
theorem C09_fixpoint_rep (x : Ext) (r : Rep) (hr : r.Good) (objs : List (String × DObj)) (root : String)
    (h : describable x (.scope objs root) = true) :
    ∃ f0, ∀ f, f0 ≤ f → rebuild x f (describeR r (.scope objs root)) = .ok (.scope objs root) :=
  liftParse_evals (p := ofDescription) (ev_scope hr objs root h) (DTy.scope objs root).size fun n hn =>
    parse_scope objs root h n (Nat.le_succ_of_le hn)

/-- C09, fixed point: rebuilding the description of a scope yields a scope with the identical
    description (indeed the identical scope). -/
theorem C09_fixpoint (x : Ext) (objs : List (String × DObj)) (root : String)
    (h : describable x (.scope objs root) = true) :
    ∃ f0, ∀ f, f0 ≤ f → ∃ s', rebuild x f (describe (.scope objs root)) = .ok s' ∧
      describe s' = describe (.scope objs root) := by
  obtain ⟨f0, hf⟩ := C09_fixpoint_rep x .direct Rep.direct_good objs root h
  exact ⟨f0, fun f hle => ⟨_, hf f hle, rfl⟩⟩

/-- C09 over CBOR: `cborNorm` is one `cbor.Marshal`/`cbor.Unmarshal` into `any` (tied to the real
    library by the CBORNORM correspondence); rebuilding the normalised description yields the
    same scope, hence the identical description. -/
theorem C09_fixpoint_cbor (x : Ext) (objs : List (String × DObj)) (root : String)
    (h : describable x (.scope objs root) = true) :
    ∃ f0, ∀ f, f0 ≤ f → ∃ s', rebuild x f (cborNorm (describe (.scope objs root))) = .ok s' ∧
      describe s' = describe (.scope objs root) := by
  obtain ⟨f0, hf⟩ := C09_fixpoint_rep x .cbor Rep.cbor_good objs root h
  exact ⟨f0, fun f hle => ⟨_, by rw [cborNorm_describe]; exact hf f hle, rfl⟩⟩

/-- C09, acceptance: the meta-schema accepts the description of every describable scope. -/
theorem C09_accepts (x : Ext) (objs : List (String × DObj)) (root : String)
    (h : describable x (.scope objs root) = true) :
    ∃ f0, ∀ f, f0 ≤ f → (run x f .U [] metaScope (describe (.scope objs root))).isOk = true :=
  (ev_scope Rep.direct_good objs root h).isOk

/-- C09, behaviour: the rebuilt schema IS the original schema as a value of `Ty`; hence every
    operation (`Unserialize`, `Validate`, `Serialize`, compatibility) on every input, with any
    fuel and externals, gives the identical result on both. -/
theorem C09_behaviour (x : Ext) (jd : JD) (objs : List (String × DObj)) (root : String)
    (h : describable x (.scope objs root) = true) :
    ∃ f0, ∀ f, f0 ≤ f → ∃ s', rebuild x f (describe (.scope objs root)) = .ok s' ∧
      forget jd s' = forget jd (.scope objs root) ∧
      ∀ (x' : Ext) (fuel : Nat) (op : Op) (env : Env) (v : V),
        run x' fuel op env (forget jd s') v = run x' fuel op env (forget jd (.scope objs root)) v := by
  obtain ⟨f0, hf⟩ := C09_fixpoint_rep x .direct Rep.direct_good objs root h
  exact ⟨f0, fun f hle => ⟨_, hf f hle, rfl, fun _ _ _ _ _ => rfl⟩⟩

/-- C09 for plugin schemas in representation `r`: rebuilding the description of a describable
    schema (every step with its input, outputs, signal handlers and signal emitters) yields that
    very schema. -/
theorem C09_fixpoint_schema_rep (x : Ext) (r : Rep) (hr : r.Good) (p : DSchema)
    (h : describableSchema x p = true) :
    ∃ f0, ∀ f, f0 ≤ f → rebuildSchema x f (describeSchemaR r p) = .ok p :=
  liftParse_evals (p := ofSchemaDescription) (ev_schema hr p h) p.bound fun n hn =>
    parse_schema p h n fun st hst sc hsc => Nat.le_succ_of_le (Nat.le_trans (p.bound_le st hst sc hsc) hn)

/-- C09 for plugin schemas: directly and after the CBOR transport of the hello message, the
    rebuilt schema has the identical description, and every data scope of it (signal data schemas
    included) is the identical `Ty`, so every operation behaves identically. -/
theorem C09_fixpoint_schema (x : Ext) (p : DSchema) (h : describableSchema x p = true) :
    ∃ f0, ∀ f, f0 ≤ f →
      (∃ p', rebuildSchema x f (describeSchema p) = .ok p' ∧ describeSchema p' = describeSchema p ∧ p' = p) ∧
      (∃ p', rebuildSchema x f (cborNorm (describeSchema p)) = .ok p' ∧ describeSchema p' = describeSchema p ∧ p' = p) := by
  obtain ⟨f1, hf1⟩ := C09_fixpoint_schema_rep x .direct Rep.direct_good p h
  obtain ⟨f2, hf2⟩ := C09_fixpoint_schema_rep x .cbor Rep.cbor_good p h
  refine ⟨max f1 f2, fun f hf => ⟨⟨p, hf1 f (by omega), rfl, rfl⟩, ⟨p, ?_, rfl, rfl⟩⟩⟩
  rw [cborNorm_describeSchema]
  exact hf2 f (by omega)

/-- C09, acceptance for plugin schemas -/
theorem C09_accepts_schema (x : Ext) (p : DSchema) (h : describableSchema x p = true) :
    ∃ f0, ∀ f, f0 ≤ f → (run x f .U [] metaSchema (describeSchema p)).isOk = true :=
  (ev_schema Rep.direct_good p h).isOk

/-! ### lock-step with the implementation's meta-schema (regenerated table `Gen/Meta.lean`) -/

/-- the meta-schema the model uses IS the one dumped from the implementation -/
theorem meta_scope_agrees : Gen.Meta.scopeObjs = Meta.scopeObjs := rfl
theorem meta_schema_agrees : Gen.Meta.schemaObjs = Meta.schemaObjs := rfl
theorem meta_stepOutput_agrees : Gen.Meta.stepOutputObjs = Meta.stepOutputObjs := rfl
theorem meta_roots_agree :
    Gen.Meta.scopeRoot = "Scope" ∧ Gen.Meta.schemaRoot = "Schema" ∧ Gen.Meta.stepOutputRoot = "StepOutput" :=
  ⟨rfl, rfl, rfl⟩

def propNamesOf : Ty → List String
  | .obj _ props => props.map (·.1)
  | _ => []

/-- every json-tagged exported field of every Go struct the meta-schema is mapped to has exactly
    one property of the same name in its meta object, and vice versa (both lists are sorted and
    duplicate-free, so list equality is the bijection) -/
theorem meta_lockstep_fields :
    Gen.Meta.structFields.map (fun p => (p.1, p.2.map (·.1))) =
      Gen.Meta.schemaObjs.map (fun p => (p.1, propNamesOf p.2)) := by decide +kernel

/-- per meta object: the Go fields that are neither pointers nor interfaces, i.e. the fields
    `SelfSerialize` can never omit (compared with `describe` below) -/
def alwaysFields : List (String × List String) :=
  Gen.Meta.structFields.map fun p => (p.1, (p.2.filter (fun f => !f.2)).map (·.1))

/-- the type IDs of the value one-of are the implementation's `TypeID` constants -/
theorem meta_typeIDs :
    (match Meta.valueType with
     | .oneOf _ _ _ ms => ms.map (fun m => match m.1 with | .s t => t | .i _ => "")
     | _ => []) = Gen.Meta.typeIDs := by decide +kernel

def insertS (s : String) : List String → List String
  | [] => [s]
  | t :: rest => if s < t then s :: t :: rest else t :: insertS s rest
def sortS (l : List String) : List String := l.foldr insertS []
def fieldNames (m : List (String × V)) : List String := sortS (m.map (·.1))

def lookupFields (id : String) : List String :=
  match Gen.Meta.structFields.find? (·.1 == id) with
  | some p => p.2.map (·.1)
  | none => []
def lookupAlways (id : String) : List String :=
  match alwaysFields.find? (·.1 == id) with
  | some p => p.2
  | none => []

def someUnits : Option Units := some ⟨⟨"a", "b", "c", "d"⟩, []⟩
def someDisp : Option Disp := some ⟨some "n", none, none⟩

/-- `describe` writes, for each kind, exactly the fields of the Go struct when every optional
    part is present, and (`describe_lockstep_minimal`) when every optional part is absent at least
    the fields that are neither pointers nor interfaces (fields `SelfSerialize` can never omit) -/
theorem describe_lockstep_full :
    fieldNames (descTyF .direct (.int (some 0) (some 1) someUnits)) = lookupFields "Int" ∧
    fieldNames (descTyF .direct (.float (some 0) (some 1) someUnits)) = lookupFields "Float" ∧
    fieldNames (descTyF .direct (.str (some 0) (some 1) (some "a"))) = lookupFields "String" ∧
    fieldNames (descTyF .direct (.enumInt [] someUnits)) = lookupFields "IntEnum" ∧
    fieldNames (descTyF .direct (.enumStr [])) = lookupFields "StringEnum" ∧
    fieldNames (descTyF .direct (.list .bool (some 0) (some 1))) = lookupFields "List" ∧
    fieldNames (descTyF .direct (.map .bool .bool (some 0) (some 1))) = lookupFields "Map" ∧
    fieldNames (descTyF .direct (.obj (.mk "a" false []))) = lookupFields "Object" ∧
    fieldNames (descTyF .direct (.oneOf true "d" false [])) = lookupFields "OneOfIntSchema" ∧
    fieldNames (descTyF .direct (.oneOf false "d" false [])) = lookupFields "OneOfStringSchema" ∧
    fieldNames (descTyF .direct (.ref "a" "" someDisp)) = lookupFields "Ref" ∧
    fieldNames (descTyF .direct (.scope [] "a")) = lookupFields "Scope" ∧
    fieldNames (descTyF .direct .bool) = lookupFields "BoolSchema" ∧
    fieldNames (descTyF .direct .pattern) = lookupFields "Pattern" ∧
    fieldNames (descTyF .direct .any) = lookupFields "AnySchema" := by decide +kernel

theorem describe_lockstep_minimal :
    (lookupAlways "Int").all (fieldNames (descTyF .direct (.int none none none))).contains = true ∧
    (lookupAlways "Float").all (fieldNames (descTyF .direct (.float none none none))).contains = true ∧
    (lookupAlways "String").all (fieldNames (descTyF .direct (.str none none none))).contains = true ∧
    (lookupAlways "IntEnum").all (fieldNames (descTyF .direct (.enumInt [] none))).contains = true ∧
    (lookupAlways "List").all (fieldNames (descTyF .direct (.list .bool none none))).contains = true ∧
    (lookupAlways "Map").all (fieldNames (descTyF .direct (.map .bool .bool none none))).contains = true ∧
    (lookupAlways "Ref").all (fieldNames (descTyF .direct (.ref "a" "" none))).contains = true := by decide +kernel

/-! ### non-vacuity: a scope with every kind is describable, and the fixed point is concrete -/

def c09Ext : Ext := ⟨fun _ => none, fun _ => "", fun _ => true, fun _ _ => true⟩

def c09Example : DTy :=
  .scope
    [("Root", .mk "Root" false
        [("items", .mk (.list (.ref "Item" "" (some ⟨some "Item", none, none⟩)) (some 0) (some 3))
            (some ⟨some "Items", some "the items", none⟩) true [] [] [] none ["[]"] false none),
         ("choice", .mk (.oneOf false "kind" false [(.s "a", .ref "Item" "" none), (.s "b", .obj (.mk "B" true []))])
            none false [] ["n"] [] none [] false none),
         ("n", .mk (.int (some (-5)) (some 10) (some ⟨⟨"B", "B", "byte", "bytes"⟩, [(1024, ⟨"kB", "kB", "kilobyte", "kilobytes"⟩)]⟩))
            none false [] [] [] (some "5") [] true (some "not yet")),
         ("m", .mk (.map (.str (some 1) none (some "^a")) .any none none) none false [] [] [] none [] false none),
         ("e", .mk (.enumStr [("x", ⟨some "X", none, none⟩), ("y", ⟨none, none, none⟩)]) none false [] [] [] none [] false none),
         ("f", .mk (.float (some 0x3ff0000000000000) none none) none false [] [] [] none [] false none),
         ("sub", .mk (.scope [("S", .mk "S" false [])] "S") none false [] [] [] none [] false none)]),
     ("Item", .mk "Item" false
        [("name", .mk (.str (some 1) none none) none true [] [] [] none [] false none),
         ("next", .mk (.ref "Item" "" none) none false [] [] [] none [] false none),
         ("far", .mk (.ref "Other" "ns" none) none false [] [] [] none [] false none)])]
    "Root"

example : describable c09Ext c09Example = true := by decide +kernel
example : (rebuild c09Ext 60 (describe c09Example)).isOk = true := by decide +kernel
example : (rebuild c09Ext 60 (cborNorm (describe c09Example))).isOk = true := by
  rw [cborNorm_describe]; decide +kernel

def c09Plugin : DSchema :=
  [("step-1", ⟨"step-1", c09Example, [("success", ⟨c09Example, some ⟨some "ok", none, none⟩, false⟩)],
     [("recv", ⟨"recv", .scope [("S", .mk "S" false [])] "S", none⟩)], [], none⟩)]

example : describableSchema c09Ext c09Plugin = true := by decide +kernel
example : (rebuildSchema c09Ext 80 (cborNorm (describeSchema c09Plugin))).isOk = true := by
  rw [cborNorm_describeSchema]; decide +kernel

end Arca

#print axioms Arca.C09_fixpoint_rep
#print axioms Arca.C09_fixpoint
#print axioms Arca.C09_fixpoint_cbor
#print axioms Arca.C09_fixpoint_schema_rep
#print axioms Arca.C09_fixpoint_schema
#print axioms Arca.C09_accepts_schema
#print axioms Arca.C09_accepts
#print axioms Arca.C09_behaviour
#print axioms Arca.meta_scope_agrees
#print axioms Arca.meta_schema_agrees
#print axioms Arca.meta_lockstep_fields
#print axioms Arca.describe_lockstep_full
#print axioms Arca.describe_lockstep_minimal
