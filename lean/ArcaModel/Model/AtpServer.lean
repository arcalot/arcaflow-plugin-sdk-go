/-
  The ATP server (`atp/server.go`, `RunATPServer`) as a labelled transition system.

  Actors: the read loop (`run` / `runATPReadLoop`), the closure handler (`handleClosure`), one
  goroutine per accepted work-start (`runStep`) and per accepted signal, the closer goroutine
  (`wg.Wait(); close(workDone)`), and `RunATPServer` itself (returns after `wg.Wait()`).
  Shared state: the `workDone` channel (bounded FIFO of capacity `cap`, open/closed), the output
  (messages written under the encoder mutex, as a list; can be broken by the client), the WaitGroup
  counter, `runningSteps`.
  Environment: an arbitrary client (any sequence of well-formed or malformed items, end of input at
  any moment, output closed at any moment, context cancellation) and arbitrary plugin code (a step
  is rejected before its handler runs, or its handler returns output, returns undeclared/invalid
  output, or panics, at any time).

  The rules are parametrised by `Cfg`: `repaired` is the code as it is after the `fix:` commits,
  `pinned` keeps the rules of the tree before them (used only to document what they fixed).
  Every send on `workDone` checks the `closed` flag and every signal call checks for the nil
  dereference: in both configurations a violation sets `crashed`; `Props/C07.lean` proves that
  `crashed` is unreachable under `repaired`.

  Core Lean only (linked into the native driver).
-/
namespace Arca.AtpServer

/-- run IDs are opaque; `0` stands for the empty string (Go's zero value, "missing run ID") -/
abbrev Run := Nat
/-- position of a goroutine in `State.gs` = identity of an accepted work-start or signal -/
abbrev Gid := Nat

structure Cfg where
  /-- capacity of `workDone` -/
  cap : Nat
  /-- pinned: `run()`'s deferred function closes `workDone` as soon as the read loop ends;
      repaired: a closer goroutine closes it when the WaitGroup counter has reached zero -/
  closeAtLoopEnd : Bool
  /-- repaired: `handleClosure` keeps receiving (without sending) after a server-fatal error, a
      failed write or cancellation; pinned: it returns -/
  drainAfterStop : Bool
  /-- repaired: the read loop decodes into a fresh variable per message -/
  freshDecode : Bool
  /-- repaired: an unknown signal ID is an error and a panicking signal handler is recovered;
      pinned: both end the process -/
  signalGuarded : Bool
deriving DecidableEq, Repr, Hashable

def repaired : Cfg := ⟨3, false, true, true, true⟩
def pinned : Cfg := ⟨3, true, false, false, false⟩

/-! ### Messages -/

/-- what the two inner `cbor.Unmarshal` calls make of the `data` bytes of a runtime message -/
structure Payload where
  /-- as `WorkStartMessage`: `none` = error, `some e` = decodes, `e` says whether `StepID == ""` -/
  ws : Option Bool
  /-- as `SignalMessage`: decodes or not -/
  sg : Bool
deriving DecidableEq, Repr, Hashable

/-- an empty `RawMessage` (field absent): both `Unmarshal` calls fail with EOF -/
def Payload.absent : Payload := ⟨none, false⟩

/-- one CBOR item that `Decode(&DecodedRuntimeMessage)` accepts; each field may be absent -/
structure Wire where
  id : Option Nat
  run : Option Run
  data : Option Payload
deriving DecidableEq, Repr, Hashable

/-- the Go struct after `Decode` -/
structure Decoded where
  id : Nat
  run : Run
  data : Payload
deriving DecidableEq, Repr, Hashable

def Decoded.zero : Decoded := ⟨0, 0, Payload.absent⟩

/-- fxamacker/cbor leaves struct fields that are absent from the input unchanged -/
def fill (base : Decoded) (w : Wire) : Decoded :=
  ⟨w.id.getD base.id, w.run.getD base.run, w.data.getD base.data⟩

/-- `Decode` in the read loop: into a fresh variable (repaired) or into the variable that still
    holds the previous message (pinned) -/
def decode (c : Cfg) (prev : Decoded) (w : Wire) : Decoded :=
  fill (if c.freshDecode then Decoded.zero else prev) w

/-- what the client put on the wire, at message level: a well-formed item, or anything on which
    `Decode` fails (malformed CBOR, wrongly typed envelope field, truncated item) -/
inductive Item where
  | msg (w : Wire)
  | bad
deriving DecidableEq, Repr, Hashable

/-- who reported an error (ghost) -/
inductive Origin where
  | loop
  | step (g : Gid)
  | signal (g : Gid)
deriving DecidableEq, Repr, Hashable

/-- a `ServerError` travelling over `workDone` -/
structure SErr where
  run : Run
  stepFatal : Bool
  serverFatal : Bool
  origin : Origin
deriving DecidableEq, Repr, Hashable

/-- a message written to the client; `g` is ghost -/
inductive OutMsg where
  | hello
  | workDone (run : Run) (g : Gid)
  | error (e : SErr)
deriving DecidableEq, Repr, Hashable

/-! ### Control state -/

inductive LoopPc where
  /-- before the start message has been read and the hello message written -/
  | start
  /-- about to call `Decode` -/
  | idle
  /-- has an error to send on `workDone`; `stop` = the loop ends afterwards -/
  | sending (e : SErr) (stop : Bool)
  /-- the loop has ended, `run()`'s deferred function has not run yet -/
  | ending
  /-- `run()` has returned (`wg.Done()` performed) -/
  | ended
deriving DecidableEq, Repr, Hashable

inductive GKind where
  | step
  | signal
deriving DecidableEq, Repr, Hashable

inductive GPc where
  /-- goroutine exists (counted in the WaitGroup), `CallStep`/`CallSignal` not yet decided -/
  | spawned
  /-- inside the step handler: waits for the plugin code (environment) -/
  | entered
  /-- `CallStep` returned output: about to encode work-done under the encoder mutex -/
  | writing
  /-- has an error to send on `workDone` -/
  | failing
  /-- finished (`wg.Done()` performed): work-done written / signal handled -/
  | doneOk
  /-- finished: the write of work-done failed (output broken) -/
  | doneLost
  /-- finished: the error has been sent on `workDone` -/
  | doneErr
deriving DecidableEq, Repr, Hashable

def GPc.done : GPc → Bool
  | .doneOk | .doneLost | .doneErr => true
  | _ => false

structure G where
  kind : GKind
  run : Run
  /-- index (in reading order) of the input item that spawned it; used by the trace checker -/
  src : Nat
  pc : GPc
deriving DecidableEq, Repr, Hashable

inductive HPc where
  /-- in the `select` -/
  | idle
  /-- has received `e`, has not yet acted on it -/
  | holding (e : SErr)
  /-- `handleClosure` has returned -/
  | done
deriving DecidableEq, Repr, Hashable

structure State where
  /-- items offered by the client and not yet consumed by `Decode` -/
  input : List Item
  /-- number of items consumed -/
  nread : Nat
  /-- the client has closed its end: `Decode` on empty input fails with EOF -/
  inputClosed : Bool
  /-- the server has closed stdin (client-done, or the handler after a fatal error) -/
  stdinClosed : Bool
  /-- pinned only: the decode target that survives between messages -/
  last : Decoded
  loop : LoopPc
  /-- keys of `runningSteps` -/
  running : List Run
  gs : List G
  /-- WaitGroup counter -/
  wg : Nat
  /-- buffer of `workDone` -/
  queue : List SErr
  closed : Bool
  h : HPc
  /-- the handler no longer sends (repaired rules only) -/
  stopped : Bool
  cancelled : Bool
  /-- the `[]*ServerError` the handler has collected -/
  errors : List SErr
  /-- writes to the client fail -/
  outBroken : Bool
  /-- every message written so far, in the order of the encoder mutex -/
  written : List OutMsg
  /-- how many of them the client-side observer has taken -/
  seen : Nat
  returned : Bool
  /-- send on a closed channel / nil dereference / unrecovered panic: the process is gone -/
  crashed : Bool
deriving DecidableEq, Repr, Hashable

def State.init : State :=
  { input := [], nread := 0, inputClosed := false, stdinClosed := false, last := Decoded.zero,
    loop := .start, running := [], gs := [], wg := 1, queue := [], closed := false, h := .idle,
    stopped := false, cancelled := false, errors := [], outBroken := false, written := [],
    seen := 0, returned := false, crashed := false }

/-! ### Actions -/

/-- outcome of `CallStep` before the handler runs -/
inductive Pre where
  /-- unknown step or input rejected by the step's schema: error without calling the handler -/
  | reject
  | enter
deriving DecidableEq, Repr, Hashable

/-- what the handler does -/
inductive Beh where
  /-- declared output with valid data (success or a declared error output): work-done -/
  | ok
  /-- undeclared output ID or data the output schema rejects: `CallStep` returns an error -/
  | fail
  /-- the handler panics; `runStep` recovers and reports -/
  | panic
deriving DecidableEq, Repr, Hashable

/-- outcome of `CallSignal` -/
inductive SigRes where
  | ok
  /-- data rejected by the signal's schema -/
  | err
  /-- the step declares no such signal -/
  | unknown
  /-- the handler panics -/
  | panic
deriving DecidableEq, Repr, Hashable

inductive Act where
  -- the client
  | offer (it : Item)
  | closeInput
  | breakOutput
  | cancel
  | observe
  -- plugin code
  | exit (g : Gid) (b : Beh)
  -- the server
  | loopRead
  | loopReadErr
  | loopSend
  | loopEnd
  | gStart (g : Gid) (p : Pre)
  | gWrite (g : Gid)
  | gSend (g : Gid)
  | sigRun (g : Gid) (r : SigRes)
  | hRecv
  | hEmit
  | hCancel
  | close
  | ret
deriving DecidableEq, Repr, Hashable

/-- actions of the environment that add work or faults (everything else is progress) -/
def Act.isEnvInput : Act → Bool
  | .offer _ | .closeInput | .breakOutput | .cancel | .observe => true
  | _ => false

/-! ### Rules -/

def fatalErr : SErr := ⟨0, true, true, .loop⟩

def spawn (s : State) (k : GKind) (r : Run) (src : Nat) : State :=
  { s with wg := s.wg + 1, gs := s.gs ++ [⟨k, r, src, .spawned⟩] }

/-- `onRuntimeMessageReceived`; `src` is the index of the item -/
def react (s : State) (src : Nat) (d : Decoded) : State :=
  if d.id = 1 then
    match d.data.ws with
    | none => { s with loop := .sending ⟨d.run, true, false, .loop⟩ false }
    | some stepEmpty =>
      if d.run = 0 ∨ stepEmpty = true then
        { s with loop := .sending ⟨0, true, false, .loop⟩ false }
      else
        spawn { s with running := d.run :: s.running } .step d.run src
  else if d.id = 3 then
    if d.data.sg = false then { s with loop := .sending ⟨d.run, false, false, .loop⟩ false }
    else if d.run = 0 then { s with loop := .sending ⟨0, false, false, .loop⟩ false }
    else if s.running.contains d.run = false then
      { s with loop := .sending ⟨d.run, false, false, .loop⟩ false }
    else spawn s .signal d.run src
  else if d.id = 4 then
    { s with stdinClosed := true, loop := .ending }
  else
    { s with loop := .sending ⟨0, false, false, .loop⟩ false }

/-- the read loop consumes the next item -/
def loopRead (c : Cfg) (s : State) : Option State :=
  match s.input with
  | [] => none
  | it :: rest =>
    let s1 := { s with input := rest, nread := s.nread + 1 }
    match s.loop, it with
    | .start, .msg _ =>
      if s.outBroken then some { s1 with loop := .sending fatalErr true }
      else some { s1 with written := s.written ++ [.hello], loop := .idle }
    | .start, .bad => some { s1 with loop := .sending fatalErr true }
    | .idle, .msg w =>
      let d := decode c s.last w
      some (react { s1 with last := d } s.nread d)
    | .idle, .bad => some { s1 with loop := .sending fatalErr true }
    | _, _ => none

/-- `Decode` fails without consuming an item: end of input, or stdin closed by the server -/
def loopReadErr (s : State) : Option State :=
  if s.stdinClosed = true ∨ (s.input = [] ∧ s.inputClosed = true) then
    match s.loop with
    | .start => some { s with loop := .sending fatalErr true }
    | .idle => some { s with loop := .sending fatalErr true }
    | _ => none
  else none

/-- a send on `workDone` by anybody: crash when closed, blocked when full -/
def chanSend (c : Cfg) (s : State) (e : SErr) : Option State :=
  if s.closed then some { s with crashed := true }
  else if s.queue.length < c.cap then some { s with queue := s.queue ++ [e] }
  else none

def loopSend (c : Cfg) (s : State) : Option State :=
  match s.loop with
  | .sending e stop =>
    (chanSend c s e).map fun s1 =>
      if s1.crashed then s1 else { s1 with loop := if stop then .ending else .idle }
  | _ => none

/-- `run()`'s deferred function -/
def loopEnd (c : Cfg) (s : State) : Option State :=
  match s.loop with
  | .ending =>
    some { s with loop := .ended, wg := s.wg - 1, closed := if c.closeAtLoopEnd then true else s.closed }
  | _ => none

def setPc (s : State) (g : Gid) (x : G) (pc : GPc) : State :=
  { s with gs := s.gs.set g { x with pc := pc } }

def gStart (s : State) (g : Gid) (p : Pre) : Option State :=
  match s.gs[g]? with
  | some x =>
    if x.kind = .step ∧ x.pc = .spawned then
      some (setPc s g x (match p with | .reject => .failing | .enter => .entered))
    else none
  | none => none

def gExit (s : State) (g : Gid) (b : Beh) : Option State :=
  match s.gs[g]? with
  | some x =>
    if x.kind = .step ∧ x.pc = .entered then
      some (setPc s g x (match b with | .ok => .writing | _ => .failing))
    else none
  | none => none

/-- `sendRuntimeMessage(work-done)` under the encoder mutex, then `wg.Done()` -/
def gWrite (s : State) (g : Gid) : Option State :=
  match s.gs[g]? with
  | some x =>
    if x.kind = .step ∧ x.pc = .writing then
      if s.outBroken then some { setPc s g x .doneLost with wg := s.wg - 1 }
      else some { setPc s g x .doneOk with wg := s.wg - 1, written := s.written ++ [.workDone x.run g] }
    else none
  | none => none

def gErr (g : Gid) (x : G) : SErr :=
  match x.kind with
  | .step => ⟨x.run, true, false, .step g⟩
  | .signal => ⟨x.run, false, false, .signal g⟩

/-- the goroutine reports its error on `workDone`, then `wg.Done()` -/
def gSend (c : Cfg) (s : State) (g : Gid) : Option State :=
  match s.gs[g]? with
  | some x =>
    if x.pc = .failing then
      (chanSend c s (gErr g x)).map fun s1 =>
        if s1.crashed then s1 else { setPc s1 g x .doneErr with wg := s1.wg - 1 }
    else none
  | none => none

def sigRun (c : Cfg) (s : State) (g : Gid) (r : SigRes) : Option State :=
  match s.gs[g]? with
  | some x =>
    if x.kind = .signal ∧ x.pc = .spawned then
      match r with
      | .ok => some { setPc s g x .doneOk with wg := s.wg - 1 }
      | .err => some (setPc s g x .failing)
      | .unknown | .panic =>
        if c.signalGuarded then some (setPc s g x .failing) else some { s with crashed := true }
    else none
  | none => none

def hRecv (s : State) : Option State :=
  match s.h with
  | .idle =>
    match s.queue with
    | e :: rest => some { s with queue := rest, h := .holding e }
    | [] => if s.closed then some { s with h := .done } else none
  | _ => none

/-- the handler acts on the error it holds -/
def hEmit (c : Cfg) (s : State) : Option State :=
  match s.h with
  | .holding e =>
    let s1 := { s with errors := s.errors ++ [e] }
    if s.stopped then some { s1 with h := .idle }
    else
      let s2 := if s.outBroken then s1 else { s1 with written := s.written ++ [.error e] }
      if s.outBroken = true ∨ e.serverFatal = true then
        if c.drainAfterStop then some { s2 with stdinClosed := true, stopped := true, h := .idle }
        else some { s2 with stdinClosed := true, h := .done }
      else some { s2 with h := .idle }
  | _ => none

/-- the `ctx.Done()` branch of the `select` -/
def hCancel (c : Cfg) (s : State) : Option State :=
  if s.cancelled = true ∧ s.h = .idle ∧ s.stopped = false then
    if c.drainAfterStop then some { s with stopped := true } else some { s with h := .done }
  else none

/-- the closer goroutine (repaired rules only) -/
def closeChan (c : Cfg) (s : State) : Option State :=
  if c.closeAtLoopEnd = false ∧ s.wg = 0 ∧ s.closed = false then some { s with closed := true }
  else none

def doRet (s : State) : Option State :=
  if s.h = .done ∧ s.wg = 0 ∧ s.returned = false then some { s with returned := true } else none

def doObserve (s : State) : Option State :=
  if s.seen < s.written.length then some { s with seen := s.seen + 1 } else none

/-- one transition; `none` = not enabled. Nothing happens after a crash. -/
def step? (c : Cfg) (s : State) (a : Act) : Option State :=
  if s.crashed then none else
  match a with
  | .offer it => if s.inputClosed then none else some { s with input := s.input ++ [it] }
  | .closeInput => some { s with inputClosed := true }
  | .breakOutput => some { s with outBroken := true }
  | .cancel => some { s with cancelled := true }
  | .observe => doObserve s
  | .exit g b => gExit s g b
  | .loopRead => loopRead c s
  | .loopReadErr => loopReadErr s
  | .loopSend => loopSend c s
  | .loopEnd => loopEnd c s
  | .gStart g p => gStart s g p
  | .gWrite g => gWrite s g
  | .gSend g => gSend c s g
  | .sigRun g r => sigRun c s g r
  | .hRecv => hRecv s
  | .hEmit => hEmit c s
  | .hCancel => hCancel c s
  | .close => closeChan c s
  | .ret => doRet s

inductive Reachable (c : Cfg) : State → Prop where
  | init : Reachable c State.init
  | step {s s' : State} {a : Act} : Reachable c s → step? c s a = some s' → Reachable c s'

/-- run a list of actions -/
def runActs (c : Cfg) (s : State) : List Act → Option State
  | [] => some s
  | a :: rest => (step? c s a).bind fun s1 => runActs c s1 rest

theorem reachable_runActs {c : Cfg} {s s' : State} (h : Reachable c s) :
    ∀ {as : List Act}, runActs c s as = some s' → Reachable c s' := by
  intro as
  induction as generalizing s with
  | nil => intro e; simp [runActs] at e; exact e ▸ h
  | cons a rest ih =>
    intro e
    simp only [runActs] at e
    cases hs : step? c s a with
    | none => simp [hs] at e
    | some s1 =>
      simp [hs] at e
      exact ih (Reachable.step h hs) e

/-- the candidates for a server-internal action in `s`, enabled or not (a finite list: used by the
    trace checker and by the statement of deadlock freedom); `ret` and `gStart g .enter` are not
    among them -/
def internalActs (s : State) : List Act :=
  [.loopRead, .loopReadErr, .loopSend, .loopEnd, .hRecv, .hEmit, .hCancel, .close] ++
  (List.range s.gs.length).flatMap fun g =>
    [.gStart g .reject, .gWrite g, .gSend g, .sigRun g .ok, .sigRun g .err, .sigRun g .unknown,
     .sigRun g .panic]

end Arca.AtpServer
