/-
  Effect tables (property C13) - the format of `Gen/Effects.lean`, which `/verif/effects` regenerates from
  the working tree of the SDK, and the two checkers the C13 table theorems evaluate:

    closed    the set `reach` contains the roots and is closed under the extracted call edges
              (so it contains everything reachable: `closed_sound`);
    raceFree  every write to memory shared between calls, and every read of a location that has a
              guarded write, in a function of `reach` is dominated by a lock (or is inside a
              `sync.Once.Do` body), or is on the allow-list below with its reason; all guarded
              accesses of one location hold the same mutex; no function of
              `reach` starts a goroutine; every library function that is handed a reference to
              shared memory is known not to write through it.

  What the table MEANS (which writes target shared memory, which lock dominates them) is the
  extractor's classification (/verif/effects/origin.go) and is trusted; the checkers only evaluate it.
  Functions are numbered by their position in `names`; sets of functions are `Nat` bit masks, so that
  the kernel evaluates membership with GMP arithmetic (`Nat.testBit`, `Nat.land`).
  Core Lean only.
-/
namespace Arca.Effects

/-- One access to shared memory. `kind`: store | mapupdate | send | close | delete | copy | append |
    clear | "extern <library function>" for writes, read | copy (a whole struct is copied) for reads.
    `guard`: 0 none, 1 a mutex of the same receiver is held, 2 a package-level mutex is held,
    3 inside the function passed to a `sync.Once.Do`. `loc` is the struct field ("Struct.field") or
    global the accessed memory lives in or hangs off ("" if none), `lock` the mutex held ("Struct.field",
    "global name", "once"; "" if none). `pos` is informative only. -/
structure Access where
  fn : Nat
  kind : String
  target : String
  guard : Nat
  loc : String
  lock : String
  pos : String
deriving Repr

structure Table where
  names : List String
  /-- call successors of function `i`: bit mask at position `i` -/
  succ : List Nat
  roots : List Nat
  reach : Nat
  /-- functions containing a `go` statement -/
  spawns : Nat
  writes : List Access
  /-- reads of the locations that have a guarded write -/
  reads : List Access
  externs : List String

@[inline] def inSet (m i : Nat) : Bool := Nat.testBit m i

def succOf (t : Table) (a : Nat) : Nat := t.succ.getD a 0

/-- the extracted call edge `a → b` -/
def edge (t : Table) (a b : Nat) : Bool := inSet (succOf t a) b

def closedFrom (reach : Nat) : Nat → List Nat → Bool
  | _, [] => true
  | i, s :: rest => (!(inSet reach i) || Nat.land s reach == s) && closedFrom reach (i + 1) rest

/-- the roots are in `reach`, and every successor of a member of `reach` is in `reach` -/
def closed (t : Table) : Bool :=
  t.roots.all (inSet t.reach) && closedFrom t.reach 0 t.succ

/-- reachability over the extracted edges -/
inductive Reachable (t : Table) : Nat → Prop
  | root {r : Nat} : r ∈ t.roots → Reachable t r
  | step {a b : Nat} : Reachable t a → edge t a b = true → Reachable t b

theorem closedFrom_get (reach : Nat) :
    ∀ (l : List Nat) (i : Nat), closedFrom reach i l = true →
      ∀ k, inSet reach (i + k) = true → Nat.land (l.getD k 0) reach = l.getD k 0 := by
  intro l
  induction l with
  | nil => intro i _ k _; simp
  | cons s rest ih =>
    intro i h k hk
    simp only [closedFrom, Bool.and_eq_true, Bool.or_eq_true, Bool.not_eq_true', beq_iff_eq] at h
    cases k with
    | zero =>
      simp only [Nat.add_zero] at hk
      rcases h.1 with h1 | h1
      · rw [h1] at hk; cases hk
      · simpa using h1
    | succ k =>
      have := ih (i + 1) h.2 k (by rwa [Nat.add_assoc, Nat.add_comm 1 k])
      simpa using this

theorem closed_sound (t : Table) (h : closed t = true) :
    ∀ n, Reachable t n → inSet t.reach n = true := by
  simp only [closed, Bool.and_eq_true, List.all_eq_true] at h
  intro n hn
  induction hn with
  | root hr => exact h.1 _ hr
  | @step a b _ hab ih =>
    have hs := closedFrom_get t.reach t.succ 0 h.2 a (by simpa using ih)
    simp only [edge, succOf, inSet] at hab
    rw [← hs] at hab
    have : (t.succ.getD a 0 &&& t.reach).testBit b = true := hab
    rw [Nat.testBit_and] at this
    simp only [Bool.and_eq_true] at this
    exact this.2

/-- an allow-list entry: accesses of `kind` to `target` in function `fn` (`"*"`: any function) -/
structure Allow where
  fn : String
  kind : String
  target : String
  reason : String

def allowed (al : List Allow) (t : Table) (a : Access) : Bool :=
  al.any fun e =>
    (e.fn == "*" || e.fn == t.names.getD a.fn "") && e.kind == a.kind && e.target == a.target

def accessOk (al : List Allow) (t : Table) (a : Access) : Bool :=
  !(inSet t.reach a.fn) || a.guard != 0 || allowed al t a

/-- all guarded accesses (in reachable functions) of one location hold the same mutex -/
def locksConsistent (t : Table) : Bool :=
  let g := (t.writes ++ t.reads).filter fun a => inSet t.reach a.fn && a.guard != 0
  g.all fun a => g.all fun b => a.loc != b.loc || a.lock == b.lock

def raceFreeWith (al : List Allow) (ro : List String) (t : Table) : Bool :=
  t.writes.all (accessOk al t) && t.reads.all (accessOk al t)
    && locksConsistent t
    && Nat.land t.spawns t.reach == 0
    && t.externs.all (fun e => ro.contains e)
    && t.succ.length == t.names.length

/-- Accesses accepted without a lock, each with the reason why it cannot race.
    (Function and target names as the extractor prints them: `go run . -explain`.) -/
def allowList : List Allow := [
  { fn := "(*schema.ConstraintError).AddPathSegment", kind := "store", target := "c.Path",
    reason := "the receiver is the error value of the failing call itself: every ConstraintError is \
      allocated (&ConstraintError{...}) by the operation that reports it and travels up that call's \
      stack only; no schema stores an error" },
  { fn := "(*schema.ObjectSchema).unserializeToStruct$1", kind := "extern (reflect.Value).Set",
    target := "(reflect.Value).Elem()",
    reason := "the value set is the pointer just made by reflect.New in this closure" },
  { fn := "(*schema.ObjectSchema).unserializeToStruct$1", kind := "extern (reflect.Value).Set",
    target := "^field",
    reason := "`field` is a view into the struct made by reflect.New at the top of the enclosing \
      unserializeToStruct call (a captured local of that call)" },
  { fn := "(*schema.ObjectSchema).unserializeToStruct$1", kind := "extern (reflect.Value).Set",
    target := "^f",
    reason := "`f` is `field` or a pointer made by reflect.New: memory of the enclosing call" },
  { fn := "(*schema.ObjectSchema).unserializeToStruct", kind := "extern (reflect.Value).Set",
    target := "local",
    reason := "the embedded struct pointer that is allocated is a field of the struct made by \
      reflect.New at the top of this call (the extractor itself classifies the target as local)" },
  { fn := "(schema.OneOfSchema[int64]).UnserializeType[int64]", kind := "mapupdate",
    target := "invoke Unserialize()",
    reason := "the map is the result of Object.Unserialize of the selected member; every Object of the \
      SDK (ObjectSchema, and RefSchema/ScopeSchema/typed objects delegating to it) returns the map \
      convertData allocates in that call" },
  { fn := "(schema.OneOfSchema[string]).UnserializeType[string]", kind := "mapupdate",
    target := "invoke Unserialize()",
    reason := "as for the int64 instance" },
  { fn := "(schema.OneOfSchema[int64]).SerializeType[int64]", kind := "mapupdate",
    target := "invoke Serialize()",
    reason := "the map is the result of Object.Serialize of the member, which serializeMap / \
      serializeStruct allocate in that call" },
  { fn := "(schema.OneOfSchema[string]).SerializeType[string]", kind := "mapupdate",
    target := "invoke Serialize()",
    reason := "as for the int64 instance" },
  { fn := "*", kind := "copy", target := "t{ObjectSchema.defaultValues}",
    reason := "value-receiver methods of TypedObjectSchema copy the embedded ObjectSchema; a \
      TypedObjectSchema is only built by NewTypedObject, which fills defaultValues at construction, so \
      GetDefaults never writes the field of such an object" }
]

/-- Library functions that may be handed references to shared memory: none writes through its
    arguments (reflect.Value setters, sort.*, json/cbor/yaml decoding, errors.As, reflect.Copy are
    classified as writes by the extractor instead). `(reflect.Value).Call` runs a method found by
    MethodByName; those methods are call-graph successors of the caller. -/
def readOnlyExterns : List String := [
  "(*regexp.Regexp).FindStringSubmatch", "(*regexp.Regexp).MatchString", "(*regexp.Regexp).String",
  "(reflect.Value).Bool", "(reflect.Value).Call", "(reflect.Value).CanConvert", "(reflect.Value).Convert",
  "(reflect.Value).Elem", "(reflect.Value).FieldByIndex", "(reflect.Value).FieldByName",
  "(reflect.Value).Float", "(reflect.Value).Index", "(reflect.Value).Int", "(reflect.Value).Interface",
  "(reflect.Value).IsNil", "(reflect.Value).IsValid", "(reflect.Value).Kind", "(reflect.Value).Len",
  "(reflect.Value).MapIndex", "(reflect.Value).MapKeys", "(reflect.Value).MethodByName",
  "(reflect.Value).String", "(reflect.Value).Type", "(reflect.Value).Uint", "(reflect.Value).IsZero",
  "(reflect.Value).Field", "(reflect.Value).NumField", "(reflect.Value).MapRange", "(reflect.Value).CanInterface",
  "(reflect.Value).Pointer", "(reflect.Value).CanSet",
  "maps.Clone", "slices.Clone", "reflect.DeepEqual", "reflect.Indirect", "reflect.MapOf", "reflect.New",
  "reflect.SliceOf", "reflect.TypeOf", "reflect.ValueOf", "strings.Join", "fmt.Sprintf", "fmt.Errorf",
  "fmt.Sprint", "errors.Is", "errors.Unwrap"
]

def raceFree (t : Table) : Bool := raceFreeWith allowList readOnlyExterns t

end Arca.Effects
