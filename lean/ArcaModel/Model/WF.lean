import ArcaModel.Model.Ops
/-
  Well-formedness of schemas: the contract under which the SDK's constructors produce a schema
  (they panic otherwise), stated as an explicit predicate.
-/
namespace Arca

/-- a schema that denotes an object directly: an object, or a reference / scope resolving to one -/
def ObjLike (env : Env) : Ty → Prop
  | .obj _ _ => True
  | .ref id => ∃ oid ps, lookupS id env = some (.obj oid ps)
  | .scope objs root => ∃ oid ps, lookupS root objs = some (.obj oid ps)
  | _ => False

/-- `WF env t`: every reference in `t` resolves in its scope, every scope has its root, every
    default decodes, one-of members are objects. (`NewScopeSchema`, `NewObjectSchema`,
    `ApplyNamespace` panic when these fail, so no such schema value exists.) -/
inductive WF : Env → Ty → Prop
  | int {env a b u} : WF env (.int a b u)
  | float {env a b u} : WF env (.float a b u)
  | str {env a b p} : WF env (.str a b p)
  | bool {env} : WF env .bool
  | pattern {env} : WF env .pattern
  | enumInt {env vs u} : WF env (.enumInt vs u)
  | enumStr {env vs} : WF env (.enumStr vs)
  | any {env} : WF env .any
  | list {env item a b} : WF env item → WF env (.list item a b)
  | map {env k v a b} : WF env k → WF env v → WF env (.map k v a b)
  | obj {env id props} :
      (∀ np, np ∈ props → WF env np.2.ty) → (∀ np, np ∈ props → np.2.defaultV ≠ some none) →
      WF env (.obj id props)
  | oneOf {env ik d inl members} :
      (∀ m, m ∈ members → WF env m.2) → (∀ m, m ∈ members → ObjLike env m.2) →
      WF env (.oneOf ik d inl members)
  | ref {env id o} : lookupS id env = some o → WF env (.ref id)
  | scope {env objs root o} :
      lookupS root objs = some o → (∀ p, p ∈ objs → WF objs p.2) → WF env (.scope objs root)

/-- every object of the enclosing scope is itself well-formed in that scope -/
def EnvWF (env : Env) : Prop := ∀ p, p ∈ env → WF env p.2

end Arca
