import ArcaModel.Model.WF
/-
  An executable well-formedness check, sound for `WF` (used by `example`s and by the driver to
  tell which generated schemas the theorems speak about).
-/
namespace Arca

def objLikeB (env : Env) : Ty → Bool
  | .obj _ _ => true
  | .ref id => match lookupS id env with
    | some (.obj _ _) => true
    | _ => false
  | .scope objs root => match lookupS root objs with
    | some (.obj _ _) => true
    | _ => false
  | _ => false

theorem objLikeB_sound {env : Env} {t : Ty} (h : objLikeB env t = true) : ObjLike env t := by
  cases t with
  | obj => trivial
  | ref id =>
    simp only [objLikeB] at h
    split at h
    · rename_i oid ps hl
      exact ⟨oid, ps, hl⟩
    · cases h
  | scope objs root =>
    simp only [objLikeB] at h
    split at h
    · rename_i oid ps hl
      exact ⟨oid, ps, hl⟩
    · cases h
  | _ => exact absurd h Bool.false_ne_true

/-- the default, if any, decodes -/
def defaultOK (p : PropT) : Bool :=
  match p.defaultV with
  | some none => false
  | _ => true

theorem defaultOK_sound {p : PropT} (h : defaultOK p = true) : p.defaultV ≠ some none := by
  unfold defaultOK at h
  split at h <;> simp_all

/-- fuelled structural check of `WF` -/
def wfB : Nat → Env → Ty → Bool
  | 0, _, _ => false
  | n + 1, env, t =>
    match t with
    | .int _ _ _ | .float _ _ _ | .str _ _ _ | .bool | .pattern | .enumInt _ _ | .enumStr _ | .any => true
    | .list item _ _ => wfB n env item
    | .map k v _ _ => wfB n env k && wfB n env v
    | .obj _ props => props.all fun np => wfB n env np.2.ty && defaultOK np.2
    | .oneOf _ _ _ members => members.all fun m => wfB n env m.2 && objLikeB env m.2
    | .ref id => (lookupS id env).isSome
    | .scope objs root => (lookupS root objs).isSome && objs.all fun p => wfB n objs p.2

theorem wfB_sound : ∀ (n : Nat) (env : Env) (t : Ty), wfB n env t = true → WF env t
  | 0, _, _, h => by simp [wfB] at h
  | n + 1, env, t, h => by
    have ih := wfB_sound n
    cases t with
    | list item a b => exact .list (ih _ _ (by simpa [wfB] using h))
    | map k v a b =>
      simp only [wfB, Bool.and_eq_true] at h
      exact .map (ih _ _ h.1) (ih _ _ h.2)
    | obj id props =>
      simp only [wfB, List.all_eq_true, Bool.and_eq_true] at h
      exact .obj (fun np hnp => ih _ _ (h np hnp).1) (fun np hnp => defaultOK_sound (h np hnp).2)
    | oneOf ik d inl members =>
      simp only [wfB, List.all_eq_true, Bool.and_eq_true] at h
      exact .oneOf (fun m hm => ih _ _ (h m hm).1) (fun m hm => objLikeB_sound (h m hm).2)
    | ref id =>
      simp only [wfB] at h
      cases hl : lookupS id env with
      | none => simp [hl] at h
      | some o => exact .ref hl
    | scope objs root =>
      simp only [wfB, Bool.and_eq_true, List.all_eq_true] at h
      cases hl : lookupS root objs with
      | none => simp [hl] at h
      | some o => exact .scope hl (fun p hp => ih _ _ (h.2 p hp))
    | _ => constructor

theorem envWF_nil : EnvWF [] := by intro p hp; simp at hp

theorem envWF_of_all {env : Env} {n : Nat} (h : env.all (fun p => wfB n env p.2) = true) : EnvWF env := by
  intro p hp
  simp only [List.all_eq_true] at h
  exact wfB_sound _ _ _ (h p hp)

end Arca
