/-
  The ATP client (`atp/client.go`) as a labelled transition system.

  Granularity: one step = one critical section of `client.mutex` (or one blocking I/O operation /
  one goroutine-local decision between two critical sections).  All shared client state
  (`runningStepResultEntries`, `runningStepEmittedSignalChannels`, `readLoopRunning`, `done`) is
  only touched under that mutex (table fact, `Gen/AtpClientFacts.lean`), so the interleavings of
  these steps are exactly the behaviours of the Go code.

  Threads: callers of `Execute` (one per call, unboundedly many), read-loop goroutines, signal
  writer goroutines, the caller of `Close`, the caller of `ReadSchema`.  The environment is the
  peer: it consumes the client-to-server stream and produces the server-to-client stream, either as a
  correct server (`sRecv / sSend / sEnd`, guarded) or arbitrarily (`envPut`, write failures).

  `stepG false` is the CURRENT code; `stepG true` is the variant before commit 81c38a0 in which the
  read loop decides to exit in one critical section and clears `readLoopRunning` in a later one.

  Not exhibited by the model (assumed): `sync.Cond.Signal` after the result is stored wakes the
  single waiter and there are no spurious wake-ups; the receiver of `signalsFromStep` keeps
  receiving until the channel is closed (the read loop forwards a signal while holding the mutex);
  byte framing of the CBOR library (the harness classifies bytes into items with the real decoder).

  ASSUMPTION E (write side), on which every liveness statement about this model rests:
  a write to the client-to-server stream completes without waiting for the peer.  In the model
  `c2s` is an unbounded queue, the send steps (`rsSend / cSend / wSend / clSend`) are atomic and the
  environment step `sRecv` is enabled whenever `c2s` is non-empty.  Steps of this model are whole
  critical sections; a state "inside `sendCBOR`, waiting for the peer" does not exist in it, so the
  model cannot express a peer that reads only while its own output is being consumed.  The library's
  own server is such a peer over unbuffered pipes (its read loop blocks on the `workDone` channel of
  capacity 3 while its report writer waits for the client to read).  client.go meets E against it
  because `sendCBOR` serialises writers with a mutex of its own (`writeMutex`): a waiting write
  blocks only other writes, the read loop keeps consuming the peer's output, and the peer reads
  again (fact `no_stream_write_under_client_mutex`, Props/C06Facts.lean, re-checked on every run).
  Before commit e463f25 the write happened while the CLIENT mutex was held, the read loop's
  `lDeliver` / `lCheck` and every `cRegister` had to wait for it, and harness sessions
  `backpressure-*` (marker "mutex-held-across-blocking-write") deadlocked the real client
  although the liveness theorems held of the model.

  Core Lean only (linked into the native driver).
-/
namespace Arca.AtpClient

abbrev Run := Nat      -- run ID; 0 is the blank run ID
abbrev Tid := Nat      -- thread (goroutine / call) identifier

/-- an `ExecutionResult`: success with (an abstract) output, or an error -/
inductive Res where
  | ok (x : Nat)
  | err
deriving DecidableEq, Repr, Inhabited

/-- `executionEntry.result`: nil or set -/
inductive Entry where
  | pending
  | result (r : Res)
deriving DecidableEq, Repr, Inhabited

/-- a well-formed runtime message as the read loop sees it -/
inductive Msg where
  /-- work-done for run `r`; `x = none`: the data field does not decode with the client's strict
      decoder - garbled, or the payload of another message type (unknown fields) - : error result -/
  | workDone (r : Run) (x : Option Nat)
  /-- signal emitted by the step; `good = false`: data does not decode strictly (logged, dropped) -/
  | signal (r : Run) (good : Bool)
  /-- error message with its two flags (a strict-decoding failure is logged; the flags are those of
      the struct as far as it was filled: all false for a payload of another type) -/
  | error (r : Run) (stepFatal serverFatal : Bool)
  /-- any other message ID -/
  | unknown (r : Run)
deriving DecidableEq, Repr, Inhabited

/-- one item of the server-to-client stream -/
inductive Item where
  | msg (m : Msg)
  | hello (ver : Int) (schemaOk : Bool)
  | v1done (x : Nat)
  /-- a well-formed CBOR item that does not decode into what the reader expects: consumed, error -/
  | bad
  /-- malformed bytes: the decoder never gets past them -/
  | garbage
  | eof
  | ioerr
deriving DecidableEq, Repr, Inhabited

/-- faults the decoder reports again on every later call -/
def Item.sticky : Item → Bool
  | .garbage | .eof | .ioerr => true
  | _ => false

/-- client-to-server messages -/
inductive CMsg where
  | startOutput
  | workStart (r : Run)
  | workStartV1
  | signal (r : Run)
  | clientDone
deriving DecidableEq, Repr, Inhabited

/-- position of an `Execute` call -/
inductive CPc where
  /-- called; `needW`: the signal writer goroutine still has to be spawned -/
  | start (needW : Bool)
  /-- `prepareResultChannels` done -/
  | registered
  /-- work-start written (v3) -/
  | sent
  /-- inside `condition.Wait()` -/
  | waiting
  /-- work-start written (v1) -/
  | sentV1
  /-- the work-start write failed (v3); `removeResultChannels` is still to run -/
  | sendFailed
  /-- result determined, not yet handed to the caller -/
  | returned (res : Res)
  | finished
deriving DecidableEq, Repr, Inhabited

structure Caller where
  run : Run
  wantTo : Bool
  wantFrom : Bool
  pc : CPc
deriving DecidableEq, Repr, Inhabited

/-- position of a read loop goroutine (a loop that has ended is removed from the state) -/
inductive LPc where
  | decode
  /-- a message (`none`: a decode error) has been read and is about to be handled -/
  | handle (m : Option Msg)
  | check
  /-- pre-repair variant only: decided to exit, `readLoopRunning` not yet cleared -/
  | exiting
deriving DecidableEq, Repr, Inhabited

/-- position of a signal writer goroutine -/
inductive WPc where
  | init
  | select
  | have (r : Run)
deriving DecidableEq, Repr, Inhabited

/-- position of the `Close` call -/
inductive ClPc where
  | idle
  | called
  | cancelled
  | marked
  | sentDone
  | failed
  | returned (ok : Bool)
deriving DecidableEq, Repr, Inhabited

/-- position of the `ReadSchema` call -/
inductive RsPc where
  | idle
  | called
  | sentNil
  | returned (ok : Bool)
  | finished
deriving DecidableEq, Repr, Inhabited

/-- the correct server's bookkeeping (environment) -/
structure Srv where
  /-- accepted work-starts without a terminal message yet -/
  owed : List Run
  gotDone : Bool
  /-- the server-to-client stream has been ended (nothing more is appended) -/
  ended : Bool
deriving DecidableEq, Repr, Inhabited

structure State where
  ver : Int
  entries : List (Run × Entry)
  sigs : List Run
  flag : Bool
  done : Bool
  cancelled : Bool
  loops : List (Tid × LPc)
  callers : List (Tid × Caller)
  writers : List (Tid × WPc)
  closer : ClPc
  rs : RsPc
  s2c : List Item
  c2s : List CMsg
  srv : Srv
  /-- ghost: intact work-done items consumed by a reader, `(run, output)` -/
  consumed : List (Run × Nat)
  /-- ghost: `Execute` calls that have returned to their caller -/
  retd : List Tid
deriving DecidableEq, Repr, Inhabited

def init : State :=
  { ver := -1, entries := [], sigs := [], flag := false, done := false, cancelled := false,
    loops := [], callers := [], writers := [], closer := .idle, rs := .idle, s2c := [], c2s := [],
    srv := ⟨[], false, false⟩, consumed := [], retd := [] }

inductive Label where
  -- ReadSchema
  | rsCall
  | rsSend (ok : Bool)
  | rsRead
  | rsRet
  -- Execute
  | call (c : Tid) (r : Run) (wantTo wantFrom : Bool)
  | cReject (c : Tid)
  | cSpawnW (c w : Tid)
  | cRegister (c : Tid) (l : Option Tid)
  | cSend (c : Tid) (ok : Bool)
  | cAbandon (c : Tid)
  | cWait (c : Tid)
  | cTake (c : Tid)
  | cReadV1 (c : Tid)
  | cRet (c : Tid) (res : Res)
  -- read loop
  | lRead (l : Tid)
  | lDeliver (l : Tid)
  | lCheck (l : Tid)
  | lExit (l : Tid)
  -- signal writer
  | wCheck (w : Tid)
  | wRecv (w : Tid) (r : Run)
  | wClosed (w : Tid)
  | wCancel (w : Tid)
  | wSend (w : Tid) (ok : Bool)
  -- Close
  | clCall
  | clCancel
  | clMark
  | clSend (ok : Bool)
  | clRet
  | clTimeout
  -- environment
  | sRecv
  | sSend (m : Msg)
  | sEnd
  | envPut (it : Item)
  /-- the transport delivered a client message although it reported the write as failed -/
  | envLate (m : CMsg)
deriving DecidableEq, Repr, Inhabited

/-! ### association-list helpers -/

def hasKey {β} (l : List (Nat × β)) (k : Nat) : Bool := l.any (fun p => p.1 == k)

def setT {β} (l : List (Nat × β)) (k : Nat) (v : β) : List (Nat × β) :=
  l.map (fun p => if p.1 == k then (p.1, v) else p)

def delT {β} (l : List (Nat × β)) (k : Nat) : List (Nat × β) := l.filter (fun p => p.1 != k)

def Entry.isPending : Entry → Bool
  | .pending => true
  | _ => false

def anyPending (es : List (Run × Entry)) : Bool := es.any (fun p => p.2.isPending)

/-- `sendExecutionResult` on every entry -/
def failAll (es : List (Run × Entry)) : List (Run × Entry) := es.map (fun p => (p.1, .result .err))

/-- `sendExecutionResult` for one run (no effect when the entry does not exist) -/
def setRes (es : List (Run × Entry)) (r : Run) (v : Res) : List (Run × Entry) := setT es r (.result v)

/-- signal channels that remain after the channels of all runs with an entry were closed -/
def closeSigs (sigs : List Run) (es : List (Run × Entry)) : List Run :=
  sigs.filter (fun r => !hasKey es r)

def fresh (s : State) (t : Tid) : Bool :=
  !hasKey s.loops t && !hasKey s.writers t && !hasKey s.callers t

def wgZero (s : State) : Bool := s.loops.isEmpty && s.writers.isEmpty

/-! ### the steps, thread by thread -/

/-- `ReadSchema` -/
def stepRs (s : State) : Label → Option State
  | .rsCall => if s.rs = .idle then some { s with rs := .called } else none
  | .rsSend ok =>
    if s.rs = .called then
      if ok then some { s with rs := .sentNil, c2s := s.c2s ++ [.startOutput] }
      else some { s with rs := .returned false }
    else none
  | .rsRead =>
    if s.rs = .sentNil then
      match s.s2c with
      | [] => none
      | it :: rest =>
        let s2c' := if it.sticky then s.s2c else rest
        match it with
        | .hello v okSchema =>
          if v = 1 ∨ v = 3 then some { s with s2c := s2c', ver := v, rs := .returned okSchema }
          else some { s with s2c := s2c', rs := .returned false }
        | _ => some { s with s2c := s2c', rs := .returned false }
    else none
  | .rsRet =>
    match s.rs with
    | .returned _ => some { s with rs := .finished }
    | _ => none
  | _ => none

/-- read loop; `pinned`: the variant before the repair -/
def stepLoop (pinned : Bool) (s : State) : Label → Option State
  | .lRead l =>
    match s.loops.lookup l, s.s2c with
    | some .decode, it :: rest =>
      let s2c' := if it.sticky then s.s2c else rest
      let om : Option Msg := match it with
        | .msg m => some m
        | _ => none
      let consumed' := match it with
        | .msg (.workDone r (some x)) => s.consumed ++ [(r, x)]
        | _ => s.consumed
      some { s with s2c := s2c', loops := setT s.loops l (.handle om), consumed := consumed' }
    | _, _ => none
  | .lDeliver l =>
    match s.loops.lookup l with
    | some (.handle om) =>
      -- `sendErrorToAllAndStopReading` followed by the loop's return
      let fatal : State :=
        if pinned then
          { s with entries := failAll s.entries, sigs := closeSigs s.sigs s.entries,
                   loops := setT s.loops l .exiting }
        else
          { s with entries := failAll s.entries, sigs := closeSigs s.sigs s.entries,
                   flag := false, loops := delT s.loops l }
      match om with
      | none => some fatal
      | some (.workDone r x) =>
        let v : Res := match x with
          | some y => .ok y
          | none => .err
        some { s with entries := setRes s.entries r v, sigs := s.sigs.filter (· != r),
                      loops := setT s.loops l .check }
      | some (.signal _ _) => some { s with loops := setT s.loops l .check }
      | some (.error r sf vf) =>
        if vf then some fatal
        else if sf then
          if r = 0 then
            some { s with entries := failAll s.entries, sigs := closeSigs s.sigs s.entries,
                          loops := setT s.loops l .check }
          else
            some { s with entries := setRes s.entries r .err, sigs := s.sigs.filter (· != r),
                          loops := setT s.loops l .check }
        else some { s with loops := setT s.loops l .check }
      | some (.unknown _) => some { s with loops := setT s.loops l .check }
    | _ => none
  | .lCheck l =>
    match s.loops.lookup l with
    | some .check =>
      if anyPending s.entries then some { s with loops := setT s.loops l .decode }
      else if pinned then some { s with loops := setT s.loops l .exiting }
      else some { s with flag := false, loops := delT s.loops l }
    | _ => none
  | .lExit l =>
    match s.loops.lookup l with
    | some .exiting =>
      if pinned then some { s with flag := false, loops := delT s.loops l } else none
    | _ => none
  | _ => none

/-- `Execute` -/
def stepCaller (s : State) : Label → Option State
  | .call c r wantTo wantFrom =>
    if fresh s c then
      some { s with callers := s.callers ++
        [(c, { run := r, wantTo := wantTo, wantFrom := wantFrom,
               pc := .start (wantTo && decide (s.ver > 1) && decide (r ≠ 0)) })] }
    else none
  | .cReject c =>
    match s.callers.lookup c with
    | some k =>
      match k.pc with
      | .start _ =>
        if k.run = 0 then some { s with callers := setT s.callers c { k with pc := .returned .err } }
        else none
      | _ => none
    | none => none
  | .cSpawnW c w =>
    match s.callers.lookup c with
    | some k =>
      if k.pc = .start true then
        -- the wait-group Add for the writer happens under the mutex, and only while not closed
        if s.done then some { s with callers := setT s.callers c { k with pc := .returned .err } }
        else if fresh s w then
          some { s with callers := setT s.callers c { k with pc := .start false },
                        writers := s.writers ++ [(w, .init)] }
        else none
      else none
    | none => none
  | .cRegister c lo =>
    match s.callers.lookup c with
    | some k =>
      if k.pc = .start false ∧ k.run ≠ 0 ∧ s.ver > 1 then
        if s.done then
          -- Close has begun: no registration, no new read loop
          if lo = none then some { s with callers := setT s.callers c { k with pc := .returned .err } }
          else none
        else if hasKey s.entries k.run then
          -- duplicate run ID
          if lo = none then some { s with callers := setT s.callers c { k with pc := .returned .err } }
          else none
        else
          let entries' := s.entries ++ [(k.run, .pending)]
          let sigs' := if k.wantFrom then s.sigs ++ [k.run] else s.sigs
          let callers' := setT s.callers c { k with pc := .registered }
          if s.flag then
            if lo = none then some { s with entries := entries', sigs := sigs', callers := callers' }
            else none
          else
            match lo with
            | some l =>
              if fresh s l then
                some { s with entries := entries', sigs := sigs', callers := callers', flag := true,
                              loops := s.loops ++ [(l, .decode)] }
              else none
            | none => none
      else none
    | none => none
  | .cSend c ok =>
    match s.callers.lookup c with
    | some k =>
      if k.pc = .registered then
        if ok then
          some { s with c2s := s.c2s ++ [.workStart k.run],
                        callers := setT s.callers c { k with pc := .sent } }
        else some { s with callers := setT s.callers c { k with pc := .sendFailed } }
      else if k.pc = .start false ∧ k.run ≠ 0 ∧ s.ver ≤ 1 then
        if ok then
          some { s with c2s := s.c2s ++ [.workStartV1],
                        callers := setT s.callers c { k with pc := .sentV1 } }
        else some { s with callers := setT s.callers c { k with pc := .returned .err } }
      else none
    | none => none
  | .cAbandon c =>
    -- `removeResultChannels` (its own critical section, after the failed write)
    match s.callers.lookup c with
    | some k =>
      if k.pc = .sendFailed then
        some { s with entries := delT s.entries k.run, sigs := s.sigs.filter (· != k.run),
                      callers := setT s.callers c { k with pc := .returned .err } }
      else none
    | none => none
  | .cWait c =>
    match s.callers.lookup c with
    | some k =>
      if k.pc = .sent ∧ s.entries.lookup k.run = some .pending then
        some { s with callers := setT s.callers c { k with pc := .waiting } }
      else none
    | none => none
  | .cTake c =>
    match s.callers.lookup c with
    | some k =>
      if k.pc = .sent ∨ k.pc = .waiting then
        match s.entries.lookup k.run with
        | some (.result v) =>
          some { s with entries := delT s.entries k.run,
                        callers := setT s.callers c { k with pc := .returned v } }
        | some .pending => none
        | none =>
          if k.pc = .sent then some { s with callers := setT s.callers c { k with pc := .returned .err } }
          else none
      else none
    | none => none
  | .cReadV1 c =>
    match s.callers.lookup c, s.s2c with
    | some k, it :: rest =>
      if k.pc = .sentV1 then
        let s2c' := if it.sticky then s.s2c else rest
        match it with
        | .v1done x =>
          some { s with s2c := s2c', consumed := s.consumed ++ [(k.run, x)],
                        callers := setT s.callers c { k with pc := .returned (.ok x) } }
        | _ => some { s with s2c := s2c', callers := setT s.callers c { k with pc := .returned .err } }
      else none
    | _, _ => none
  | .cRet c res =>
    match s.callers.lookup c with
    | some k =>
      if k.pc = .returned res then
        some { s with callers := setT s.callers c { k with pc := .finished }, retd := s.retd ++ [c] }
      else none
    | none => none
  | _ => none

/-- `executeWriteLoop` -/
def stepWriter (s : State) : Label → Option State
  | .wCheck w =>
    match s.writers.lookup w with
    | some .init =>
      -- the opening "is the client closed?" check. Whether it reads `done` under the mutex or the
      -- context without it, finding the client closed is the same as entering the select and
      -- leaving through the cancelled context at once (`wCancel`; Close cancels before it sets
      -- `done`), so the check itself is just the move to the select.
      some { s with writers := setT s.writers w .select }
    | _ => none
  | .wRecv w r =>
    match s.writers.lookup w with
    | some .select =>
      -- a signal with a blank run ID is logged and ends the writer
      if r = 0 then some { s with writers := delT s.writers w }
      else some { s with writers := setT s.writers w (.have r) }
    | _ => none
  | .wClosed w =>
    match s.writers.lookup w with
    | some .select => some { s with writers := delT s.writers w }
    | _ => none
  | .wCancel w =>
    match s.writers.lookup w with
    | some .select => if s.cancelled then some { s with writers := delT s.writers w } else none
    | _ => none
  | .wSend w ok =>
    match s.writers.lookup w with
    | some (.have r) =>
      if ok then some { s with c2s := s.c2s ++ [.signal r], writers := setT s.writers w .select }
      else some { s with writers := delT s.writers w }
    | _ => none
  | _ => none

/-- `Close` -/
def stepCloser (s : State) : Label → Option State
  | .clCall => if s.closer = .idle then some { s with closer := .called } else none
  | .clCancel =>
    if s.closer = .called then some { s with closer := .cancelled, cancelled := true } else none
  | .clMark =>
    if s.closer = .cancelled then
      if s.done then some { s with closer := .returned true }
      else some { s with closer := .marked, done := true }
    else none
  | .clSend ok =>
    if s.closer = .marked ∧ s.ver > 1 then
      if ok then some { s with closer := .sentDone, c2s := s.c2s ++ [.clientDone] }
      else some { s with closer := .failed }
    else none
  | .clRet =>
    if wgZero s then
      -- `wg.Wait()` (after client-done, or directly for ATP v1) or the graceful error return
      if s.closer = .sentDone ∨ (s.closer = .marked ∧ s.ver ≤ 1) then some { s with closer := .returned true }
      else if s.closer = .failed then some { s with closer := .returned false }
      else none
    else none
  | .clTimeout =>
    if s.closer = .failed ∧ wgZero s = false then some { s with closer := .returned false } else none
  | _ => none

/-- may a correct server send `m` now? (`ended` is checked by the caller) -/
def srvMay (v : Srv) : Msg → Bool
  | .workDone r x => x.isSome && v.owed.contains r
  | .signal r _ => v.owed.contains r
  | .error r sf vf => vf || !sf || r == 0 || v.owed.contains r
  | .unknown _ => true

/-- the peer -/
def stepEnv (s : State) : Label → Option State
  | .sRecv =>
    match s.c2s with
    | [] => none
    | m :: rest =>
      let srv' : Srv := match m with
        | .workStart r => if s.srv.gotDone then s.srv else { s.srv with owed := s.srv.owed ++ [r] }
        | .clientDone => { s.srv with gotDone := true }
        | _ => s.srv
      some { s with c2s := rest, srv := srv' }
  | .sSend m =>
    if s.srv.ended = false ∧ srvMay s.srv m then
      match m with
      | .workDone r _ => some { s with s2c := s.s2c ++ [.msg m], srv := { s.srv with owed := s.srv.owed.erase r } }
      | .error r sf vf =>
        if vf then
          -- a server-fatal error is the server's last message; it then ends its output
          some { s with s2c := s.s2c ++ [.msg m, .eof], srv := { s.srv with owed := [], ended := true } }
        else if sf ∧ r ≠ 0 then
          some { s with s2c := s.s2c ++ [.msg m], srv := { s.srv with owed := s.srv.owed.erase r } }
        else some { s with s2c := s.s2c ++ [.msg m] }
      | _ => some { s with s2c := s.s2c ++ [.msg m] }
    else none
  | .sEnd =>
    if s.srv.ended = false ∧ s.srv.gotDone ∧ s.srv.owed = [] then
      some { s with s2c := s.s2c ++ [.eof], srv := { s.srv with ended := true } }
    else none
  | .envPut it =>
    if s.srv.ended = false then
      some { s with s2c := s.s2c ++ [it], srv := { s.srv with ended := it.sticky } }
    else none
  -- a write side that fails independently: the bytes of a write reported as failed reach the peer
  | .envLate m => some { s with c2s := s.c2s ++ [m] }
  | _ => none

/-- which thread owns a label -/
inductive Owner where
  | rs | caller | loop | writer | closer | env
deriving DecidableEq, Repr

def Label.owner : Label → Owner
  | .rsCall | .rsSend _ | .rsRead | .rsRet => .rs
  | .call .. | .cReject _ | .cSpawnW .. | .cRegister .. | .cSend .. | .cAbandon _ | .cWait _ | .cTake _
  | .cReadV1 _ | .cRet .. => .caller
  | .lRead _ | .lDeliver _ | .lCheck _ | .lExit _ => .loop
  | .wCheck _ | .wRecv .. | .wClosed _ | .wCancel _ | .wSend .. => .writer
  | .clCall | .clCancel | .clMark | .clSend _ | .clRet | .clTimeout => .closer
  | .sRecv | .sSend _ | .sEnd | .envPut _ | .envLate _ => .env

/-- the executable step function of both variants -/
def stepG (pinned : Bool) (s : State) (l : Label) : Option State :=
  match l.owner with
  | .rs => stepRs s l
  | .caller => stepCaller s l
  | .loop => stepLoop pinned s l
  | .writer => stepWriter s l
  | .closer => stepCloser s l
  | .env => stepEnv s l

/-- the current code -/
def step? (s : State) (l : Label) : Option State := stepG false s l

/-- the code before commit 81c38a0 (exit decision and flag clear in separate critical sections) -/
def stepPinned? (s : State) (l : Label) : Option State := stepG true s l

def Step (s : State) (l : Label) (s' : State) : Prop := step? s l = some s'
def StepPinned (s : State) (l : Label) (s' : State) : Prop := stepPinned? s l = some s'

instance (s l s') : Decidable (Step s l s') := by unfold Step; exact inferInstance

/-- run a list of labels -/
def runG (pinned : Bool) : State → List Label → Option State
  | s, [] => some s
  | s, l :: ls => match stepG pinned s l with
    | some s' => runG pinned s' ls
    | none => none

def run (s : State) (ls : List Label) : Option State := runG false s ls

/-- Labels a healthy connection can produce in state `s`: the peer is a correct server (no arbitrary
    stream items), writes only fail once the server has received client-done and stopped
    reading, and the caller keeps to the documented contract (`ReadSchema` first; no `Execute`
    begins after `Close` has begun). -/
def healthy (s : State) : Label → Bool
  -- the handshake: one supported hello with a usable schema in answer to the start-output message
  | .envPut (.hello v ok) => ok && (v == 1 || v == 3) && decide (s.rs = .sentNil) && s.s2c.isEmpty
  -- ATP v1 sessions: bare work-done messages
  | .envPut (.v1done _) => decide (s.ver ≤ 1)
  | .envPut _ => false
  | .envLate _ => false
  -- the caller's side of the contract: ReadSchema first, no Execute after Close has begun
  | .call .. => decide (s.rs = .finished) && decide (s.closer = .idle)
  | .rsSend ok => ok
  | .clSend ok => ok
  | .cSend _ ok => ok || s.srv.gotDone
  | .wSend _ ok => ok || s.srv.gotDone
  | _ => true

/-- reachable states (any environment) -/
inductive Reachable : State → Prop where
  | init : Reachable init
  | step {s l s'} : Reachable s → Step s l s' → Reachable s'

/-- reachable states of the pre-repair variant -/
inductive ReachablePinned : State → Prop where
  | init : ReachablePinned init
  | step {s l s'} : ReachablePinned s → StepPinned s l s' → ReachablePinned s'

/-- reachable states on a healthy connection -/
inductive ReachableH : State → Prop where
  | init : ReachableH init
  | step {s l s'} : ReachableH s → Step s l s' → healthy s l = true → ReachableH s'

theorem ReachableH.reachable {s} (h : ReachableH s) : Reachable s := by
  induction h with
  | init => exact .init
  | step _ hs _ ih => exact .step ih hs

theorem run_reachable {s ls s'} (h : Reachable s) (hr : run s ls = some s') : Reachable s' := by
  induction ls generalizing s with
  | nil => simp [run, runG] at hr; exact hr ▸ h
  | cons l ls ih =>
    simp only [run, runG] at hr
    cases hst : stepG false s l with
    | none => simp [hst] at hr
    | some s1 =>
      simp only [hst] at hr
      exact ih (.step h hst) hr

end Arca.AtpClient
