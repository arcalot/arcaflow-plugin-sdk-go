import ArcaModel.Lemmas.StructMapTotal
import ArcaModel.Props.C01
/-
  Lemmas for the end-to-end round trip of struct-mapped trees (`Props/StructRoundTrip.lean`): what
  an accepting Unserialize did, kind by kind (`run*_U_ok_iff`, `oneOfUnserS_routes`); the hypotheses
  as an executable check (`rtPropB`, `rtOKB`) and the identification the round trip makes (`Eqv`);
  `forSVS` on pointwise known entries; presence rules that do not see the struct
  (`interdeps_stable`); zero values, defaults and the reading back of one field (`zeroFine_*`,
  `dflStep_*`, `readBack_*`).
-/
namespace Arca

namespace SM
open Out

/-! ### Unserialize never returns the nil interface

Every kind ends by wrapping what it built in a constructor of `V`; only a one-of hands on what a
member returned. -/

theorem anyConvert_ne_nil (fuel : Nat) (v : V) : OnOk (· ≠ .nil) (anyConvert fuel v) := by
  unfold anyConvert
  (repeat' split) <;> simp

theorem run_U_ne_nil (x : Ext) : ∀ (fuel : Nat) (env : Env) (t : Ty) (v r : V),
    run x fuel .U env t v = .ok r → r ≠ .nil
  | 0, _, _, _, _, h => by simp [run] at h
  | n + 1, env, t, v, r, h => by
    revert r h
    show OnOk (· ≠ .nil) (run x (n + 1) .U env t v)
    cases t
    case ref | scope =>
      simp only [run]
      split
      · simp
      · exact run_U_ne_nil x n _ _ _
    case any => exact anyConvert_ne_nil _ _
    case oneOf =>
      simp only [run, runOneOf, oneOfUnser]
      split
      · simp
      · split
        · simp
        · split
          · simp
          · split
            · simp
            · simp only [onOk_bind]
              intro key _
              split
              · simp
              · split
                · simp
                · simp only [onOk_bind]
                  intro r hr
                  have := run_U_ne_nil x n _ _ _ r hr
                  (repeat' split) <;> simp [toStrAny, this]
    all_goals
      simp only [run, runInt, runFloat, runStr, runBool, runPattern, runEnumInt, runEnumStr, runList, runMap, runObj]
      (repeat' split) <;> simp [toStrAny]

theorem runLeaf_ok_iff {x : Ext} {fuel : Nat} {op : SOp} {t : Ty} {s r : SV} :
    runLeaf x fuel op t s = .ok r ↔ ∃ v r0, s.toV? = some v ∧ run x fuel op.toOp [] t v = .ok r0 ∧ r = .val r0 := by
  constructor
  · intro h
    unfold runLeaf at h
    split at h
    · simp [Out.cerr] at h
    · rename_i v hv
      cases hr : run x fuel op.toOp [] t v with
      | ok r0 => rw [hr] at h; cases h; exact ⟨v, r0, hv, hr, rfl⟩
      | _ => rw [hr] at h; cases h
  · rintro ⟨v, r0, hv, hr, rfl⟩
    simp only [runLeaf, hv, hr]

theorem runListS_U_ok_iff {rec : SRec} {item : STy} {min max : Option Int} {v s : SV} :
    runListS rec .U item min max v = .ok s ↔ ∃ xs ys, v.elems? = some xs ∧ checkLen min max xs.length = .ok () ∧
      forIdxS (fun i e => (rec .U item e).addSeg (idxSeg i)) 0 xs = .ok ys ∧ s = .slice ys := by
  constructor
  · intro h
    unfold runListS at h
    split at h
    · simp [Out.cerr] at h
    · rename_i xs hxs
      obtain ⟨_, hlen, h⟩ := Out.bind_eq_ok h
      obtain ⟨ys, hys, h⟩ := Out.bind_eq_ok h
      cases h
      exact ⟨xs, ys, hxs, hlen, hys, rfl⟩
  · rintro ⟨xs, ys, hxs, hlen, hys, rfl⟩
    simp only [runListS, hxs, hlen, hys, Out.bind]

theorem runMapS_U_ok_iff {rec : SRec} {x : Ext} {fuel : Nat} {kt : Ty} {vt : STy} {min max : Option Int} {v s : SV} :
    runMapS rec x fuel .U kt vt min max v = .ok s ↔ ∃ kvs kvs', v.entries? = some kvs ∧
      checkLen min max kvs.length = .ok () ∧ forKVS (entryKVS rec x fuel .U kt vt) kvs = .ok kvs' ∧
      dupKeyS kvs' = false ∧ s = .map ⟨kt.keyTy, false⟩ kvs' := by
  constructor
  · intro h
    unfold runMapS at h
    split at h
    · simp [Out.cerr] at h
    · rename_i kvs hkvs
      obtain ⟨_, hlen, h⟩ := Out.bind_eq_ok h
      obtain ⟨kvs', hys, h⟩ := Out.bind_eq_ok h
      split at h
      · simp [Out.cerr] at h
      · rename_i hdup
        cases h
        exact ⟨kvs, kvs', hkvs, hlen, hys, by simpa using hdup, rfl⟩
  · rintro ⟨kvs, kvs', hkvs, hlen, hys, hdup, rfl⟩
    simp [runMapS, hkvs, hlen, hys, hdup, Out.bind]

theorem runObjS_U_ok_iff {rec : SRec} {fuel : Nat} {st : StructTy} {ptrT : Bool} {props : List (String × SProp)}
    {v s : SV} : runObjS rec fuel .U st ptrT props v = .ok s ↔
      ∃ m fs, sobjRaw rec fuel st props v = .ok m ∧ interdeps (rulesOf props) (fun k => hasKey k m) = .ok () ∧
        toStruct st props m = .ok fs ∧ s = wrapT ptrT st.name fs := by
  constructor
  · intro h
    simp only [runObjS] at h
    obtain ⟨m, hm, h⟩ := Out.bind_eq_ok h
    obtain ⟨_, hi, h⟩ := Out.bind_eq_ok h
    obtain ⟨fs, hts, h⟩ := Out.bind_eq_ok h
    cases h
    exact ⟨m, fs, hm, hi, hts, rfl⟩
  · rintro ⟨m, fs, hm, hi, hts, rfl⟩
    simp only [runObjS, hm, hi, hts, Out.bind]

/-- what the one-of returns for the member's result `mr`: a `map[string]any` gets the converted
    discriminator, anything else (a struct, a pointer to one) is returned as it is -/
def oneOfOut (disc : String) (key : Key) (mr : SV) : Out SV :=
  match mr with
  | .val (.map ⟨.string, true⟩ rk) =>
    match strKeys? rk with
    | some rm => .ok (.val (toStrAny (setKey disc key.toV rm)))
    | none => .cerr
  | _ => .ok mr

/-- how Unserialize of a one-of routes the input `s`: `s` is a map `kvs` whose key type allows
    strings and whose keys are the strings of `m`; its discriminator entry `d` denotes `key`, the key
    of the declared member `mt`, and `mt` accepted the map (with the discriminator when it is
    inlined, without it otherwise) with result `mr` -/
structure Routed (rec : SRec) (x : Ext) (ik : Bool) (disc : String) (inl : Bool) (members : List (Key × STy))
    (s : SV) where
  {sh : MapShape} {kvs : List (V × V)} {dk d : V}
  key : Key
  {m : List (String × V)}
  mt : STy
  mr : SV
  input : s.toV? = some (.map sh kvs)
  keyTy : sh.key = .any ∨ sh.key = .string
  discEntry : kvs.find? (isDiscKey disc) = some (dk, d)
  denotes : DiscDenotes x ik d key
  strKeys : strKeys? kvs = some m
  member : lookupK key members = some mt
  accepted : rec .U mt (.val (toStrAny (if inl then m else eraseKey disc m))) = .ok mr

/-- ROUTING (soundness): what an accepting Unserialize of a one-of over struct-mapped members did -/
theorem oneOfUnserS_routes {rec : SRec} {x : Ext} {ik : Bool} {disc : String} {inl : Bool}
    {members : List (Key × STy)} {s r : SV} (h : oneOfUnserS rec x ik disc inl members s = .ok r) :
    ∃ R : Routed rec x ik disc inl members s, oneOfOut disc R.key R.mr = .ok r := by
  unfold oneOfUnserS at h
  split at h
  · simp [Out.cerr] at h
  · simp [Out.plain] at h
  · rename_i v hnil hv
    split at h
    · simp [Out.cerr] at h
    · rename_i sh kvs hm
      cases mapEntries_eq hm
      split at h
      · simp [Out.cerr] at h
      · rename_i hsh
        have hsh' : sh.key = .any ∨ sh.key = .string := Decidable.or_iff_not_imp_left.mpr (by simpa using hsh)
        split at h
        · simp [Out.cerr] at h
        · rename_i dk d hfind
          obtain ⟨key, h1, h2⟩ := Out.bind_eq_ok h
          split at h2
          · simp [Out.cerr] at h2
          · rename_i m hms
            split at h2
            · simp [Out.cerr] at h2
            · rename_i mt hmt
              obtain ⟨mr, h3, h4⟩ := Out.bind_eq_ok h2
              exact ⟨⟨key, mt, mr, hv, hsh', hfind, (typedDisc_ok_iff _ _ _ _).mp h1, hms, hmt, h3⟩, h4⟩

/-- ROUTING (completeness) -/
theorem oneOfUnserS_accepts {rec : SRec} {x : Ext} {ik : Bool} {disc : String} {inl : Bool}
    {members : List (Key × STy)} {s : SV} {sh : MapShape} {kvs : List (V × V)} {dk d : V} {key : Key}
    {m : List (String × V)} {mt : STy} {mr : SV}
    (hs : s.toV? = some (.map sh kvs)) (hsh : sh.key = .any ∨ sh.key = .string)
    (hfind : kvs.find? (isDiscKey disc) = some (dk, d)) (hkey : DiscDenotes x ik d key)
    (hm : strKeys? kvs = some m) (hmt : lookupK key members = some mt)
    (hmr : rec .U mt (.val (toStrAny (if inl then m else eraseKey disc m))) = .ok mr) :
    oneOfUnserS rec x ik disc inl members s = oneOfOut disc key mr := by
  have hsh' : (sh.key == KeyTy.any || sh.key == KeyTy.string) = true := by
    rcases hsh with h | h <;> simp [h]
  have ht := (typedDisc_ok_iff x ik d key).mpr hkey
  unfold oneOfUnserS
  simp only [hs, V.mapEntries?, hsh', Bool.not_true, Bool.false_eq_true, if_false, hfind]
  rw [ht]
  simp only [Out.bind, hm, hmt, hmr]
  rfl

theorem srun_U_shaped (x : Ext) : ∀ (fuel : Nat) (t : STy) (v s : SV),
    srun x fuel .U t v = .ok s → shaped (reflTy t) s = true
  | 0, _, _, _, h => by simp [srun] at h
  | n + 1, t, v, s, h => by
    cases t with
    | leaf t =>
      obtain ⟨v0, r, _, hr, rfl⟩ := runLeaf_ok_iff.mp h
      have := run_U_ne_nil x n [] t v0 r hr
      cases r <;> first | rfl | exact absurd rfl this
    | list item a b => obtain ⟨_, _, _, _, _, rfl⟩ := runListS_U_ok_iff.mp h; rfl
    | map k vt a b => obtain ⟨_, _, _, _, _, _, rfl⟩ := runMapS_U_ok_iff.mp h; rfl
    | scope t => exact srun_U_shaped x n t v s h
    | obj id st ptrT props => obtain ⟨_, _, _, _, _, rfl⟩ := runObjS_U_ok_iff.mp h; cases ptrT <;> rfl
    | oneOf ik d inl members =>
      obtain ⟨R, hout⟩ := oneOfUnserS_routes h
      unfold oneOfOut at hout
      split at hout
      · split at hout
        · cases hout; rfl
        · simp [Out.cerr] at hout
      · cases hout; exact srun_U_shaped x n R.mt _ _ R.accepted

/-- a map-backed type accepts the zero value `z` of a field and round-trips it to itself, whatever
    the externals: bounds that include 0, no pattern, enumerations that list the zero value -/
def zeroFine : Ty → V → Bool
  | .int min max _, .int .int64 0 => (checkInt min max 0).isOk
  | .float min max _, .float .f64 0 => (checkFloat min max 0).isOk
  | .str min max none, .str "" => (checkLen min max 0).isOk
  | .bool, .bool false => true
  | .enumInt vals _, .int .int64 0 => vals.contains 0
  | .enumStr vals, .str "" => vals.contains ""
  | _, _ => false

/-- the property has a presence rule of its own -/
def hasRules (p : PropT) : Bool := !p.requiredIf.isEmpty || !p.requiredIfNot.isEmpty || !p.conflicts.isEmpty

/-- whether `k` is present matters to `interdeps`: `k` has a rule or is named in one -/
def ruleRelevant (rules : List (String × PropT)) (k : String) : Bool :=
  rules.any fun ip => (ip.1 == k && hasRules ip.2) || ip.2.requiredIf.contains k ||
    ip.2.requiredIfNot.contains k || ip.2.conflicts.contains k

/-- a field whose zero value means "absent" to `getFieldReflection` -/
def ptrLike (f : Field) : Bool := f.ty.isPtr || f.ty == .iface

/-- a map-backed leaf that is no object: the types a treat-empty-as-default property may have -/
def plainLeaf : STy → Bool
  | .leaf (.obj _ _) => false
  | .leaf _ => true
  | _ => false

/-- One property of a round-trip-faithful pair:
    * treat-empty-as-default only on an optional scalar / container leaf without default (a default
      would replace the dropped zero value on the way back; a required one would be missing);
    * a property whose presence matters to a rule sits on a pointer or interface field and is not
      treat-empty-as-default (otherwise its presence changes through the struct);
    * an optional property without default on a non-pointer, non-interface field either is
      treat-empty-as-default, or is disabled (since e915fbc its zero value reads as unset), or has a
      type that ACCEPTS THE FIELD'S ZERO VALUE (`zeroFine`) - the hypothesis that excludes the
      recorded finding `struct-optional-bounded-zero-value`. -/
def rtPropB (st : StructTy) (props : List (String × SProp)) (kp : String × SProp) : Bool :=
  match fieldFor st kp.1 with
  | none => false
  | some f =>
    (!kp.2.emptyIsDefault ||
      (plainLeaf kp.2.ty && kp.2.rules.default.isNone && !kp.2.rules.required)) &&
    (!ruleRelevant (rulesOf props) kp.1 || (ptrLike f && !kp.2.emptyIsDefault)) &&
    (ptrLike f || kp.2.emptyIsDefault || kp.2.disabled || kp.2.rules.required || kp.2.rules.default.isSome ||
      (match kp.2.ty, f.zero with
       | .leaf t, .val z => zeroFine t z
       | _, _ => false))

def rtObjB (st : StructTy) (props : List (String × SProp)) : Bool :=
  wfObjB st props && exactObjB st props && props.all (rtPropB st props)

/-- fuelled executable check of the round-trip hypotheses (`RTOK`): leaves satisfy C01's `WF1`,
    struct-mapped objects are well-formed, exactly typed, round-trip-faithful pairs; the key types of
    maps of struct-mapped objects satisfy `WF1`. -/
def rtOKB : Nat → STy → Bool
  | 0, _ => false
  | n + 1, .leaf t => wf1B (n + 1) [] t
  | n + 1, .list item _ _ => rtOKB n item
  | n + 1, .map k v _ _ => wf1B (n + 1) [] k && rtOKB n v
  | n + 1, .scope t => rtOKB n t
  | n + 1, .obj _ st _ props => rtObjB st props && props.all (fun kp => rtOKB n kp.2.ty)
  | n + 1, .oneOf ik d inl members =>
    -- a one-of over struct-mapped members of pairwise distinct struct types, consistent about the
    -- discriminator (separate: no member declares it; inlined: every member declares it as a leaf
    -- of the key kind)
    members.all (fun m => rtOKB n m.2 && objLikeS n m.2 && discOK n ik d inl m.2) &&
    decide (members.map (·.1)).Nodup && decide (members.map fun m => reflTy m.2).Nodup

mutual
/-- the identification the round trip makes, and nothing else: in the field of a
    treat-empty-as-default property a value that reads as unset (the zero value, a pointer to it, a
    negative zero) is identified with absence (the field's zero value, `nil` for a pointer field);
    every other field is equal, or related recursively through a sub-object -/
inductive Eqv : STy → SV → SV → Prop
  | refl {t s} : Eqv t s s
  | scope {t s s'} : Eqv t s s' → Eqv (.scope t) s s'
  | list {item a b xs xs'} : EqvList item xs xs' → Eqv (.list item a b) (.slice xs) (.slice xs')
  | map {k vt a b sh kvs kvs'} : EqvKVs vt kvs kvs' → Eqv (.map k vt a b) (.map sh kvs) (.map sh kvs')
  | oneOf {ik d inl members km s s'} : km ∈ members → Eqv km.2 s s' → Eqv (.oneOf ik d inl members) s s'
  | obj {id st ptrT props fs fs'} :
      keysOf fs = st.fields.map (·.name) → keysOf fs = keysOf fs' →
      (∀ n, (∀ kp, kp ∈ props → fieldName? st kp.1 ≠ some n) → lookupS n fs = lookupS n fs') →
      (∀ kp, kp ∈ props → ∀ f fv fv', fieldFor st kp.1 = some f → lookupS f.name fs = some fv →
        lookupS f.name fs' = some fv' → FieldEqv kp.2 f fv fv') →
      Eqv (.obj id st ptrT props) (wrapT ptrT st.name fs) (wrapT ptrT st.name fs')
inductive FieldEqv : SProp → Field → SV → SV → Prop
  /-- THE identification: what reads as unset from a treat-empty-as-default property ~ absence -/
  | absent {p f fv} : p.emptyIsDefault = true → readField f (reflTy p.ty) p.disabled true fv = .ok none →
      FieldEqv p f fv f.zero
  | same {p f fv} : FieldEqv p f fv fv
  | val {p f x x'} : Eqv p.ty x x' → FieldEqv p f x x'
  | ptr {p f x x'} : Eqv p.ty x x' → FieldEqv p f (.ptr x) (.ptr x')
inductive EqvList : STy → List SV → List SV → Prop
  | nil {t} : EqvList t [] []
  | cons {t x x' xs xs'} : Eqv t x x' → EqvList t xs xs' → EqvList t (x :: xs) (x' :: xs')
inductive EqvKVs : STy → List (V × SV) → List (V × SV) → Prop
  | nil {t} : EqvKVs t [] []
  | cons {t k x x' r r'} : Eqv t x x' → EqvKVs t r r' → EqvKVs t ((k, x) :: r) ((k, x') :: r')
end

/-- the result of an accepting outcome, `default` of any other: turns a partial operation into a
    total function where a proof needs one and looks at it only where the operation accepts -/
def okGet {β} [Inhabited β] : Out β → β
  | .ok b => b
  | _ => default

theorem okGet_eq {β} [Inhabited β] {o : Out β} {r : β} (h : o = .ok r) : okGet o = r := by subst h; rfl

theorem forSVS_map_pointwise {α β γ} {f : String → β → Out γ} {g1 : String × α → β} {g2 : String × α → γ} :
    ∀ (l : List (String × α)), (∀ kv, kv ∈ l → f kv.1 (g1 kv) = .ok (g2 kv)) →
      forSVS f (l.map fun kv => (kv.1, g1 kv)) = .ok (l.map fun kv => (kv.1, g2 kv))
  | [], _ => rfl
  | (k, v) :: rest, h => by
    rw [List.map_cons, forSVS_cons, h (k, v) (List.mem_cons_self ..),
      forSVS_map_pointwise rest (fun kv hkv => h kv (List.mem_cons_of_mem _ hkv))]
    rfl

theorem forSVS_pointwise {α γ} {f : String → α → Out γ} {g2 : String × α → γ} (l : List (String × α))
    (h : ∀ kv, kv ∈ l → f kv.1 kv.2 = .ok (g2 kv)) : forSVS f l = .ok (l.map fun kv => (kv.1, g2 kv)) := by
  simpa using forSVS_map_pointwise (f := f) (g1 := fun kv => kv.2) (g2 := g2) l h

theorem forSVS_eq_map {α β} [Inhabited β] (f : String → α → Out β) : ∀ (l : List (String × α)),
    (∀ kv, kv ∈ l → ∃ r, f kv.1 kv.2 = .ok r) →
      forSVS f l = .ok (l.map fun kv => (kv.1, okGet (f kv.1 kv.2))) :=
  fun l h => forSVS_pointwise l fun kv hkv => by obtain ⟨r, hr⟩ := h kv hkv; rw [hr]; rfl

theorem forSVS_asVal (wl : List (String × V)) :
    forSVS (fun _ e => asVal e) (wl.map fun kw => (kw.1, SV.val kw.2)) = .ok wl := by
  simpa using forSVS_map_pointwise (f := fun _ e => asVal e) (g1 := fun kw => SV.val kw.2) (g2 := fun kw => kw.2)
    wl (fun _ _ => rfl)

theorem forSVS_mem {α β} {f : String → α → Out β} : ∀ {l : List (String × α)} {l' : List (String × β)},
    forSVS f l = .ok l' → ∀ kv', kv' ∈ l' → ∃ v, (kv'.1, v) ∈ l ∧ f kv'.1 v = .ok kv'.2
  | [], l', h, kv', hkv' => by cases h; cases hkv'
  | (k, v) :: rest, l', h, kv', hkv' => by
    rw [forSVS_cons] at h
    obtain ⟨y, hy, h⟩ := Out.bind_eq_ok h
    obtain ⟨ys, hys, h⟩ := Out.bind_eq_ok h
    cases h
    rcases List.mem_cons.mp hkv' with rfl | e
    · exact ⟨v, List.mem_cons_self .., hy⟩
    · obtain ⟨v', hv', hf⟩ := forSVS_mem hys kv' e
      exact ⟨v', List.mem_cons_of_mem _ hv', hf⟩

theorem forSVS_lookup {α β} {f : String → α → Out β} : ∀ {l : List (String × α)} {l' : List (String × β)},
    forSVS f l = .ok l' → ∀ k a, lookupS k l = some a → ∃ b, f k a = .ok b ∧ lookupS k l' = some b
  | [], _, _, k, a, hl => by simp [lookupS] at hl
  | (k', v) :: rest, l', h, k, a, hl => by
    rw [forSVS_cons] at h
    obtain ⟨y, hy, h⟩ := Out.bind_eq_ok h
    obtain ⟨ys, hys, h⟩ := Out.bind_eq_ok h
    cases h
    rw [lookupS_cons] at hl ⊢
    by_cases hk : k = k'
    · subst hk
      simp only [if_true, Option.some.injEq] at hl ⊢
      subst hl
      exact ⟨y, hy, rfl⟩
    · simp only [hk, if_false] at hl ⊢
      exact forSVS_lookup hys k a hl

theorem forSVS_append_ok {α β} {f : String → α → Out β} : ∀ {a b : List (String × α)} {a' b' : List (String × β)},
    forSVS f a = .ok a' → forSVS f b = .ok b' → forSVS f (a ++ b) = .ok (a' ++ b')
  | [], _, _, _, ha, hb => by cases ha; exact hb
  | (k, v) :: rest, b, a', b', ha, hb => by
    rw [forSVS_cons] at ha
    obtain ⟨y, hy, ha⟩ := Out.bind_eq_ok ha
    obtain ⟨ys, hys, ha⟩ := Out.bind_eq_ok ha
    cases ha
    rw [List.cons_append, forSVS_cons, hy, forSVS_append_ok hys hb]
    rfl

theorem lookupS_map_val {α β} (g : String × α → β) : ∀ (l : List (String × α)) (k : String),
    lookupS k (l.map fun kv => (kv.1, g kv)) = (lookupS k l).map (fun v => g (k, v))
  | [], _ => rfl
  | (k', v) :: rest, k => by
    simp only [List.map_cons, lookupS_cons]
    by_cases h : k = k'
    · subst h; simp
    · simp only [h, if_false]; exact lookupS_map_val g rest k

theorem keysOf_map_val {α β} (g : String × α → β) (l : List (String × α)) :
    keysOf (l.map fun kv => (kv.1, g kv)) = keysOf l := by
  simp [keysOf, List.map_map, Function.comp_def]

theorem hasKey_map_val {α β} (g : String × α → β) (l : List (String × α)) (k : String) :
    hasKey k (l.map fun kv => (kv.1, g kv)) = hasKey k l :=
  hasKey_eq_of_keys (keysOf_map_val g l) k

theorem mem_props_unique {α} {l : List (String × α)} (hn : (keysOf l).Nodup) {k : String} {a b : α}
    (ha : (k, a) ∈ l) (hb : (k, b) ∈ l) : a = b :=
  Option.some.inj ((lookupS_of_mem_nodup hn ha).symm.trans (lookupS_of_mem_nodup hn hb))

theorem unwrapT_wrapT (ptrT : Bool) (id : String) (fs : List (String × SV)) :
    unwrapT ptrT id (wrapT ptrT id fs) = .ok fs := by
  cases ptrT <;> simp [unwrapT, wrapT]

theorem rawEntries_toStrAny (l : List (String × V)) :
    (SV.val (toStrAny l)).rawEntries? = some (l.map fun (kv : String × V) => (V.str kv.1, kv.2)) := by
  simp [SV.rawEntries?, SV.toV?, toStrAny, V.mapEntries?]

/-! ### presence rules are stable through the struct -/

theorem ruleRelevant_of_self {rules : List (String × PropT)} {ip : String × PropT} (h : ip ∈ rules)
    (hr : hasRules ip.2 = true) : ruleRelevant rules ip.1 = true := by
  unfold ruleRelevant
  exact List.any_eq_true.mpr ⟨ip, h, by simp [hr]⟩

theorem ruleRelevant_of_named {rules : List (String × PropT)} {ip : String × PropT} (h : ip ∈ rules) {k : String}
    (hk : k ∈ ip.2.requiredIf ∨ k ∈ ip.2.requiredIfNot ∨ k ∈ ip.2.conflicts) : ruleRelevant rules k = true := by
  unfold ruleRelevant
  refine List.any_eq_true.mpr ⟨ip, h, ?_⟩
  rcases hk with hk | hk | hk <;> simp [hk]

/-- two set-ness functions that agree on every key that matters to a rule, the second one at least
    as set on required properties, give the same acceptance -/
theorem interdeps_stable (rules : List (String × PropT)) (f g : String → Bool)
    (hrel : ∀ k, ruleRelevant rules k = true → f k = g k)
    (hreq : ∀ ip, ip ∈ rules → ip.2.required = true → f ip.1 = true → g ip.1 = true)
    (h : interdeps rules f = .ok ()) : interdeps rules g = .ok () := by
  rw [C03_rules_iff] at h ⊢
  intro ip hip
  have hf := h ip hip
  by_cases hr : hasRules ip.2 = true
  · -- every key the rule looks at is relevant
    have h1 : f ip.1 = g ip.1 := hrel _ (ruleRelevant_of_self hip hr)
    unfold RuleHolds at hf ⊢
    rw [← h1]
    split
    · rename_i hs
      simp only [hs, if_true] at hf
      intro c hc
      rw [← hrel c (ruleRelevant_of_named hip (Or.inr (Or.inr hc)))]
      exact hf c hc
    · rename_i hs
      simp only [hs] at hf
      refine ⟨hf.1, fun r hr => ?_, fun hne => ?_⟩
      · rw [← hrel r (ruleRelevant_of_named hip (Or.inl hr))]; exact hf.2.1 r hr
      · obtain ⟨r, hr1, hr2⟩ := hf.2.2 hne
        exact ⟨r, hr1, by rw [← hrel r (ruleRelevant_of_named hip (Or.inr (Or.inl hr1)))]; exact hr2⟩
  · have hnr : ip.2.requiredIf = [] ∧ ip.2.requiredIfNot = [] ∧ ip.2.conflicts = [] := by
      simp only [hasRules, Bool.or_eq_true, Bool.not_eq_true', not_or, Bool.not_eq_false, List.isEmpty_iff] at hr
      exact ⟨hr.1.1, hr.1.2, hr.2⟩
    unfold RuleHolds at hf ⊢
    rw [hnr.1, hnr.2.1, hnr.2.2] at hf ⊢
    split
    · intro c hc; cases hc
    · rename_i hs
      refine ⟨?_, fun r hr => (by cases hr), fun hne => absurd rfl hne⟩
      cases hreqd : ip.2.required with
      | false => rfl
      | true =>
        exfalso
        by_cases hfs : f ip.1 = true
        · exact hs (hreq ip hip hreqd hfs)
        · simp only [hfs, Bool.false_eq_true, if_false] at hf
          rw [hreqd] at hf
          exact absurd hf.1 (by simp)

/-! ### zero values, defaults, and what is read back from one field -/

theorem zeroFine_run (x : Ext) (n : Nat) {t : Ty} {z : V} (h : zeroFine t z = true) :
    run x (n + 1) .V [] t z = done ∧ run x (n + 1) .S [] t z = .ok z ∧ run x (n + 1) .U [] t z = .ok z := by
  unfold zeroFine at h
  split at h
  · have hc := isOk_unit h
    simp [run, runInt, asInt, V.under, wrapInt64, intInputMapper, inInt64, minInt64, maxInt64, rewrapC, hc, Out.bind, done]
  · have hc := isOk_unit h
    simp [run, runFloat, asFloat, V.under, floatInputMapper, rewrapC, hc, Out.bind, done]
  · rename_i min max
    have hc := isOk_unit h
    have hs : checkStr x min max none "" = .ok () := by
      simp only [checkStr]
      have : ("" : String).utf8ByteSize = 0 := by decide
      rw [this, hc]
    simp [run, runStr, asString, V.under, stringInputMapper, rewrapC, hs, Out.bind, done]
  · simp [run, runBool, asBool, V.under, boolInputMapper, Out.bind, done]
  · have h' : (0 : Int) ∈ _ := List.contains_iff_mem.mp h
    simp [run, runEnumInt, asInt, V.under, wrapInt64, intInputMapper, inInt64, minInt64, maxInt64, rewrapC, h', Out.bind, done]
  · have h' : "" ∈ _ := List.contains_iff_mem.mp h
    simp [run, runEnumStr, asString, V.under, stringInputMapper, rewrapC, h', Out.bind, done]
  · cases h

theorem zeroFine_srun (x : Ext) (n : Nat) {t : Ty} {z : V} (h : zeroFine t z = true) :
    srun x (n + 2) .V (.leaf t) (.val z) = .ok (.val unitV) ∧
    srun x (n + 2) .S (.leaf t) (.val z) = .ok (.val z) ∧
    srun x (n + 2) .U (.leaf t) (.val z) = .ok (.val z) := by
  obtain ⟨h1, h2, h3⟩ := zeroFine_run x n h
  simp only [done] at h1
  simp [srun, runLeaf, SV.toV?, SOp.toOp, h1, h2, h3]

/-- a property that is absent after the defaults were applied had nothing to add -/
theorem applyDefaultsS_absent (st : StructTy) (fuel : Nat) : ∀ (ps : List (String × SProp)) (m m0 : List (String × V)),
    applyDefaultsS st fuel ps m = .ok m0 → ∀ kp, kp ∈ ps → hasKey kp.1 m0 = false → dflStep (fieldSkips st kp.1) fuel kp.2 = .ok none
  | _, _, _, h => let ⟨_, _, _, _, habs⟩ := applyDefaultsS_ok st fuel h; habs

theorem applyDefaultsS_noadd (st : StructTy) (fuel : Nat) : ∀ (ps : List (String × SProp)) (m : List (String × V)),
    (∀ kp, kp ∈ ps → hasKey kp.1 m = true ∨ dflStep (fieldSkips st kp.1) fuel kp.2 = .ok none) → applyDefaultsS st fuel ps m = .ok m
  | [], m, _ => rfl
  | (k', p) :: rest, m, h => by
    rw [applyDefaultsS_cons]
    have ih := applyDefaultsS_noadd st fuel rest m (fun kp hkp => h kp (List.mem_cons_of_mem _ hkp))
    split
    · exact ih
    · rename_i hk
      rcases h (k', p) (List.mem_cons_self ..) with h1 | h1
      · exact absurd h1 hk
      · simp only [] at h1
        simp only [h1, Out.bind]
        exact ih

theorem subDefTy_some (n : Nat) (t : Ty) (d : V) : OnOk (·.isSome = true) (subDefTy n t (some d)) := by
  unfold subDefTy
  (repeat' split) <;> simp [apply_ite Option.isSome]

theorem subDefS_some (n : Nat) (t : STy) (d : V) : OnOk (·.isSome = true) (subDefS n t (some d)) := by
  unfold subDefS
  (repeat' split) <;> simp [subDefTy_some _ _ d, apply_ite Option.isSome]

theorem dflStep_none_default {skip : Bool} {fuel : Nat} {p : SProp} (h : dflStep skip fuel p = .ok none) : p.rules.default = none := by
  unfold dflStep at h
  cases hd : p.rules.default with
  | none => rfl
  | some d =>
    exfalso
    have hdv : ∃ o, p.rules.defaultV = some o := by
      unfold PropT.defaultV; rw [hd]
      simp only []
      split
      · exact ⟨_, rfl⟩
      · split <;> exact ⟨_, rfl⟩
    obtain ⟨o, ho⟩ := hdv
    rw [ho] at h
    cases o with
    | none => simp at h
    | some v =>
      simp only [] at h
      split at h
      · cases h
      · cases subDefS_some _ _ _ _ h

theorem dflStep_plainLeaf {skip : Bool} {n : Nat} {p : SProp} (hl : plainLeaf p.ty = true) (hd : p.rules.default = none) :
    dflStep skip (n + 1) p = .ok none := by
  unfold dflStep
  have : p.rules.defaultV = none := by unfold PropT.defaultV; rw [hd]
  rw [this]
  simp only []
  split
  · rfl
  rename_i hsk
  cases hp : p.ty with
  | leaf t =>
    rw [hp] at hl
    cases t <;> simp [plainLeaf] at hl <;> simp [subDefS, subDefTy]
  | list => rw [hp] at hl; simp [plainLeaf] at hl
  | map => rw [hp] at hl; simp [plainLeaf] at hl
  | scope => rw [hp] at hl; simp [plainLeaf] at hl
  | obj => rw [hp] at hl; simp [plainLeaf] at hl
  | oneOf => rw [hp] at hl; simp [plainLeaf] at hl

/-- what `rt_obj_ext` uses of the converted map: its keys are distinct, every entry is the
    conversion of a declared property that is not disabled, and a property it lacks had no default -/
theorem sobjRaw_facts {rec : SRec} {fuel : Nat} {st : StructTy} {props : List (String × SProp)} {v : SV} {m : List (String × SV)}
    (h : sobjRaw rec fuel st props v = .ok m) :
    (keysOf m).Nodup ∧
    (∀ kv, kv ∈ m → ∃ p v0, lookupS kv.1 props = some p ∧ p.disabled = false ∧ rec .U p.ty v0 = .ok kv.2) ∧
    (∀ kp, kp ∈ props → hasKey kp.1 m = false → dflStep (fieldSkips st kp.1) fuel kp.2 = .ok none) := by
  rcases sobjRaw_ok h with ⟨name, p, r, rfl, _, hdis, hr, rfl⟩ | ⟨kvs, skvs, m0, _, _, hnd, _, hm0, h⟩
  · refine ⟨List.nodup_cons.mpr ⟨List.not_mem_nil, List.nodup_nil⟩, fun kv hkv => ?_, fun kp hkp hno => ?_⟩
    · cases List.mem_singleton.mp hkv
      exact ⟨p, v, by simp [lookupS], hdis, rewrapP_eq_ok.mp hr⟩
    · cases List.mem_singleton.mp hkp
      simp [hasKey, lookupS] at hno
  · obtain ⟨_, _, hn0, _, habs⟩ := applyDefaultsS_ok st fuel hm0
    have hkeys : keysOf m = keysOf m0 := forSVS_keys h
    refine ⟨hkeys ▸ hn0 hnd, fun kv hkv => ?_, fun kp hkp hno => habs kp hkp (hasKey_eq_of_keys hkeys _ ▸ hno)⟩
    obtain ⟨d, _, hf⟩ := forSVS_mem h kv hkv
    unfold entryUS at hf
    split at hf
    · cases hf
    · rename_i p hp
      split at hf
      · cases hf
      · rename_i hdis
        exact ⟨p, .val d, hp, by simpa using hdis, addSeg_eq_ok.mp hf⟩

theorem rtPropB_spec {st : StructTy} {props : List (String × SProp)} {kp : String × SProp}
    (h : rtPropB st props kp = true) :
    ∃ f, fieldFor st kp.1 = some f ∧
      (kp.2.emptyIsDefault = true → plainLeaf kp.2.ty = true ∧ kp.2.rules.default = none ∧ kp.2.rules.required = false) ∧
      (ruleRelevant (rulesOf props) kp.1 = true → ptrLike f = true ∧ kp.2.emptyIsDefault = false) ∧
      (ptrLike f = false → kp.2.emptyIsDefault = false → kp.2.disabled = false → kp.2.rules.required = false →
        kp.2.rules.default = none → ∃ t z, kp.2.ty = .leaf t ∧ f.zero = .val z ∧ zeroFine t z = true) := by
  unfold rtPropB at h
  split at h
  · cases h
  · rename_i f hf
    simp only [Bool.and_eq_true, Bool.or_eq_true, Bool.not_eq_true', Option.isNone_iff_eq_none] at h
    obtain ⟨⟨h1, h2⟩, h3⟩ := h
    refine ⟨f, hf, ?_, ?_, ?_⟩
    · intro he
      rcases h1 with h1 | h1
      · rw [he] at h1; cases h1
      · exact ⟨h1.1.1, h1.1.2, h1.2⟩
    · intro hr
      rcases h2 with h2 | h2
      · rw [hr] at h2; cases h2
      · exact h2
    · intro hp he hdis hreq hd
      rcases h3 with ((((h3 | h3) | h3) | h3) | h3) | h3
      · rw [hp] at h3; cases h3
      · rw [he] at h3; cases h3
      · rw [hdis] at h3; cases h3
      · rw [hreq] at h3; cases h3
      · rw [hd] at h3; cases h3
      · split at h3
        · rename_i t z hty hz
          exact ⟨t, z, hty, hz, h3⟩
        · cases h3

theorem expectedBack_mem {st : StructTy} {props : List (String × SProp)} {m : List (String × SV)} {kv : String × SV}
    (h : kv ∈ expectedBack st props m) :
    ∃ p f, (kv.1, p) ∈ props ∧ fieldFor st kv.1 = some f ∧ readBack f p (lookupS kv.1 m) = some kv.2 := by
  unfold expectedBack at h
  obtain ⟨kp, hkp, hg⟩ := List.mem_filterMap.mp h
  cases hf : fieldFor st kp.1 with
  | none => simp [hf] at hg
  | some f =>
    simp only [hf] at hg
    cases hr : readBack f kp.2 (lookupS kp.1 m) with
    | none => simp [hr] at hg
    | some y =>
      simp only [hr, Option.map_some, Option.some.injEq] at hg
      subst hg
      exact ⟨kp.2, f, hkp, hf, hr⟩

theorem readBack_some {f : Field} {p : SProp} {v y : SV} (h : readBack f p (some v) = some y) :
    y = v ∧ ((p.disabled || p.emptyIsDefault) && reflTy p.ty != .iface && v.isZero) = false := by
  unfold readBack at h
  simp only [] at h
  split at h
  · cases h
  · rename_i hc
    simp only [Option.some.injEq] at h
    exact ⟨h.symm, by simpa using hc⟩

theorem readBack_none_some {f : Field} {p : SProp} {y : SV} (h : readBack f p none = some y) :
    y = f.zero ∧ ptrLike f = false ∧ p.emptyIsDefault = false ∧ p.disabled = false := by
  unfold readBack at h
  simp only [] at h
  split at h
  · cases h
  · rename_i hc
    simp only [Option.some.injEq] at h
    simp only [Bool.or_eq_true, not_or, Bool.not_eq_true] at hc
    refine ⟨h.symm, ?_, hc.2, hc.1.2⟩
    simp [ptrLike, hc.1.1.1, hc.1.1.2]

theorem readBack_some_none {f : Field} {p : SProp} {v : SV} (h : readBack f p (some v) = none) :
    p.emptyIsDefault = true ∨ p.disabled = true := by
  unfold readBack at h
  simp only [] at h
  split at h
  · rename_i hc
    simp only [Bool.and_eq_true, Bool.or_eq_true] at hc
    rcases hc.1.1 with h1 | h1
    · exact Or.inr h1
    · exact Or.inl h1
  · cases h

theorem readBack_none_none {f : Field} {p : SProp} (h : readBack f p none = none) :
    ptrLike f = true ∨ p.emptyIsDefault = true ∨ p.disabled = true := by
  unfold readBack at h
  simp only [] at h
  split at h
  · rename_i hc
    simp only [Bool.or_eq_true] at hc
    rcases hc with ((hc | hc) | hc) | hc
    · exact Or.inl (by simp [ptrLike, hc])
    · exact Or.inl (by simp [ptrLike, hc])
    · exact Or.inr (Or.inr hc)
    · exact Or.inr (Or.inl hc)
  · cases h

theorem ptrLike_readBack_none {f : Field} {p : SProp} (h : ptrLike f = true) : readBack f p none = none := by
  simp only [ptrLike] at h
  simp [readBack, h]

theorem readBack_some_of_not_eid {f : Field} {p : SProp} (h : p.emptyIsDefault = false) (hd : p.disabled = false)
    (v : SV) : readBack f p (some v) = some v := by
  simp [readBack, h, hd]

theorem readBack_none_of_none {f : Field} {p : SProp} {o : Option SV} (h : readBack f p o = none) :
    readBack f p none = none := by
  cases o with
  | none => exact h
  | some v => rcases readBack_some_none h with h | h <;> simp [readBack, h]

end SM
end Arca
