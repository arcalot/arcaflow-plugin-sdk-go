import ArcaModel.Lemmas.AtpServer
/-
  Progress of the ATP server model under the repaired rules (`Cfg.Good`): a measure that every
  action other than new client input decreases (`C07_measure`), and absence of stuck states once
  the input has ended (`C07_no_stuck`).
-/
namespace Arca.AtpServer

variable {c : Cfg} {s s' : State} {a : Act}

def loopRank : LoopPc → Nat
  | .start => 6
  | .idle => 5
  | .sending _ false => 8
  | .sending _ true => 4
  | .ending => 1
  | .ended => 0

def pcRank : GPc → Nat
  | .spawned => 5
  | .entered => 4
  | .failing => 3
  | .writing => 1
  | _ => 0

def gRank (x : G) : Nat := pcRank x.pc

def hRank : HPc → Nat
  | .idle => 1
  | .holding _ => 2
  | .done => 0

def flag (b : Bool) : Nat := if b then 0 else 1

/-- bounds the number of actions the server (and the running handlers) can still perform without
    new client input -/
def mu (s : State) : Nat :=
  12 * s.input.length + loopRank s.loop + sumW gRank s.gs + 2 * s.queue.length + hRank s.h +
    flag s.closed + flag s.returned + flag s.stopped

theorem mu_setPc {g : Nat} {x : G} (pc : GPc) (hx : s.gs[g]? = some x) :
    mu (setPc s g x pc) + pcRank x.pc = mu s + pcRank pc := by
  have := sumW_set gRank s.gs g x { x with pc := pc } hx
  simp only [mu, setPc, gRank] at this ⊢; omega

theorem mu_setPc_lt {g : Nat} {x : G} {pc : GPc} (hx : s.gs[g]? = some x) (h : pcRank pc < pcRank x.pc) :
    mu (setPc s g x pc) < mu s := by
  have := mu_setPc pc hx; omega

theorem mu_decreases (ha : a.isEnvInput = false) (h : Step c s a s') : mu s' < mu s := by
  cases h with
  | offer | closeInput | breakOutput | cancel | observe => cases ha
  | hello hin hl | report _ hin hl | clientDone hin hl =>
    simp only [mu, hin, hl, loopRank, List.length_cons]; omega
  | readFail hin hl =>
    rcases hl with hl | hl <;> simp only [mu, hin, hl, loopRank, List.length_cons] <;> omega
  | accept _ _ _ hin hl =>
    simp only [mu, spawn, hin, hl, loopRank, List.length_cons, sumW_append, sumW, gRank, pcRank]; omega
  | eof hl => rcases hl with hl | hl <;> simp only [mu, hl, loopRank] <;> omega
  | @loopSend _ stop hl =>
    cases stop <;> simp [mu, hl, loopRank] <;> omega
  | loopEnd hl => simp only [mu, hl, loopRank]; omega
  -- a goroutine moves on; `mu` does not look at `wg` and `written`
  | gStart p hx _ hp => exact mu_setPc_lt hx (by rw [hp]; cases p <;> decide)
  | exit b hx _ hp => exact mu_setPc_lt hx (by rw [hp]; cases b <;> decide)
  | sigFail _ hx _ hp => exact mu_setPc_lt hx (by rw [hp]; decide)
  | @lost g x hx _ hp =>
    show mu (setPc s g x .doneLost) < mu s
    exact mu_setPc_lt hx (by rw [hp]; decide)
  | @write g x hx _ hp | @sigOk g x hx _ hp =>
    show mu (setPc s g x .doneOk) < mu s
    exact mu_setPc_lt hx (by rw [hp]; decide)
  | gSend hx hp =>
    have := mu_setPc .doneErr hx
    simp only [mu, setPc, hp, pcRank, List.length_append, List.length_singleton] at this ⊢; omega
  | recv hh hq => simp only [mu, hh, hq, hRank, List.length_cons]; omega
  | recvClosed hh | emitDrop hh | emit hh => simp only [mu, hh, hRank]; omega
  | emitLost hh hs | emitFatal hh hs => simp [mu, hh, hs, hRank, flag]; omega
  | hCancel _ _ h | close _ h | ret _ _ h => simp [mu, h, flag]

/-- Once the input has ended, a state that has not returned always has an enabled action of the
    server or of a running handler: nobody is blocked forever. -/
theorem no_stuck (hg : c.Good) {s : State} (I : Inv s) (hin : s.inputClosed = true)
    (hr : s.returned = false) : ∃ a : Act, a.isEnvInput = false ∧ (step? c s a).isSome = true := by
  have hcr := I.a.crashed
  cases hh : s.h with
  | holding er =>
    refine ⟨.hEmit, rfl, ?_⟩
    simp only [step?, hcr, hEmit, hh, Bool.false_eq_true, if_false]
    by_cases hs : s.stopped = true
    · rw [if_pos hs]; rfl
    · rw [if_neg hs]
      by_cases hf : s.outBroken = true ∨ er.serverFatal = true
      · rw [if_pos hf, hg.drain]; rfl
      · rw [if_neg hf]; rfl
  | done =>
    obtain ⟨hcl, hq⟩ := I.s.hDone hh
    have hw := I.a.closed hcl
    refine ⟨.ret, rfl, ?_⟩
    simp [step?, hcr, doRet, hh, hw, hr]
  | idle =>
    cases hq : s.queue with
    | cons er rest =>
      refine ⟨.hRecv, rfl, ?_⟩
      simp [step?, hcr, hRecv, hh, hq]
    | nil =>
      cases hcl : s.closed with
      | true =>
        refine ⟨.hRecv, rfl, ?_⟩
        simp [step?, hcr, hRecv, hh, hq, hcl]
      | false =>
        by_cases hw : s.wg = 0
        · refine ⟨.close, rfl, ?_⟩
          simp [step?, hcr, closeChan, hg.close, hw, hcl]
        · -- somebody is live: the read loop or a goroutine
          have hcap : s.queue.length < c.cap := by have := hg.cap; simp [hq]; omega
          cases hl : s.loop with
          | start | idle =>
            cases hi : s.input with
            | nil => exact ⟨.loopReadErr, rfl, by simp [step?, hcr, loopReadErr, hi, hin, hl]⟩
            | cons it rest =>
              refine ⟨.loopRead, rfl, ?_⟩
              -- only the hello message, at `start`, looks at the output
              cases it <;> simp [step?, hcr, loopRead, hi, hl] <;>
                (by_cases hb : s.outBroken = true <;> simp [hb])
          | sending er st =>
            refine ⟨.loopSend, rfl, ?_⟩
            simp [step?, hcr, loopSend, hl, chanSend, hcl, hcap]
          | ending =>
            refine ⟨.loopEnd, rfl, ?_⟩
            simp [step?, hcr, loopEnd, hl]
          | ended =>
            have hlive : live s.gs ≠ 0 := by
              have := I.a.wg; simp [hl, loopLive] at this; omega
            obtain ⟨g, x, hx, hwx⟩ : ∃ (g : Nat) (x : G), s.gs[g]? = some x ∧ liveW x ≠ 0 := by
              simpa [live, sumW_eq_zero_iff] using hlive
            have hnd : x.pc.done = false := by
              simp [liveW] at hwx; simpa using hwx
            -- a signal goroutine is never inside a step handler or writing a work-done
            have hstep (h : x.pc = .entered ∨ x.pc = .writing) : x.kind = .step := by
              cases hk : x.kind with
              | step => rfl
              | signal => have := I.s.sigPc g x hx hk; rcases h with h | h <;> simp [h] at this
            cases hpc : x.pc with
            | spawned =>
              cases hk : x.kind with
              | step => exact ⟨.gStart g .reject, rfl, by simp [step?, hcr, gStart, hx, hk, hpc]⟩
              | signal => exact ⟨.sigRun g .ok, rfl, by simp [step?, hcr, sigRun, hx, hk, hpc]⟩
            | entered =>
              exact ⟨.exit g .ok, rfl, by simp [step?, hcr, gExit, hx, hstep (.inl hpc), hpc]⟩
            | writing =>
              refine ⟨.gWrite g, rfl, ?_⟩
              simp [step?, hcr, gWrite, hx, hstep (.inr hpc), hpc]
              by_cases hb : s.outBroken = true <;> simp [hb]
            | failing =>
              exact ⟨.gSend g, rfl, by simp [step?, hcr, gSend, hx, hpc, chanSend, hcl, hcap]⟩
            | doneOk | doneLost | doneErr => simp [hpc, GPc.done] at hnd

end Arca.AtpServer
