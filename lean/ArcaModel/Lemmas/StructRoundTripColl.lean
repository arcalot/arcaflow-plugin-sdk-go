import ArcaModel.Lemmas.StructRoundTripObj
/-
  The end-to-end round trip of slices and maps whose elements are struct-mapped objects.
-/
namespace Arca
namespace SM

theorem forIdxS_length {f : Nat → SV → Out SV} : ∀ {i : Nat} {xs ys : List SV},
    forIdxS f i xs = .ok ys → ys.length = xs.length
  | _, [], _, h => by cases h; rfl
  | _, x :: xs, _, h => by
    rw [forIdxS_cons] at h
    obtain ⟨_, _, h⟩ := Out.bind_eq_ok h
    obtain ⟨_, hys, h⟩ := Out.bind_eq_ok h
    cases h
    simp [forIdxS_length hys]

theorem allVals_map_val : ∀ (wl : List V), allVals (wl.map SV.val) = .ok wl
  | [] => rfl
  | w :: rest => by simp [allVals, asVal, allVals_map_val rest, Out.bind]

theorem elems_val_list (wl : List V) : (SV.val (V.list wl)).elems? = some (wl.map SV.val) := by
  simp [SV.elems?, V.sliceElems?]

theorem list_chain {rec : SRec} {item : STy} (h : RTAt rec item) : ∀ (i : Nat) (xs ys : List SV),
    forIdxS (fun j e => (rec .U item e).addSeg (idxSeg j)) i xs = .ok ys →
    ∃ (wl : List V) (ys' : List SV),
      (∃ us, forIdxS (fun j e => (rec .V item e).addSeg (idxSeg j)) i ys = .ok us) ∧
      forIdxS (fun j e => (rec .S item e).addSeg (idxSeg j)) i ys = .ok (wl.map SV.val) ∧
      forIdxS (fun j e => (rec .U item e).addSeg (idxSeg j)) i (wl.map SV.val) = .ok ys' ∧
      EqvList item ys ys' ∧
      forIdxS (fun j e => (rec .S item e).addSeg (idxSeg j)) i ys' = .ok (wl.map SV.val) ∧
      ∃ us, forIdxS (fun j e => (rec .V item e).addSeg (idxSeg j)) i ys' = .ok us
  | _, [], _, h0 => by cases h0; exact ⟨[], [], ⟨_, rfl⟩, rfl, rfl, .nil, rfl, _, rfl⟩
  | i, x :: xs, _, h0 => by
    rw [forIdxS_cons] at h0
    obtain ⟨y, hy, h0⟩ := Out.bind_eq_ok h0
    obtain ⟨ys, hys, h0⟩ := Out.bind_eq_ok h0
    cases h0
    obtain ⟨wl, ys', ⟨us, h1⟩, h2, h3, h4, h5, us', h6⟩ := list_chain h (i + 1) xs ys hys
    obtain ⟨hV, w, s', hS, hU2, hE, hS2, hV2, _⟩ := h _ _ (addSeg_eq_ok.mp hy)
    refine ⟨w :: wl, s' :: ys', ⟨.val unitV :: us, ?_⟩, ?_, ?_, .cons hE h4, ?_, .val unitV :: us', ?_⟩
    · simp only [forIdxS_cons, hV, h1, addSeg_ok, Out.bind]
    · simp only [List.map_cons, forIdxS_cons, hS, h2, addSeg_ok, Out.bind]
    · simp only [List.map_cons, forIdxS_cons, hU2, h3, addSeg_ok, Out.bind]
    · simp only [List.map_cons, forIdxS_cons, hS2, h5, addSeg_ok, Out.bind]
    · simp only [forIdxS_cons, hV2, h6, addSeg_ok, Out.bind]

/-- the end-to-end round trip of a slice of struct-mapped objects -/
theorem rt_list {rec : SRec} {item : STy} (min max : Option Int) (h : RTAt rec item) (v s : SV)
    (hU : runListS rec .U item min max v = .ok s) :
    runListS rec .V item min max s = .ok (.val unitV) ∧
    ∃ w s', runListS rec .S item min max s = .ok (.val w) ∧ runListS rec .U item min max (.val w) = .ok s' ∧
      Eqv (.list item min max) s s' ∧ runListS rec .S item min max s' = .ok (.val w) ∧
      runListS rec .V item min max s' = .ok (.val unitV) := by
  obtain ⟨xs, ys, _, hlen, hys, rfl⟩ := runListS_U_ok_iff.mp hU
  obtain ⟨wl, ys', ⟨us, h1⟩, h2, h3, h4, h5, us', h6⟩ := list_chain h 0 xs ys hys
  have hl1 := forIdxS_length hys
  have hl2 := forIdxS_length h2
  have hl3 := forIdxS_length h3
  rw [← hl1] at hlen
  refine ⟨?_, V.list wl, .slice ys', ?_,
    runListS_U_ok_iff.mpr ⟨_, _, elems_val_list wl, by rw [hl2]; exact hlen, h3, rfl⟩, .list h4, ?_, ?_⟩
  · simp only [runListS, SV.elems?, hlen, h1, Out.bind]
  · simp only [runListS, SV.elems?, hlen, h1, h2, allVals_map_val, Out.bind]
  · simp only [runListS, SV.elems?, hl3, hl2, hlen, h6, h5, allVals_map_val, Out.bind]
  · simp only [runListS, SV.elems?, hl3, hl2, hlen, h6, Out.bind]

theorem forKVS_length {f : V → SV → Out (V × SV)} : ∀ {kvs kvs' : List (V × SV)},
    forKVS f kvs = .ok kvs' → kvs'.length = kvs.length
  | [], _, h => by cases h; rfl
  | (k, e) :: rest, _, h => by
    rw [forKVS_cons] at h
    obtain ⟨_, _, h⟩ := Out.bind_eq_ok h
    obtain ⟨_, hr, h⟩ := Out.bind_eq_ok h
    cases h
    simp [forKVS_length hr]

theorem entryKVS_ok_iff {rec : SRec} {x : Ext} {fuel : Nat} {op : SOp} {kt : Ty} {vt : STy} {k : V} {e : SV} {r : V × SV} :
    entryKVS rec x fuel op kt vt k e = .ok r ↔ run x fuel op.toOp [] kt k = .ok r.1 ∧ rec op vt e = .ok r.2 := by
  unfold entryKVS
  constructor
  · intro h
    obtain ⟨k', hk, h⟩ := Out.bind_eq_ok h
    obtain ⟨e', he, h⟩ := Out.bind_eq_ok h
    cases h
    exact ⟨addSeg_eq_ok.mp hk, addSeg_eq_ok.mp he⟩
  · intro ⟨hk, he⟩
    rw [hk, he]
    rfl

theorem allValKVs_map_val : ∀ (es : List (V × V)), allValKVs (es.map fun kw => (kw.1, SV.val kw.2)) = .ok es
  | [] => rfl
  | (k, w) :: rest => by simp [allValKVs, asVal, allValKVs_map_val rest, Out.bind]

theorem entries_val_map (es : List (V × V)) :
    (SV.val (V.map .anyAny es)).entries? = some (es.map fun kw => (kw.1, SV.val kw.2)) := by
  simp [SV.entries?, V.mapEntries?]

theorem dupKeyS_congr {t : STy} {a b : List (V × SV)} (h : EqvKVs t a b) : dupKeyS a = dupKeyS b := by
  have : a.map (fun kv => (kv.1, V.nil)) = b.map (fun kv => (kv.1, V.nil)) := by
    induction a generalizing b with
    | nil => cases h; rfl
    | cons p r ih => cases h with | cons _ hr => simp [ih hr]
  simp only [dupKeyS, this]

/-- the chain over the entries of a map: keys by C01's leaf round trip, values by `RTAt` -/
theorem map_chain {rec : SRec} {x : Ext} {fuel : Nat} {kt : Ty} {vt : STy} (hk : WF1 [] kt) (h : RTAt rec vt) :
    ∀ (kvs kvs1 : List (V × SV)), forKVS (entryKVS rec x fuel .U kt vt) kvs = .ok kvs1 →
    ∃ (es : List (V × V)) (kvs2 : List (V × SV)),
      (∃ us, forKVS (entryKVS rec x fuel .V kt vt) kvs1 = .ok us) ∧
      forKVS (entryKVS rec x fuel .S kt vt) kvs1 = .ok (es.map fun kw => (kw.1, SV.val kw.2)) ∧
      forKVS (entryKVS rec x fuel .U kt vt) (es.map fun kw => (kw.1, SV.val kw.2)) = .ok kvs2 ∧
      EqvKVs vt kvs1 kvs2 ∧
      forKVS (entryKVS rec x fuel .S kt vt) kvs2 = .ok (es.map fun kw => (kw.1, SV.val kw.2)) ∧
      ∃ us, forKVS (entryKVS rec x fuel .V kt vt) kvs2 = .ok us
  | [], _, h0 => by cases h0; exact ⟨[], [], ⟨_, rfl⟩, rfl, rfl, .nil, rfl, _, rfl⟩
  | (k, e) :: rest, _, h0 => by
    rw [forKVS_cons] at h0
    obtain ⟨ke1, hke, h0⟩ := Out.bind_eq_ok h0
    obtain ⟨kvs1, hr, h0⟩ := Out.bind_eq_ok h0
    cases h0
    obtain ⟨es, kvs2, ⟨us, h1⟩, h2, h3, h4, h5, us', h6⟩ := map_chain hk h rest kvs1 hr
    obtain ⟨hku, hvu⟩ := entryKVS_ok_iff.mp hke
    obtain ⟨hkV, kw, hkS, hkU⟩ := C01_roundtrip_closed_partial x fuel kt k ke1.1 hk hku
    obtain ⟨hV, w, s', hS, hU2, hE, hS2, hV2, _⟩ := h _ _ hvu
    obtain ⟨k1, y1⟩ := ke1
    have e1 : entryKVS rec x fuel .V kt vt k1 y1 = .ok (unitV, .val unitV) := entryKVS_ok_iff.mpr ⟨hkV, hV⟩
    have e2 : entryKVS rec x fuel .S kt vt k1 y1 = .ok (kw, .val w) := entryKVS_ok_iff.mpr ⟨hkS, hS⟩
    have e3 : entryKVS rec x fuel .U kt vt kw (.val w) = .ok (k1, s') := entryKVS_ok_iff.mpr ⟨hkU, hU2⟩
    have e5 : entryKVS rec x fuel .S kt vt k1 s' = .ok (kw, .val w) := entryKVS_ok_iff.mpr ⟨hkS, hS2⟩
    have e6 : entryKVS rec x fuel .V kt vt k1 s' = .ok (unitV, .val unitV) := entryKVS_ok_iff.mpr ⟨hkV, hV2⟩
    refine ⟨(kw, w) :: es, (k1, s') :: kvs2, ⟨(unitV, .val unitV) :: us, ?_⟩, ?_, ?_, .cons hE h4, ?_,
      (unitV, .val unitV) :: us', ?_⟩
    · simp only [forKVS_cons, e1, h1, Out.bind]
    · simp only [List.map_cons, forKVS_cons, e2, h2, Out.bind]
    · simp only [List.map_cons, forKVS_cons, e3, h3, Out.bind]
    · simp only [List.map_cons, forKVS_cons, e5, h5, Out.bind]
    · simp only [forKVS_cons, e6, h6, Out.bind]

/-- the end-to-end round trip of a map of struct-mapped objects -/
theorem rt_map {rec : SRec} (x : Ext) (fuel : Nat) {kt : Ty} {vt : STy} (min max : Option Int) (hk : WF1 [] kt)
    (h : RTAt rec vt) (v s : SV) (hU : runMapS rec x fuel .U kt vt min max v = .ok s) :
    runMapS rec x fuel .V kt vt min max s = .ok (.val unitV) ∧
    ∃ w s', runMapS rec x fuel .S kt vt min max s = .ok (.val w) ∧
      runMapS rec x fuel .U kt vt min max (.val w) = .ok s' ∧
      Eqv (.map kt vt min max) s s' ∧ runMapS rec x fuel .S kt vt min max s' = .ok (.val w) ∧
      runMapS rec x fuel .V kt vt min max s' = .ok (.val unitV) := by
  obtain ⟨kvs, kvs1, _, hlen, hys, hdup, rfl⟩ := runMapS_U_ok_iff.mp hU
  obtain ⟨es, kvs2, ⟨us, h1⟩, h2, h3, h4, h5, us', h6⟩ := map_chain hk h kvs kvs1 hys
  have hl1 := forKVS_length hys
  have hl2 := forKVS_length h2
  have hl3 := forKVS_length h3
  rw [← hl1] at hlen
  refine ⟨?_, V.map .anyAny es, .map ⟨kt.keyTy, false⟩ kvs2, ?_,
    runMapS_U_ok_iff.mpr ⟨_, _, entries_val_map es, by rw [hl2]; exact hlen, h3, by rw [← dupKeyS_congr h4]; exact hdup, rfl⟩,
    .map h4, ?_, ?_⟩
  · simp only [runMapS, SV.entries?, hlen, h1, Out.bind]
  · simp only [runMapS, SV.entries?, hlen, h1, h2, allValKVs_map_val, Out.bind]
  · simp only [runMapS, SV.entries?, hl3, hl2, hlen, h6, h5, allValKVs_map_val, Out.bind]
  · simp only [runMapS, SV.entries?, hl3, hl2, hlen, h6, Out.bind]

end SM
end Arca
