import ArcaModel.Lemmas.Termination
import ArcaModel.Lemmas.Traverse
/-
  Inlining references (C14): a simulation argument on the fuelled interpreter `run`.

  `Lim g a` says that the chain of approximations `g 0, g 1, ...` (an operation run with more and
  more fuel) reaches the outcome `a` and keeps it, or that `a` is `fuel` (nothing to show). Every
  schema kind is continuous for `Lim`: if the operations on the sub-schemas of one schema are
  limits of the operations on the sub-schemas of another, so are the operations on the schemas
  themselves - even when the two sides live in different environments.

  `SimView S` is one unfolding of "equal up to inlining" for a candidate relation `S`; if every pair
  of `S` unfolds into pairs of `S`, related schemas have the same results (`sim_lim`, and in both
  directions `sim_reaches`). `Sim k` - references inlined at most `k` levels deep - is such a relation.
-/
namespace Arca

def Lim {α} (g : Nat → Out α) (a : Out α) : Prop := a = .fuel ∨ ∃ m, ∀ k, g (m + k) = a

theorem lim_const {α} (a : Out α) : Lim (fun _ => a) a := Or.inr ⟨0, fun _ => rfl⟩

theorem lim_bind {α β} {g : Nat → Out α} {a : Out α} {f' : Nat → α → Out β} {f : α → Out β}
    (ha : Lim g a) (hf : ∀ x, Lim (fun m => f' m x) (f x)) :
    Lim (fun m => (g m).bind (f' m)) (a.bind f) := by
  rcases ha with h | ⟨m1, h1⟩
  · subst h; exact Or.inl rfl
  · cases a with
    | ok x =>
      rcases hf x with h | ⟨m2, h2⟩
      · exact Or.inl h
      · refine Or.inr ⟨m1 + m2, fun k => ?_⟩
        have e1 : m1 + m2 + k = m1 + (m2 + k) := by omega
        have e2 : m1 + m2 + k = m2 + (m1 + k) := by omega
        show (g (m1 + m2 + k)).bind (f' (m1 + m2 + k)) = f x
        have hg : g (m1 + m2 + k) = .ok x := by rw [e1]; exact h1 _
        rw [hg]
        show f' (m1 + m2 + k) x = f x
        rw [e2]; exact h2 _
    | err e =>
      refine Or.inr ⟨m1, fun k => ?_⟩
      show (g (m1 + k)).bind (f' (m1 + k)) = _
      rw [h1 k]; rfl
    | panic =>
      refine Or.inr ⟨m1, fun k => ?_⟩
      show (g (m1 + k)).bind (f' (m1 + k)) = _
      rw [h1 k]; rfl
    | fuel => exact Or.inl rfl

theorem lim_map {α β} {g : Nat → Out α} {a : Out α} (F : Out α → Out β) (hF : F .fuel = .fuel)
    (ha : Lim g a) : Lim (fun m => F (g m)) (F a) := by
  rcases ha with h | ⟨m1, h1⟩
  · subst h; exact Or.inl hF
  · exact Or.inr ⟨m1, fun k => by show F (g (m1 + k)) = F a; rw [h1 k]⟩

theorem lim_addSeg {α} {g : Nat → Out α} {a : Out α} (s : String) (ha : Lim g a) :
    Lim (fun m => (g m).addSeg s) (a.addSeg s) := lim_map (fun o => o.addSeg s) rfl ha

theorem lim_rewrapC {α} {g : Nat → Out α} {a : Out α} (ha : Lim g a) :
    Lim (fun m => rewrapC (g m)) (rewrapC a) := lim_map rewrapC rfl ha

theorem lim_rewrapP {α} {g : Nat → Out α} {a : Out α} (ha : Lim g a) :
    Lim (fun m => rewrapP (g m)) (rewrapP a) := lim_map rewrapP rfl ha

theorem lim_shift {α} {g g' : Nat → Out α} {a : Out α} (hs : ∀ m, g' (m + 1) = g m) (ha : Lim g a) : Lim g' a := by
  rcases ha with h | ⟨m1, h1⟩
  · exact Or.inl h
  · refine Or.inr ⟨m1 + 1, fun k => ?_⟩
    have : m1 + 1 + k = (m1 + k) + 1 := by omega
    rw [this, hs]; exact h1 k

theorem lim_forIdx {f' : Nat → Nat → V → Out V} {f : Nat → V → Out V}
    (hf : ∀ i x, Lim (fun m => f' m i x) (f i x)) :
    ∀ (n : Nat) (xs : List V), Lim (fun m => forIdx (f' m) n xs) (forIdx f n xs)
  | _, [] => by simp only [forIdx]; exact lim_const _
  | n, x :: xs => by
    simp only [forIdx_cons]
    exact lim_bind (hf n x) (fun _ => lim_bind (lim_forIdx hf (n + 1) xs) (fun _ => lim_const _))

theorem lim_forKV {f' : Nat → V → V → Out (V × V)} {f : V → V → Out (V × V)}
    (hf : ∀ k v, Lim (fun m => f' m k v) (f k v)) :
    ∀ (kvs : List (V × V)), Lim (fun m => forKV (f' m) kvs) (forKV f kvs)
  | [] => by simp only [forKV]; exact lim_const _
  | (k, v) :: rest => by
    simp only [forKV_cons]
    exact lim_bind (hf k v) (fun _ => lim_bind (lim_forKV hf rest) (fun _ => lim_const _))

theorem lim_forSV {f' : Nat → String → V → Out V} {f : String → V → Out V}
    (hf : ∀ k v, Lim (fun m => f' m k v) (f k v)) :
    ∀ (kvs : List (String × V)), Lim (fun m => forSV (f' m) kvs) (forSV f kvs)
  | [] => by simp only [forSV]; exact lim_const _
  | (k, v) :: rest => by
    simp only [forSV_cons]
    exact lim_bind (hf k v) (fun _ => lim_bind (lim_forSV hf rest) (fun _ => lim_const _))

/-- the operations of `(env', t')`, run with growing fuel by `g`, have the operations `rec` performs
    on `(env, t)` as their limits -/
def LimRec (rec : Rec) (g : Nat → Rec) (env : Env) (t : Ty) (env' : Env) (t' : Ty) : Prop :=
  ∀ op v, Lim (fun m => g m op env' t' v) (rec op env t v)

theorem lim_runList {rec : Rec} {g : Nat → Rec} {env env' : Env} {item item' : Ty}
    (h : LimRec rec g env item env' item') (op : Op) (a b : Option Int) (v : V) :
    Lim (fun m => runList (g m) op env' item' a b v) (runList rec op env item a b v) := by
  unfold runList
  split
  · exact lim_const _
  · cases op <;> simp only
    · exact lim_bind (lim_const _) (fun _ => lim_bind (lim_forIdx (fun i e => lim_addSeg _ (h _ _)) _ _) (fun _ => lim_const _))
    · exact lim_bind (lim_const _) (fun _ => lim_bind (lim_forIdx (fun i e => lim_addSeg _ (h _ _)) _ _) (fun _ => lim_const _))
    · exact lim_bind (lim_const _) (fun _ => lim_bind (lim_forIdx (fun i e => lim_addSeg _ (h _ _)) _ _)
        (fun _ => lim_bind (lim_forIdx (fun i e => lim_addSeg _ (h _ _)) _ _) (fun _ => lim_const _)))
    · exact lim_bind (lim_forIdx (fun i e => lim_addSeg _ (h _ _)) _ _) (fun _ => lim_const _)

theorem lim_entryKV {rec : Rec} {g : Nat → Rec} {env env' : Env} {kt kt' vt vt' : Ty}
    (hk : LimRec rec g env kt env' kt') (hv : LimRec rec g env vt env' vt') (op : Op) (k e : V) :
    Lim (fun m => entryKV (g m) op env' kt' vt' k e) (entryKV rec op env kt vt k e) := by
  unfold entryKV
  exact lim_bind (lim_addSeg _ (hk _ _)) (fun _ => lim_bind (lim_addSeg _ (hv _ _)) (fun _ => lim_const _))

theorem lim_runMap {rec : Rec} {g : Nat → Rec} {env env' : Env} {kt kt' vt vt' : Ty}
    (hk : LimRec rec g env kt env' kt') (hv : LimRec rec g env vt env' vt')
    (hkt : kt.keyTy = kt'.keyTy) (hvt : vt.reflectsAny = vt'.reflectsAny)
    (op : Op) (a b : Option Int) (v : V) :
    Lim (fun m => runMap (g m) op env' kt' vt' a b v) (runMap rec op env kt vt a b v) := by
  unfold runMap
  split
  · exact lim_const _
  · refine lim_bind (lim_const _) (fun _ => ?_)
    cases op <;> simp only
    · rw [hkt, hvt]
      exact lim_bind (lim_forKV (lim_entryKV hk hv _) _) (fun _ => lim_const _)
    · exact lim_bind (lim_forKV (lim_entryKV hk hv _) _) (fun _ => lim_const _)
    · exact lim_bind (lim_forKV (lim_entryKV hk hv _) _) (fun _ => lim_bind (lim_forKV (lim_entryKV hk hv _) _) (fun _ => lim_const _))
    · exact lim_bind (lim_forKV (lim_entryKV hk hv _) _) (fun _ => lim_const _)

def KRel {κ α β} (R : α → β → Prop) (a : κ × α) (b : κ × β) : Prop := a.1 = b.1 ∧ R a.2 b.2

theorem lookupS_rel {α β} {R : α → β → Prop} {as : List (String × α)} {bs : List (String × β)}
    (h : Forall2 (KRel R) as bs) (k : String) :
    (lookupS k as = none ∧ lookupS k bs = none) ∨
    ∃ a b, lookupS k as = some a ∧ lookupS k bs = some b ∧ R a b := by
  induction h with
  | nil => exact Or.inl ⟨rfl, rfl⟩
  | @cons a b as bs hab _ ih =>
    obtain ⟨ka, va⟩ := a
    obtain ⟨kb, vb⟩ := b
    obtain ⟨hk, hr⟩ := hab
    simp only at hk hr
    subst hk
    simp only [lookupS]
    by_cases he : (k == ka) = true
    · simp only [he, ↓reduceIte]
      exact Or.inr ⟨va, vb, rfl, rfl, hr⟩
    · simp only [he, Bool.false_eq_true, ↓reduceIte]
      exact ih

theorem lookupK_rel {α β} {R : α → β → Prop} {as : List (Key × α)} {bs : List (Key × β)}
    (h : Forall2 (KRel R) as bs) (k : Key) :
    (lookupK k as = none ∧ lookupK k bs = none) ∨
    ∃ a b, lookupK k as = some a ∧ lookupK k bs = some b ∧ R a b := by
  induction h with
  | nil => exact Or.inl ⟨rfl, rfl⟩
  | @cons a b as bs hab _ ih =>
    obtain ⟨ka, va⟩ := a
    obtain ⟨kb, vb⟩ := b
    obtain ⟨hk, hr⟩ := hab
    simp only at hk hr
    subst hk
    simp only [lookupK]
    by_cases he : (k == ka) = true
    · simp only [he, ↓reduceIte]
      exact Or.inr ⟨va, vb, rfl, rfl, hr⟩
    · simp only [he, Bool.false_eq_true, ↓reduceIte]
      exact ih

def Ty.isStr : Ty → Bool
  | .str _ _ _ => true
  | _ => false

/-- two properties that differ at most in their type, the types being related by `Q` and agreeing
    on being a string schema (which decides how an undecodable default text is treated) -/
def PRel (Q : Ty → Ty → Prop) (p p' : PropT) : Prop :=
  Q p.ty p'.ty ∧ p.ty.isStr = p'.ty.isStr ∧ p.required = p'.required ∧ p.requiredIf = p'.requiredIf ∧
  p.requiredIfNot = p'.requiredIfNot ∧ p.conflicts = p'.conflicts ∧ p.default = p'.default ∧
  p.disabled = p'.disabled

/-- the decoded default depends on the property's type only through `isStr` -/
theorem defaultV_eq (p : PropT) : p.defaultV =
    match p.default with
    | none => none
    | some d =>
      match d.d1 with
      | some v => some (some v)
      | none => if p.ty.isStr then some d.d2 else some none := by
  unfold PropT.defaultV
  cases p.default with
  | none => rfl
  | some d =>
    dsimp only
    cases d.d1 with
    | some v => rfl
    | none => dsimp only; cases p.ty <;> rfl

theorem PRel.defaultV {Q : Ty → Ty → Prop} {p p' : PropT} (h : PRel Q p p') : p.defaultV = p'.defaultV := by
  obtain ⟨_, hs, _, _, _, _, hd, _⟩ := h
  rw [defaultV_eq, defaultV_eq, hd, hs]

theorem PRel.required {Q : Ty → Ty → Prop} {p p' : PropT} (h : PRel Q p p') : p.required = p'.required := h.2.2.1

theorem PRel.disabled {Q : Ty → Ty → Prop} {p p' : PropT} (h : PRel Q p p') : p.disabled = p'.disabled :=
  h.2.2.2.2.2.2.2

abbrev PropsRel (Q : Ty → Ty → Prop) := Forall2 (KRel (κ := String) (PRel Q))

theorem hasKey_rel {α β} {R : α → β → Prop} {as : List (String × α)} {bs : List (String × β)}
    (h : Forall2 (KRel R) as bs) (k : String) : hasKey k as = hasKey k bs := by
  unfold hasKey
  rcases lookupS_rel h k with ⟨h1, h2⟩ | ⟨a, b, h1, h2, _⟩ <;> rw [h1, h2] <;> rfl

theorem applyDefaults_rel {Q : Ty → Ty → Prop} {ps ps' : List (String × PropT)} (h : PropsRel Q ps ps') :
    ∀ (m : List (String × V)), applyDefaults ps m = applyDefaults ps' m := by
  induction h with
  | nil => intro m; rfl
  | @cons a b as bs hab _ ih =>
    intro m
    obtain ⟨ka, pa⟩ := a
    obtain ⟨kb, pb⟩ := b
    obtain ⟨hk, hr⟩ := hab
    simp only at hk hr
    subst hk
    simp only [applyDefaults]
    rw [hr.defaultV]
    split
    · exact ih m
    · split
      · exact ih m
      · rfl
      · exact ih _

theorem interdeps_rel {Q : Ty → Ty → Prop} {ps ps' : List (String × PropT)} (h : PropsRel Q ps ps')
    (isSet : String → Bool) : interdeps ps isSet = interdeps ps' isSet := by
  unfold interdeps
  induction h with
  | nil => rfl
  | @cons a b as bs hab _ ih =>
    obtain ⟨ka, pa⟩ := a
    obtain ⟨kb, pb⟩ := b
    obtain ⟨hk, hr⟩ := hab
    simp only at hk hr
    subst hk
    obtain ⟨_, _, h3, h4, h5, h6, _, _⟩ := hr
    simp only [interdeps.go]
    rw [h3, h4, h5, h6, ih]

theorem requiredMissing_rel {Q : Ty → Ty → Prop} {ps ps' : List (String × PropT)} (h : PropsRel Q ps ps')
    (F : String × PropT → Bool) (hF : ∀ k p p', p.required = p'.required → F (k, p) = F (k, p')) :
    ps.any F = ps'.any F := by
  induction h with
  | nil => rfl
  | @cons a b as bs hab _ ih =>
    obtain ⟨ka, pa⟩ := a
    obtain ⟨kb, pb⟩ := b
    obtain ⟨hk, hr⟩ := hab
    simp only at hk hr
    subst hk
    simp only [List.any_cons, ih, hF ka pa pb hr.required]

theorem lim_objEntryU {rec : Rec} {g : Nat → Rec} {env env' : Env} {ps ps' : List (String × PropT)}
    (h : PropsRel (fun t t' => LimRec rec g env t env' t') ps ps') (k : String) (d : V) :
    Lim (fun m => objEntryU (g m) env' ps' k d) (objEntryU rec env ps k d) := by
  unfold objEntryU
  rcases lookupS_rel h k with ⟨h1, h2⟩ | ⟨a, b, h1, h2, hr⟩
  · simp only [h1, h2]; exact lim_const _
  · simp only [h1, h2, ← hr.disabled]
    split
    · exact lim_const _
    · exact lim_addSeg _ (hr.1 _ _)

theorem lim_objEntry {rec : Rec} {g : Nat → Rec} {env env' : Env} {ps ps' : List (String × PropT)}
    (h : PropsRel (fun t t' => LimRec rec g env t env' t') ps ps') (op : Op) (k : String) (d : V) :
    Lim (fun m => objEntry (g m) op env' ps' k d) (objEntry rec op env ps k d) := by
  unfold objEntry
  rcases lookupS_rel h k with ⟨h1, h2⟩ | ⟨a, b, h1, h2, hr⟩
  · simp only [h1, h2]; exact lim_const _
  · simp only [h1, h2]
    exact lim_addSeg _ (hr.1 _ _)

theorem propsRel_single {Q : Ty → Ty → Prop} {ps ps' : List (String × PropT)} (h : PropsRel Q ps ps') :
    (∃ n p p', ps = [(n, p)] ∧ ps' = [(n, p')] ∧ PRel Q p p') ∨
    ((∀ n p, ps ≠ [(n, p)]) ∧ (∀ n p, ps' ≠ [(n, p)])) := by
  cases h with
  | nil => exact Or.inr ⟨fun _ _ h => (by cases h), fun _ _ h => (by cases h)⟩
  | @cons a b as bs hab hrest =>
    cases hrest with
    | nil =>
      obtain ⟨ka, pa⟩ := a
      obtain ⟨kb, pb⟩ := b
      obtain ⟨hk, hr⟩ := hab
      simp only at hk hr
      subst hk
      exact Or.inl ⟨ka, pa, pb, rfl, rfl, hr⟩
    | cons _ _ =>
      exact Or.inr ⟨fun _ _ h => (by cases h), fun _ _ h => (by cases h)⟩

theorem lim_objRaw {rec : Rec} {g : Nat → Rec} {env env' : Env} {ps ps' : List (String × PropT)}
    (h : PropsRel (fun t t' => LimRec rec g env t env' t') ps ps') (v : V) :
    Lim (fun m => objRaw (g m) env' ps' v) (objRaw rec env ps v) := by
  unfold objRaw
  split
  · -- not a map: the single-property shorthand
    rcases propsRel_single h with ⟨n, p, p', e1, e2, hr⟩ | ⟨n1, n2⟩
    · subst e1; subst e2
      simp only [← hr.disabled]
      split
      · exact lim_const _
      · exact lim_bind (lim_rewrapP (hr.1 _ _)) (fun _ => lim_const _)
    · -- neither table is a singleton, so both sides are `.cerr`; whether the second `match` is still to
      -- be split depends on which of the two `split` met first
      split
      · exfalso; simp_all
      · first
        | exact lim_const _
        | (split
           · exfalso; simp_all
           · exact lim_const _)
  · split
    · exact lim_const _
    · rename_i skvs _
      have : (fun (kv : String × V) => !(hasKey kv.1 ps')) = (fun kv => !(hasKey kv.1 ps)) := by
        funext kv; rw [hasKey_rel h]
      rw [this]
      split
      · exact lim_const _
      · rw [← applyDefaults_rel h]
        exact lim_bind (lim_const _) (fun _ => lim_forSV (lim_objEntryU h) _)

theorem lim_objCompatMap {rec : Rec} {g : Nat → Rec} {env env' : Env} {ps ps' : List (String × PropT)}
    (h : PropsRel (fun t t' => LimRec rec g env t env' t') ps ps') (m : List (String × V)) :
    Lim (fun n => objCompatMap (g n) env' ps' m) (objCompatMap rec env ps m) := by
  unfold objCompatMap
  rw [requiredMissing_rel h _ (fun k p p' hr => by simp only [hr])]
  refine lim_bind (lim_forSV (fun k e => ?_) _) (fun _ => lim_const _)
  rcases lookupS_rel h k with ⟨h1, h2⟩ | ⟨a, b, h1, h2, hr⟩
  · simp only [h1, h2]; exact lim_const _
  · simp only [h1, h2, ← hr.disabled]
    exact lim_addSeg _ (lim_bind (lim_rewrapC (hr.1 _ _)) (fun _ => lim_const _))

theorem lim_runObj {rec : Rec} {g : Nat → Rec} {env env' : Env} {id : String} {ps ps' : List (String × PropT)}
    (h : PropsRel (fun t t' => LimRec rec g env t env' t') ps ps')
    (hself : LimRec rec g env (.obj id ps) env' (.obj id ps')) (op : Op) (v : V) :
    Lim (fun m => runObj (g m) op env' id ps' v) (runObj rec op env id ps v) := by
  unfold runObj
  cases op <;> simp only
  · refine lim_bind (lim_objRaw h _) (fun m => ?_)
    rw [interdeps_rel h]
    exact lim_const _
  · split
    · split
      · exact lim_const _
      · rw [interdeps_rel h]
        exact lim_bind (lim_const _) (fun _ => lim_bind (lim_forSV (lim_objEntry h _) _) (fun _ => lim_const _))
    · exact lim_const _
  · split
    · split
      · exact lim_const _
      · rw [interdeps_rel h]
        exact lim_bind (lim_const _) (fun _ => lim_bind (lim_forSV (lim_objEntry h _) _) (fun _ => lim_const _))
    · exact lim_const _
  · split
    · split
      · exact lim_const _
      · exact lim_objCompatMap h _
    · exact lim_bind (lim_rewrapC (hself _ _)) (fun _ => lim_const _)

theorem lim_of_eq {α} {g : Nat → Out α} {a : Out α} (h : ∀ m, g m = a) : Lim g a := Or.inr ⟨0, fun _ => h _⟩

theorem Out.bind_ok' {α β} (a : α) (f : α → Out β) : (Out.ok a).bind f = f a := rfl

theorem Out.bind_assoc {α β γ} (a : Out α) (f : α → Out β) (h : β → Out γ) :
    (a.bind f).bind h = a.bind (fun x => (f x).bind h) := by
  cases a <;> rfl

abbrev MembersRel (Q : Ty → Ty → Prop) := Forall2 (KRel (κ := Key) Q)

/-- `selectMember` followed by any use of the selected member -/
theorem lim_oneOfSelect_bind {γ} {rec : Rec} {g : Nat → Rec} {env env' : Env} {ms ms' : List (Key × Ty)}
    (hms : MembersRel (fun t t' => LimRec rec g env t env' t') ms ms')
    (intKey : Bool) (disc : String) (inlined : Bool) (compat : Bool) (m : List (String × V))
    (K' : Nat → Key → Ty → List (String × V) → Out γ) (K : Key → Ty → List (String × V) → Out γ)
    (hK : ∀ key mt mt' clone, LimRec rec g env mt env' mt' → Lim (fun n => K' n key mt' clone) (K key mt clone)) :
    Lim (fun n => (oneOfSelect (g n) env' intKey disc inlined ms' compat m).bind fun sel => K' n sel.1 sel.2.1 sel.2.2)
      ((oneOfSelect rec env intKey disc inlined ms compat m).bind fun sel => K sel.1 sel.2.1 sel.2.2) := by
  unfold oneOfSelect
  simp only
  split
  · exact lim_of_eq (fun _ => rfl)
  · rename_i key _
    rcases lookupK_rel hms key with ⟨h1, h2⟩ | ⟨mt, mt', h1, h2, hq⟩
    · simp only [h1, h2]; exact lim_of_eq (fun _ => rfl)
    · simp only [h1, h2]
      cases compat
      · simp only [Bool.false_eq_true, ↓reduceIte, Out.bind_ok']
        exact hK _ _ _ _ hq
      · simp only [↓reduceIte, Out.bind_assoc, Out.bind_ok']
        exact lim_bind (lim_rewrapC (hq _ _)) (fun _ => hK _ _ _ _ hq)

theorem lim_oneOfUnser {rec : Rec} {g : Nat → Rec} {env env' : Env} {ms ms' : List (Key × Ty)}
    (hms : MembersRel (fun t t' => LimRec rec g env t env' t') ms ms')
    (x : Ext) (intKey : Bool) (disc : String) (inlined : Bool) (v : V) :
    Lim (fun n => oneOfUnser (g n) x env' intKey disc inlined ms' v) (oneOfUnser rec x env intKey disc inlined ms v) := by
  unfold oneOfUnser
  split
  · exact lim_const _
  · split
    · exact lim_const _
    · split
      · exact lim_const _
      · split
        · exact lim_const _
        · simp only
          refine lim_bind (lim_const _) (fun key => ?_)
          split
          · exact lim_const _
          · rcases lookupK_rel hms key with ⟨h1, h2⟩ | ⟨mt, mt', h1, h2, hq⟩
            · simp only [h1, h2]; exact lim_const _
            · simp only [h1, h2]
              exact lim_bind (hq _ _) (fun _ => lim_const _)

theorem lim_runOneOf {rec : Rec} {g : Nat → Rec} {env env' : Env} {ms ms' : List (Key × Ty)}
    (hms : MembersRel (fun t t' => LimRec rec g env t env' t') ms ms')
    (x : Ext) (op : Op) (intKey : Bool) (disc : String) (inlined : Bool) (v : V) :
    Lim (fun n => runOneOf (g n) x op env' intKey disc inlined ms' v)
      (runOneOf rec x op env intKey disc inlined ms v) := by
  unfold runOneOf
  cases op <;> simp only
  · exact lim_oneOfUnser hms _ _ _ _ _
  · split
    · split
      · exact lim_const _
      · exact lim_oneOfSelect_bind hms intKey disc inlined false _
          (fun n key mt clone => ((g n .V env' mt (toStrAny clone)).addSeg ("{oneof[" ++ key.fmt ++ "]}")).bind fun _ => done)
          (fun key mt clone => ((rec .V env mt (toStrAny clone)).addSeg ("{oneof[" ++ key.fmt ++ "]}")).bind fun _ => done)
          (fun key mt mt' clone hq => lim_bind (lim_addSeg _ (hq _ _)) (fun _ => lim_const _))
    · exact lim_const _
  · split
    · split
      · exact lim_const _
      · rename_i m _
        exact lim_oneOfSelect_bind hms intKey disc inlined false _
          (fun n key mt clone => (g n .S env' mt (toStrAny clone)).bind fun r =>
            match r with
            | .map ⟨.string, true⟩ rk =>
              match strKeys? rk with
              | some rm => .ok (toStrAny (if hasKey disc rm then rm else rm ++ [(disc, key.toV)]))
              | none => .cerr
            | _ => .panic)
          (fun key mt clone => (rec .S env mt (toStrAny clone)).bind fun r =>
            match r with
            | .map ⟨.string, true⟩ rk =>
              match strKeys? rk with
              | some rm => .ok (toStrAny (if hasKey disc rm then rm else rm ++ [(disc, key.toV)]))
              | none => .cerr
            | _ => .panic)
          (fun key mt mt' clone hq => lim_bind (hq _ _) (fun _ => lim_const _))
    · exact lim_const _
  · split
    · split
      · exact lim_const _
      · exact lim_oneOfSelect_bind hms intKey disc inlined true _
          (fun _ _ _ _ => done) (fun _ _ _ => done) (fun _ _ _ _ _ => lim_const _)
    · exact lim_const _

def Ty.isLeaf : Ty → Bool
  | .int _ _ _ | .float _ _ _ | .str _ _ _ | .bool | .pattern | .enumInt _ _ | .enumStr _ | .any => true
  | _ => false

theorem run_leaf_env (x : Ext) {t : Ty} (ht : t.isLeaf = true) (n : Nat) (op : Op) (e e' : Env) (v : V) :
    run x n op e t v = run x n op e' t v := by
  cases n with
  | zero => rfl
  | succ n => cases t <;> simp only [Ty.isLeaf, Bool.false_eq_true] at ht <;> simp only [run]

/-- more fuel reaches the same result: a run is the limit of its own chain -/
theorem lim_run_self (x : Ext) (n : Nat) (op : Op) (e : Env) (t : Ty) (v : V) :
    Lim (fun m => run x m op e t v) (run x n op e t v) := by
  by_cases h : run x n op e t v = .fuel
  · exact Or.inl h
  · exact Or.inr ⟨n, fun k => run_mono x n k op e t v _ rfl h⟩

theorem lim_run_succ {x : Ext} {op : Op} {e : Env} {t : Ty} {v : V} {a : Out V}
    (h : Lim (fun m => run x (m + 1) op e t v) a) : Lim (fun m => run x m op e t v) a :=
  lim_shift (fun _ => rfl) h

/-- One unfolding of "`(e', t')` is `(e, t)` up to inlining of references" for a candidate relation
    `S`: equal leaves; a reference on both sides whose targets are related; the same container
    around related parts; a scope whose objects are related IN THE NEW environments; and the two
    inlining steps - a reference on one side against the (related copy of the) object it denotes
    on the other. -/
inductive SimView (S : Env → Env → Ty → Ty → Prop) (e e' : Env) : Ty → Ty → Prop
  | leaf {t} : t.isLeaf = true → SimView S e e' t t
  | refNone {id} : lookupS id e = none → lookupS id e' = none → SimView S e e' (.ref id) (.ref id)
  | refSome {id o o'} : lookupS id e = some o → lookupS id e' = some o' → S e e' o o' →
      SimView S e e' (.ref id) (.ref id)
  | list {i i' a b} : S e e' i i' → SimView S e e' (.list i a b) (.list i' a b)
  | map {k k' v v' a b} : S e e' k k' → S e e' v v' → k.keyTy = k'.keyTy → v.reflectsAny = v'.reflectsAny →
      SimView S e e' (.map k v a b) (.map k' v' a b)
  | obj {id ps ps'} : PropsRel (S e e') ps ps' → SimView S e e' (.obj id ps) (.obj id ps')
  | oneOf {ik d inl ms ms'} : MembersRel (S e e') ms ms' → SimView S e e' (.oneOf ik d inl ms) (.oneOf ik d inl ms')
  | scope {objs objs' root} : Forall2 (KRel (κ := String) (S objs objs')) objs objs' →
      SimView S e e' (.scope objs root) (.scope objs' root)
  | inlL {id oid ps ps'} : lookupS id e = some (.obj oid ps) → S e e' (.obj oid ps) (.obj oid ps') →
      SimView S e e' (.ref id) (.obj oid ps')
  | inlR {id oid ps ps'} : lookupS id e' = some (.obj oid ps') → PropsRel (S e e') ps ps' →
      S e e' (.obj oid ps) (.obj oid ps') → SimView S e e' (.obj oid ps) (.ref id)

theorem PRel.imp {Q Q' : Ty → Ty → Prop} (h : ∀ a b, Q a b → Q' a b) {p p' : PropT} (hp : PRel Q p p') : PRel Q' p p' :=
  ⟨h _ _ hp.1, hp.2⟩

theorem KRel.imp {κ α β} {R R' : α → β → Prop} (h : ∀ a b, R a b → R' a b) {a : κ × α} {b : κ × β}
    (hk : KRel R a b) : KRel R' a b := ⟨hk.1, h _ _ hk.2⟩

theorem PropsRel.imp {Q Q' : Ty → Ty → Prop} (h : ∀ a b, Q a b → Q' a b) {ps ps' : List (String × PropT)}
    (hp : PropsRel Q ps ps') : PropsRel Q' ps ps' :=
  Forall2.imp (fun _ _ hk => KRel.imp (fun _ _ => PRel.imp h) hk) hp

theorem MembersRel.imp {Q Q' : Ty → Ty → Prop} (h : ∀ a b, Q a b → Q' a b) {ms ms' : List (Key × Ty)}
    (hp : MembersRel Q ms ms') : MembersRel Q' ms ms' :=
  Forall2.imp (fun _ _ hk => KRel.imp h hk) hp

/-- **Simulation.** If every pair of a relation `S` unfolds (`SimView`) into pairs of `S`, then
    whatever an operation on the left schema returns with some fuel, the operation on the right
    schema returns with enough fuel. -/
theorem sim_lim (x : Ext) (S : Env → Env → Ty → Ty → Prop)
    (hS : ∀ e e' t t', S e e' t t' → SimView S e e' t t') :
    ∀ (n : Nat) (e e' : Env) (t t' : Ty), S e e' t t' →
      ∀ op v, Lim (fun m => run x m op e' t' v) (run x n op e t v)
  | 0, _, _, _, _, _ => fun _ _ => Or.inl rfl
  | n + 1, e, e', t, t', hst => by
    intro op v
    have ih := sim_lim x S hS n
    have ihR : ∀ {e e' a b}, S e e' a b → LimRec (run x n) (run x) e a e' b := fun h op v => ih _ _ _ _ h op v
    cases hS e e' t t' hst with
    | leaf hl => rw [run_leaf_env x hl (n + 1) op e e' v]; exact lim_run_self x _ op e' t v
    | @refNone id h1 h2 =>
      have : run x (n + 1) op e (.ref id) v = .panic := by simp only [run, h1]
      rw [this]
      exact Or.inr ⟨1, fun k => by
        have : 1 + k = k + 1 := by omega
        rw [this]; simp only [run, h2]⟩
    | @refSome id o o' h1 h2 hs =>
      have : run x (n + 1) op e (.ref id) v = run x n op e o v := by simp only [run, h1]
      rw [this]
      exact lim_shift (g := fun m => run x m op e' o' v) (fun m => by simp only [run, h2]) (ih _ _ _ _ hs op v)
    | @list i i' a b hs =>
      exact lim_run_succ (by simp only [run]; exact lim_runList (ihR hs) op a b v)
    | @map k k' w w' a b hk hw hkt hvt =>
      exact lim_run_succ (by simp only [run]; exact lim_runMap (ihR hk) (ihR hw) hkt hvt op a b v)
    | @obj id ps ps' hps =>
      exact lim_run_succ (by simp only [run]; exact lim_runObj (PropsRel.imp (fun _ _ h => ihR h) hps) (ihR hst) op v)
    | @oneOf ik d inl ms ms' hms =>
      exact lim_run_succ
        (by simp only [run]; exact lim_runOneOf (MembersRel.imp (fun _ _ h => ihR h) hms) x op ik d inl v)
    | @scope objs objs' root hobjs =>
      rcases lookupS_rel hobjs root with ⟨h1, h2⟩ | ⟨o, o', h1, h2, hs⟩
      · have : run x (n + 1) op e (.scope objs root) v = .panic := by simp only [run, h1]
        rw [this]
        exact Or.inr ⟨1, fun k => by
          have : 1 + k = k + 1 := by omega
          rw [this]; simp only [run, h2]⟩
      · have : run x (n + 1) op e (.scope objs root) v = run x n op objs o v := by simp only [run, h1]
        rw [this]
        exact lim_shift (g := fun m => run x m op objs' o' v) (fun m => by simp only [run, h2]) (ih _ _ _ _ hs op v)
    | @inlL id oid ps ps' h1 hs =>
      have : run x (n + 1) op e (.ref id) v = run x n op e (.obj oid ps) v := by simp only [run, h1]
      rw [this]
      exact ih _ _ _ _ hs op v
    | @inlR id oid ps ps' h2 hps hs =>
      -- right side: reference, then the object; left side: the object
      refine lim_shift (g := fun m => run x m op e' (.obj oid ps') v) (fun m => by simp only [run, h2]) ?_
      exact lim_run_succ (by simp only [run]; exact lim_runObj (PropsRel.imp (fun _ _ h => ihR h) hps) (ihR hs) op v)

def Reaches (x : Ext) (op : Op) (e : Env) (t : Ty) (v : V) (r : Out V) : Prop :=
  ∃ n, run x n op e t v = r ∧ r ≠ .fuel

/-- an operation has at most one result -/
theorem Reaches.functional {x : Ext} {op : Op} {e : Env} {t : Ty} {v : V} {r r' : Out V}
    (h : Reaches x op e t v r) (h' : Reaches x op e t v r') : r = r' := by
  obtain ⟨n, hn, hne⟩ := h
  obtain ⟨n', hn', hne'⟩ := h'
  have a := run_mono x n n' op e t v r hn hne
  have b := run_mono x n' n op e t v r' hn' hne'
  rw [Nat.add_comm n' n] at b
  rw [← a, ← b]

theorem PRel.flip {Q : Ty → Ty → Prop} {p p' : PropT} (h : PRel Q p p') : PRel (fun a b => Q b a) p' p :=
  let ⟨hq, hs, hr, hi, hn, hc, hd, hx⟩ := h
  ⟨hq, hs.symm, hr.symm, hi.symm, hn.symm, hc.symm, hd.symm, hx.symm⟩

theorem PropsRel.flip {Q : Ty → Ty → Prop} {ps ps' : List (String × PropT)} (h : PropsRel Q ps ps') :
    PropsRel (fun a b => Q b a) ps' ps :=
  Forall2.imp (fun _ _ hk => ⟨hk.1.symm, PRel.flip hk.2⟩) (Forall2.flip h)

theorem MembersRel.flip {Q : Ty → Ty → Prop} {ms ms' : List (Key × Ty)} (h : MembersRel Q ms ms') :
    MembersRel (fun a b => Q b a) ms' ms :=
  Forall2.imp (fun _ _ hk => ⟨hk.1.symm, hk.2⟩) (Forall2.flip h)

theorem SimView.flip {S : Env → Env → Ty → Ty → Prop} (hS : ∀ e e' t t', S e e' t t' → SimView S e e' t t')
    {e e' : Env} {t t' : Ty} (h : SimView S e e' t t') : SimView (fun a b c d => S b a d c) e' e t' t := by
  cases h with
  | leaf hl => exact .leaf hl
  | refNone h1 h2 => exact .refNone h2 h1
  | refSome h1 h2 hs => exact .refSome h2 h1 hs
  | list hs => exact .list hs
  | map hk hv hkt hvt => exact .map hk hv hkt.symm hvt.symm
  | obj hps => exact .obj (PropsRel.flip hps)
  | oneOf hms => exact .oneOf (MembersRel.flip hms)
  | scope hobjs => exact .scope (Forall2.imp (fun _ _ hk => ⟨hk.1.symm, hk.2⟩) (Forall2.flip hobjs))
  | inlL h1 hs =>
    -- the properties are related because the two objects are
    cases hS _ _ _ _ hs with
    | leaf hl => simp [Ty.isLeaf] at hl
    | obj hps => exact .inlR h1 (PropsRel.flip hps) hs
  | inlR h2 _ hs => exact .inlL h2 hs

/-- **Bisimulation.** Related schemas have exactly the same results, for every operation and value. -/
theorem sim_reaches (x : Ext) (S : Env → Env → Ty → Ty → Prop)
    (hS : ∀ e e' t t', S e e' t t' → SimView S e e' t t')
    {e e' : Env} {t t' : Ty} (h : S e e' t t') (op : Op) (v : V) (r : Out V) :
    Reaches x op e t v r ↔ Reaches x op e' t' v r := by
  constructor
  · rintro ⟨n, hn, hne⟩
    rcases sim_lim x S hS n e e' t t' h op v with hf | ⟨m, hm⟩
    · rw [hn] at hf; exact absurd hf hne
    · exact ⟨m, by rw [← hn]; exact hm 0, hne⟩
  · rintro ⟨n, hn, hne⟩
    rcases sim_lim x (fun a b c d => S b a d c) (fun e e' t t' hs => SimView.flip hS (hS _ _ _ _ hs))
        n e' e t' t h op v with hf | ⟨m, hm⟩
    · rw [hn] at hf; exact absurd hf hne
    · exact ⟨m, by rw [← hn]; exact hm 0, hne⟩

/-- `Sim k e e' t t'`: `t'` (read in `e'`) is `t` (read in `e`) with references replaced by the objects
    they denote, or vice versa, at any positions, nested at most `k` levels deep. -/
def Sim : Nat → Env → Env → Ty → Ty → Prop
  | 0 => fun _ _ t t' => t = t'
  | k + 1 => fun e e' t t' => t = t' ∨ SimView (Sim k) e e' t t'

theorem Sim.refl : ∀ (k : Nat) (e e' : Env) (t : Ty), Sim k e e' t t
  | 0, _, _, _ => rfl
  | _ + 1, _, _, _ => Or.inl rfl

def EnvSim (e e' : Env) : Prop := Forall2 (KRel (κ := String) (fun a b => ∃ k, Sim k e e' a b)) e e'

theorem EnvSim.refl (e : Env) : EnvSim e e := Forall2.refl (fun _ => ⟨rfl, 0, rfl⟩) e

/-- the relation the simulation theorem is instantiated with -/
def SimAny (e e' : Env) (t t' : Ty) : Prop := EnvSim e e' ∧ ∃ k, Sim k e e' t t'

theorem PRel.refl {Q : Ty → Ty → Prop} (h : ∀ t, Q t t) (p : PropT) : PRel Q p p :=
  ⟨h _, rfl, rfl, rfl, rfl, rfl, rfl, rfl⟩

theorem simAny_view_refl {e e' : Env} (hE : EnvSim e e') : ∀ (t : Ty), SimView SimAny e e' t t := by
  have hr : ∀ t, SimAny e e' t t := fun t => ⟨hE, 0, rfl⟩
  intro t
  cases t with
  | int => exact .leaf rfl
  | float => exact .leaf rfl
  | str => exact .leaf rfl
  | bool => exact .leaf rfl
  | pattern => exact .leaf rfl
  | enumInt => exact .leaf rfl
  | enumStr => exact .leaf rfl
  | any => exact .leaf rfl
  | list i a b => exact .list (hr i)
  | map k v a b => exact .map (hr k) (hr v) rfl rfl
  | obj id ps => exact .obj (Forall2.refl (fun a => ⟨rfl, PRel.refl hr a.2⟩) ps)
  | oneOf ik d inl ms => exact .oneOf (Forall2.refl (fun a => ⟨rfl, hr a.2⟩) ms)
  | ref id =>
    rcases lookupS_rel hE id with ⟨h1, h2⟩ | ⟨o, o', h1, h2, k, hk⟩
    · exact .refNone h1 h2
    · exact .refSome h1 h2 ⟨hE, k, hk⟩
  | scope objs root =>
    exact .scope (Forall2.refl (fun a => ⟨rfl, EnvSim.refl objs, 0, rfl⟩) objs)

theorem simAny_view : ∀ (e e' : Env) (t t' : Ty), SimAny e e' t t' → SimView SimAny e e' t t' := by
  intro e e' t t' ⟨hE, k, hk⟩
  have lift : ∀ {a b}, Sim (k - 1) e e' a b → SimAny e e' a b := fun h => ⟨hE, k - 1, h⟩
  cases k with
  | zero => cases hk; exact simAny_view_refl hE t
  | succ k =>
    rcases hk with hk | hk
    · cases hk; exact simAny_view_refl hE t
    · simp only [Nat.add_sub_cancel] at lift
      cases hk with
      | leaf hl => exact .leaf hl
      | refNone h1 h2 => exact .refNone h1 h2
      | refSome h1 h2 hs => exact .refSome h1 h2 (lift hs)
      | list hs => exact .list (lift hs)
      | map h1 h2 h3 h4 => exact .map (lift h1) (lift h2) h3 h4
      | obj hps => exact .obj (PropsRel.imp (fun _ _ h => lift h) hps)
      | oneOf hms => exact .oneOf (MembersRel.imp (fun _ _ h => lift h) hms)
      | scope hobjs =>
        have hE' := Forall2.imp (fun _ _ hk => KRel.imp (fun _ _ h => (⟨k, h⟩ : ∃ k, Sim k _ _ _ _)) hk) hobjs
        exact .scope (Forall2.imp (fun _ _ hk => KRel.imp (fun _ _ h => ⟨hE', k, h⟩) hk) hobjs)
      | inlL h1 hs => exact .inlL h1 (lift hs)
      | inlR h2 hps hs => exact .inlR h2 (PropsRel.imp (fun _ _ h => lift h) hps) (lift hs)

/-- related schemas agree on the three shape questions the operations ask about a sub-schema -/
theorem SimView.shape {S : Env → Env → Ty → Ty → Prop} {e e' : Env} {t t' : Ty} (h : SimView S e e' t t') :
    t.keyTy = t'.keyTy ∧ t.reflectsAny = t'.reflectsAny ∧ t.isStr = t'.isStr := by
  cases h <;> exact ⟨rfl, rfl, rfl⟩

theorem Sim.shape {k : Nat} {e e' : Env} {t t' : Ty} (h : Sim k e e' t t') :
    t.keyTy = t'.keyTy ∧ t.reflectsAny = t'.reflectsAny ∧ t.isStr = t'.isStr := by
  cases k with
  | zero => cases h; exact ⟨rfl, rfl, rfl⟩
  | succ k =>
    rcases h with h | h
    · cases h; exact ⟨rfl, rfl, rfl⟩
    · exact h.shape

theorem sim_reaches_of_Sim (x : Ext) {k : Nat} {e e' : Env} {t t' : Ty} (hE : EnvSim e e') (h : Sim k e e' t t')
    (op : Op) (v : V) (r : Out V) : Reaches x op e t v r ↔ Reaches x op e' t' v r :=
  sim_reaches x SimAny simAny_view ⟨hE, k, h⟩ op v r

end Arca
