import ArcaModel.Model.Describe
import ArcaModel.Lemmas.Assoc
/-
  Generic evaluation lemmas for `run .U` (used to evaluate the meta-schema on descriptions, C09).

  `Evals x env t v out`: with enough fuel, `Unserialize` of `v` by `t` in `env` yields `out`.
  (`Out.ds_*`: the two `rfl` equations of `Out` that the `simp` calls on descriptions use.)
-/
namespace Arca

def Evals (x : Ext) (env : Env) (t : Ty) (v out : V) : Prop :=
  ∃ f0, ∀ f, f0 ≤ f → run x f .U env t v = .ok out

theorem Evals.intro {x : Ext} {env : Env} {t : Ty} {v out : V} (c : Nat)
    (h : ∀ k, run x (k + c) .U env t v = .ok out) : Evals x env t v out :=
  ⟨c, fun f hf => by
    obtain ⟨k, rfl⟩ := Nat.exists_eq_add_of_le hf
    rw [Nat.add_comm]; exact h k⟩

theorem Evals.step {x : Ext} {env : Env} {t : Ty} {v out : V} (f0 : Nat)
    (h : ∀ f, f0 ≤ f → run x (f + 1) .U env t v = .ok out) : Evals x env t v out :=
  ⟨f0 + 1, fun f hf => by
    obtain ⟨k, rfl⟩ := Nat.exists_eq_add_of_le hf
    have := h (f0 + k) (Nat.le_add_right _ _)
    rw [show f0 + 1 + k = f0 + k + 1 by omega]; exact this⟩

theorem Evals.isOk {x : Ext} {env : Env} {t : Ty} {v out : V} (h : Evals x env t v out) :
    ∃ f0, ∀ f, f0 ≤ f → (run x f .U env t v).isOk = true :=
  h.imp fun _ hf f hle => by rw [hf f hle]; rfl

@[simp] theorem Out.ds_bind_ok {α β} (a : α) (f : α → Out β) : (Out.ok a).bind f = f a := rfl
@[simp] theorem Out.ds_addSeg_ok {α} (a : α) (s : String) : (Out.ok a : Out α).addSeg s = .ok a := rfl

theorem run_int (x : Ext) (f : Nat) (op : Op) (env : Env) (a b : Option Int) (u : Option Units) (v : V) :
    run x (f + 1) op env (.int a b u) v = runInt op a b u v := rfl
theorem run_float (x : Ext) (f : Nat) (op : Op) (env : Env) (a b : Option Nat) (u : Option Units) (v : V) :
    run x (f + 1) op env (.float a b u) v = runFloat x op a b u v := rfl
theorem run_str (x : Ext) (f : Nat) (op : Op) (env : Env) (a b : Option Int) (p : Option String) (v : V) :
    run x (f + 1) op env (.str a b p) v = runStr x op a b p v := rfl
theorem run_bool (x : Ext) (f : Nat) (op : Op) (env : Env) (v : V) :
    run x (f + 1) op env .bool v = runBool op v := rfl
theorem run_pattern (x : Ext) (f : Nat) (op : Op) (env : Env) (v : V) :
    run x (f + 1) op env .pattern v = runPattern x op v := rfl
theorem run_list (x : Ext) (f : Nat) (op : Op) (env : Env) (item : Ty) (a b : Option Int) (v : V) :
    run x (f + 1) op env (.list item a b) v = runList (run x f) op env item a b v := rfl
theorem run_map (x : Ext) (f : Nat) (op : Op) (env : Env) (k e : Ty) (a b : Option Int) (v : V) :
    run x (f + 1) op env (.map k e a b) v = runMap (run x f) op env k e a b v := rfl
theorem run_obj (x : Ext) (f : Nat) (op : Op) (env : Env) (id : String) (props : List (String × PropT)) (v : V) :
    run x (f + 1) op env (.obj id props) v = runObj (run x f) op env id props v := rfl
theorem run_oneOf (x : Ext) (f : Nat) (op : Op) (env : Env) (ik : Bool) (d : String) (inl : Bool)
    (ms : List (Key × Ty)) (v : V) :
    run x (f + 1) op env (.oneOf ik d inl ms) v = runOneOf (run x f) x op env ik d inl ms v := rfl
theorem run_ref (x : Ext) (f : Nat) (op : Op) (env : Env) (id : String) (v : V) :
    run x (f + 1) op env (.ref id) v =
      match lookupS id env with
      | none => .panic
      | some o => run x f op env o v := rfl

theorem run_scope (x : Ext) (f : Nat) (op : Op) (env : Env) (objs : Env) (root : String) (v : V) :
    run x (f + 1) op env (.scope objs root) v =
      match lookupS root objs with
      | none => .panic
      | some o => run x f op objs o v := rfl

theorem evals_int {x : Ext} {env : Env} {a b : Option Int} {u : Option Units} {k : IKind} {n : Int}
    (hn : inInt64 n = true) (hc : checkInt a b n = .ok ()) :
    Evals x env (.int a b u) (.int k n) (.int .int64 n) :=
  Evals.intro 1 fun f => by
    simp [run_int, runInt, intInputMapper, hn, rewrapC, hc]

theorem evals_float_unbounded {x : Ext} {env : Env} {b : Nat} :
    Evals x env (.float none none none) (.float .f64 b) (.float .f64 b) :=
  Evals.intro 1 fun f => by
    simp [run_float, runFloat, floatInputMapper, rewrapC, checkFloat]

theorem evals_str {x : Ext} {env : Env} {a b : Option Int} {p : Option String} {s : String}
    (hc : checkStr x a b p s = .ok ()) : Evals x env (.str a b p) (.str s) (.str s) :=
  Evals.intro 1 fun f => by
    simp [run_str, runStr, stringInputMapper, rewrapC, hc]

theorem evals_bool {x : Ext} {env : Env} {b : Bool} : Evals x env .bool (.bool b) (.bool b) :=
  Evals.intro 1 fun f => by simp [run_bool, runBool, boolInputMapper]

theorem evals_pattern {x : Ext} {env : Env} {s : String} (h : x.reCompiles s = true) :
    Evals x env .pattern (.str s) (.regex s) :=
  Evals.intro 1 fun f => by simp [run_pattern, runPattern, stringInputMapper, rewrapC, h]

theorem checkStr_none (x : Ext) (s : String) : checkStr x none none none s = .ok () := by
  simp [checkStr, checkLen]

theorem checkStr_min1 (x : Ext) (s : String) (h : 1 ≤ s.utf8ByteSize) : checkStr x (some 1) none none s = .ok () := by
  have : ¬ ((1 : Int) > (s.utf8ByteSize : Int)) := by omega
  simp [checkStr, checkLen, this]

theorem evals_ref {x : Ext} {env : Env} {id : String} {o : Ty} {v out : V}
    (hl : lookupS id env = some o) (h : Evals x env o v out) : Evals x env (.ref id) v out := by
  obtain ⟨f0, hf⟩ := h
  exact Evals.step f0 fun f hle => by simp only [run_ref, hl, hf f hle]

theorem evals_scope {x : Ext} {env objs : Env} {root : String} {o : Ty} {v out : V}
    (hl : lookupS root objs = some o) (h : Evals x objs o v out) : Evals x env (.scope objs root) v out := by
  obtain ⟨f0, hf⟩ := h
  exact Evals.step f0 fun f hle => by simp only [run_scope, hl, hf f hle]

theorem forIdx_strs (rec : Rec) (env : Env) (t : Ty) (h : ∀ s, rec .U env t (.str s) = .ok (.str s)) :
    ∀ (i : Nat) (ss : List String),
      forIdx (fun i e => (rec .U env t e).addSeg (idxSeg i)) i (ss.map V.str) = .ok (ss.map V.str)
  | _, [] => by simp [forIdx]
  | i, s :: rest => by
    simp [forIdx, h s, forIdx_strs rec env t h (i + 1) rest]

theorem evals_strList {x : Ext} {env : Env} (ss : List String) :
    Evals x env (.list (.str none none none) none none) (strList ss) (strList ss) :=
  Evals.intro 2 fun f => by
    have h : ∀ s, run x (f + 1) .U env (.str none none none) (.str s) = .ok (.str s) := fun s => by
      simp [run_str, runStr, stringInputMapper, rewrapC, checkStr_none]
    simp [run_list, runList, strList, V.sliceElems?, checkLen, forIdx_strs _ env _ h]

def kvsOf (m : List (String × V)) : List (V × V) := m.map fun kv => (V.str kv.1, kv.2)

theorem toStrAny_eq (m : List (String × V)) : toStrAny m = .map .strAny (kvsOf m) := rfl
theorem Rep.obj_eq (r : Rep) (m : List (String × V)) : r.obj m = .map r.objShape (kvsOf m) := rfl
theorem Rep.typed_eq (r : Rep) (tid : String) (m : List (String × V)) :
    r.typed tid m = .map r.objShape (kvsOf (m ++ [("type_id", V.str tid)])) := rfl

theorem strKeys?_map (m : List (String × V)) : strKeys? (kvsOf m) = some m := strKeys_toStrAny m

/-! `lookupS` on a field list written with `::`, `++` and `optF`: with `lookupS_append` and
    `String.reduceBEq` these equations compute it without a case split on the optional fields
    (`simp` reduces the `match` on the literal `true`/`false` by itself). -/

theorem lookupS_cons_beq {α} (k k' : String) (v : α) (m : List (String × α)) :
    lookupS k ((k', v) :: m) = match k == k' with | true => some v | false => lookupS k m := by
  simp only [lookupS]
  cases k == k' <;> rfl

theorem lookupS_optF {α} (k k' : String) (f : α → V) (o : Option α) :
    lookupS k (optF k' f o) = match k == k' with | true => o.map f | false => none := by
  cases o <;> simp only [optF, lookupS_cons_beq, lookupS_nil, Option.map] <;> cases k == k' <;> rfl

/-- entry-wise evaluation of the entries of an object: same keys, each value unserialized by the
    type of its (declared, enabled) property -/
inductive EntEvals (x : Ext) (env : Env) (props : List (String × PropT)) :
    List (String × V) → List (String × V) → Prop
  | nil : EntEvals x env props [] []
  | cons {k : String} {p : PropT} {v v' : V} {rest rest' : List (String × V)} :
      lookupS k props = some p → p.disabled = false → Evals x env p.ty v v' →
      EntEvals x env props rest rest' → EntEvals x env props ((k, v) :: rest) ((k, v') :: rest')

theorem EntEvals.append {x : Ext} {env : Env} {props : List (String × PropT)} {a a' b b' : List (String × V)}
    (ha : EntEvals x env props a a') (hb : EntEvals x env props b b') : EntEvals x env props (a ++ b) (a' ++ b') := by
  induction ha with
  | nil => simpa using hb
  | cons h1 h2 h3 _ ih => exact .cons h1 h2 h3 ih

theorem EntEvals.hasKey_eq {x : Ext} {env : Env} {props : List (String × PropT)} {m m' : List (String × V)}
    (h : EntEvals x env props m m') (k : String) : hasKey k m' = hasKey k m := by
  induction h with
  | nil => rfl
  | cons _ _ _ _ ih => simp only [hasKey_cons, ih]

theorem EntEvals.declared {x : Ext} {env : Env} {props : List (String × PropT)} {m m' : List (String × V)}
    (h : EntEvals x env props m m') : m.any (fun kv => !(hasKey kv.1 props)) = false := by
  induction h with
  | nil => rfl
  | cons h1 _ _ _ ih =>
    simp only [List.any_cons, hasKey, h1, Option.isSome_some, Bool.not_true, Bool.false_or]
    exact ih

theorem EntEvals.forSV {x : Ext} {env : Env} {props : List (String × PropT)} {m m' : List (String × V)}
    (h : EntEvals x env props m m') :
    ∃ f0, ∀ f, f0 ≤ f → forSV (objEntryU (run x f) env props) m = .ok m' := by
  induction h with
  | nil => exact ⟨0, fun _ _ => rfl⟩
  | cons h1 h2 h3 _ ih =>
    obtain ⟨f1, hf1⟩ := h3
    obtain ⟨f2, hf2⟩ := ih
    refine ⟨max f1 f2, fun f hf => ?_⟩
    simp only [Arca.forSV, objEntryU, h1, h2, hf1 f (by omega), hf2 f (by omega), Bool.false_eq_true, ↓reduceIte,
      Out.ds_addSeg_ok]

/-- The presence rules of `props` cannot fail on an object that has the keys `ks`: only
    properties among `ks` have a default or are required, and there are no conditional rules.
    For a given table and key list this is a closed term. -/
def plainProps (props : List (String × PropT)) (ks : List String) : Bool :=
  props.all fun kp => (ks.contains kp.1 || (kp.2.defaultV.isNone && !kp.2.required)) &&
    kp.2.requiredIf.isEmpty && kp.2.requiredIfNot.isEmpty && kp.2.conflicts.isEmpty

theorem plainProps_cons {id : String} {p : PropT} {rest : List (String × PropT)} {ks : List String}
    (h : plainProps ((id, p) :: rest) ks = true) :
    (id ∈ ks ∨ p.defaultV = none ∧ p.required = false) ∧ p.requiredIf = [] ∧ p.requiredIfNot = [] ∧
      p.conflicts = [] ∧ plainProps rest ks = true := by
  have h' : ((ks.contains id || (p.defaultV.isNone && !p.required)) && p.requiredIf.isEmpty &&
      p.requiredIfNot.isEmpty && p.conflicts.isEmpty && plainProps rest ks) = true := h
  simp only [Bool.and_eq_true, Bool.or_eq_true, List.contains_eq_mem, decide_eq_true_eq,
    Option.isNone_iff_eq_none, Bool.not_eq_true', List.isEmpty_iff] at h'
  exact ⟨h'.1.1.1.1, h'.1.1.1.2, h'.1.1.2, h'.1.2, h'.2⟩

theorem applyDefaults_plain {ks : List String} {m : List (String × V)} (hk : ∀ k, k ∈ ks → hasKey k m = true) :
    ∀ {props : List (String × PropT)}, plainProps props ks = true → applyDefaults props m = .ok m
  | [], _ => rfl
  | (id, p) :: rest, h => by
    obtain ⟨h1, -, -, -, hr⟩ := plainProps_cons h
    simp only [applyDefaults, applyDefaults_plain hk hr]
    rcases h1 with h1 | h1
    · simp only [hk id h1, ↓reduceIte]
    · simp only [h1.1, ite_self]

theorem interdeps_plain {ks : List String} {isSet : String → Bool} (hk : ∀ k, k ∈ ks → isSet k = true) :
    ∀ {props : List (String × PropT)}, plainProps props ks = true → interdeps.go isSet props = .ok ()
  | [], _ => rfl
  | (id, p) :: rest, h => by
    obtain ⟨h1, h2, h3, h4, hr⟩ := plainProps_cons h
    simp only [interdeps.go, h2, h3, h4, interdeps_plain hk hr]
    rcases h1 with h1 | h1
    · simp [hk id h1]
    · simp [h1.2]

/-- `EntEvals`, together with keys `ks` that `m` certainly has. The list `ks` is found by
    unification while the entries are put together; the optional ones contribute nothing. -/
structure FieldEvals (x : Ext) (env : Env) (props : List (String × PropT)) (ks : List String)
    (m m' : List (String × V)) : Prop where
  ent : EntEvals x env props m m'
  keys : ∀ k, k ∈ ks → hasKey k m = true

namespace FieldEvals
variable {x : Ext} {env : Env} {props : List (String × PropT)}

theorem nil : FieldEvals x env props [] [] [] := ⟨.nil, fun _ h => nomatch h⟩

theorem cons {k : String} {p : PropT} {v v' : V} {ks : List String} {rest rest' : List (String × V)}
    (h1 : lookupS k props = some p) (h2 : p.disabled = false) (h3 : Evals x env p.ty v v')
    (h : FieldEvals x env props ks rest rest') :
    FieldEvals x env props (k :: ks) ((k, v) :: rest) ((k, v') :: rest') :=
  ⟨.cons h1 h2 h3 h.ent, fun k' hk' => by
    rw [hasKey_cons]
    rcases List.mem_cons.1 hk' with rfl | hk'
    · simp
    · simp [h.keys k' hk']⟩

theorem one {k : String} {p : PropT} {v v' : V}
    (h1 : lookupS k props = some p) (h2 : p.disabled = false) (h3 : Evals x env p.ty v v') :
    FieldEvals x env props [k] [(k, v)] [(k, v')] := .cons h1 h2 h3 .nil

theorem optF {α} {k : String} {p : PropT} {f g : α → V} (o : Option α)
    (h1 : lookupS k props = some p) (h2 : p.disabled = false) (h3 : ∀ a, o = some a → Evals x env p.ty (f a) (g a)) :
    FieldEvals x env props [] (optF k f o) (optF k g o) :=
  ⟨by cases o with
      | none => exact .nil
      | some a => exact .cons h1 h2 (h3 a rfl) .nil,
   fun _ h => nomatch h⟩

theorem append {ks ks' : List String} {a a' b b' : List (String × V)}
    (ha : FieldEvals x env props ks a a') (hb : FieldEvals x env props ks' b b') :
    FieldEvals x env props (ks ++ ks') (a ++ b) (a' ++ b') :=
  ⟨ha.ent.append hb.ent, fun k hk => by
    rw [hasKey_append]
    rcases List.mem_append.1 hk with hk | hk
    · simp [ha.keys k hk]
    · simp [hb.keys k hk]⟩

end FieldEvals

theorem evals_obj {x : Ext} {env : Env} {id : String} {props : List (String × PropT)} {sh : MapShape}
    {ks : List String} {m m' : List (String × V)} (h : FieldEvals x env props ks m m')
    (hp : plainProps props ks = true) :
    Evals x env (.obj id props) (.map sh (kvsOf m)) (toStrAny m') := by
  obtain ⟨f0, hf⟩ := h.ent.forSV
  refine Evals.step f0 fun f hle => ?_
  have hi : interdeps props (fun k => hasKey k m') = .ok () :=
    interdeps_plain (fun k hk => (h.ent.hasKey_eq k).trans (h.keys k hk)) hp
  simp only [run_obj, runObj, objRaw, V.mapEntries?, strKeys?_map, h.ent.declared, applyDefaults_plain h.keys hp,
    hf f hle, hi, Bool.false_eq_true, ↓reduceIte, Out.ds_bind_ok]

inductive KVEvals (x : Ext) (env : Env) (kt vt : Ty) : List (V × V) → List (V × V) → Prop
  | nil : KVEvals x env kt vt [] []
  | cons {k k' v v' : V} {rest rest' : List (V × V)} :
      Evals x env kt k k' → Evals x env vt v v' → KVEvals x env kt vt rest rest' →
      KVEvals x env kt vt ((k, v) :: rest) ((k', v') :: rest')

theorem KVEvals.length {x : Ext} {env : Env} {kt vt : Ty} {kvs kvs' : List (V × V)}
    (h : KVEvals x env kt vt kvs kvs') : kvs'.length = kvs.length := by
  induction h with
  | nil => rfl
  | cons _ _ _ ih => simp [ih]

theorem KVEvals.forKV {x : Ext} {env : Env} {kt vt : Ty} {kvs kvs' : List (V × V)}
    (h : KVEvals x env kt vt kvs kvs') :
    ∃ f0, ∀ f, f0 ≤ f → forKV (entryKV (run x f) .U env kt vt) kvs = .ok kvs' := by
  induction h with
  | nil => exact ⟨0, fun _ _ => rfl⟩
  | cons hk hv _ ih =>
    obtain ⟨f1, hf1⟩ := hk
    obtain ⟨f2, hf2⟩ := hv
    obtain ⟨f3, hf3⟩ := ih
    refine ⟨max f1 (max f2 f3), fun f hf => ?_⟩
    have a := hf1 f (by omega)
    have b := hf2 f (by omega)
    have c := hf3 f (by omega)
    simp [Arca.forKV, entryKV, a, b, c]

theorem evals_map {x : Ext} {env : Env} {kt vt : Ty} {a b : Option Int} {sh : MapShape} {kvs kvs' : List (V × V)}
    (h : KVEvals x env kt vt kvs kvs') (hlen : checkLen a b kvs.length = .ok ()) (hdup : dupKey kvs' = false) :
    Evals x env (.map kt vt a b) (.map sh kvs) (.map ⟨kt.keyTy, vt.reflectsAny⟩ kvs') := by
  obtain ⟨f0, hf⟩ := h.forKV
  exact Evals.step f0 fun f hle => by
    simp [run_map, runMap, V.mapEntries?, hlen, hf f hle, hdup]

theorem dupKey_false_of_keys (kvs : List (V × V)) (ks : List Key)
    (hk : kvs.map (fun kv => kv.1.key?) = ks.map some) (hnd : ks.Nodup) : dupKey kvs = false := by
  have h : kvs.filterMap (fun kv => kv.1.key?) = ks := by
    simpa [List.filterMap_map] using congrArg (List.filterMap id) hk
  exact (dupKey_false_iff kvs).mpr (h ▸ hnd)

theorem KVEvals.map {α} {x : Ext} {env : Env} {kt vt : Ty} {f g : α → V × V} : ∀ (l : List α),
    (∀ a, a ∈ l → Evals x env kt (f a).1 (g a).1 ∧ Evals x env vt (f a).2 (g a).2) →
    KVEvals x env kt vt (l.map f) (l.map g)
  | [], _ => .nil
  | a :: rest, h =>
    .cons (h a (List.mem_cons_self ..)).1 (h a (List.mem_cons_self ..)).2
      (KVEvals.map rest fun b hb => h b (List.mem_cons_of_mem _ hb))

theorem dupKey_map {α} {g : α → V × V} {K : α → Key} {l : List α} {kvs : List (V × V)} (hg : kvs = l.map g)
    (hk : ∀ a, (g a).1.key? = some (K a)) (hnd : (l.map K).Nodup) : dupKey kvs = false :=
  dupKey_false_of_keys _ _ (by simp only [hg, List.map_map, Function.comp_def, hk]) hnd

theorem evals_entries {α} {x : Ext} {env : Env} {kt vt : Ty} {a b : Option Int} {sh : MapShape} {f g : α → V × V}
    {K : α → Key} {l : List α} {kvs kvs' : List (V × V)} (hf : kvs = l.map f) (hg : kvs' = l.map g)
    (h : ∀ e, e ∈ l → Evals x env kt (f e).1 (g e).1 ∧ Evals x env vt (f e).2 (g e).2)
    (hlen : checkLen a b l.length = .ok ()) (hk : ∀ e, (g e).1.key? = some (K e)) (hnd : (l.map K).Nodup) :
    Evals x env (.map kt vt a b) (.map sh kvs) (.map ⟨kt.keyTy, vt.reflectsAny⟩ kvs') := by
  subst hf hg
  exact evals_map (KVEvals.map l h) (by rwa [List.length_map]) (dupKey_map rfl hk hnd)

theorem descMults_eq (r : Rep) : ∀ ms, descMults r ms = ms.map fun m => (r.int m.1, descUnit r m.2)
  | [] => rfl
  | (_, _) :: rest => congrArg (_ :: ·) (descMults_eq r rest)

theorem descIntVals_eq (r : Rep) : ∀ vs, descIntVals r vs = vs.map fun v => (r.int v.1, descDisp r v.2)
  | [] => rfl
  | (_, _) :: rest => congrArg (_ :: ·) (descIntVals_eq r rest)

theorem descStrVals_eq (r : Rep) : ∀ vs, descStrVals r vs = vs.map fun v => (V.str v.1, descDisp r v.2)
  | [] => rfl
  | (_, _) :: rest => congrArg (_ :: ·) (descStrVals_eq r rest)

theorem descProps_eq (r : Rep) : ∀ ps, descProps r ps = ps.map fun p => (V.str p.1, descProp r p.2)
  | [] => rfl
  | (_, _) :: rest => congrArg (_ :: ·) (descProps_eq r rest)

theorem descMembers_eq (r : Rep) : ∀ ms, descMembers r ms = ms.map fun m => (m.1.rep r, descTy r m.2)
  | [] => rfl
  | (_, _) :: rest => congrArg (_ :: ·) (descMembers_eq r rest)

theorem descObjs_eq (r : Rep) : ∀ objs, descObjs r objs = objs.map fun o => (V.str o.1, r.obj (descObjF r o.2))
  | [] => rfl
  | (_, _) :: rest => congrArg (_ :: ·) (descObjs_eq r rest)

theorem oneOfUnser_typed (rec : Rec) (x : Ext) (env : Env) {disc tid : String} {members : List (Key × Ty)} {mt : Ty}
    {sh : MapShape} (hsh : sh.key = .any ∨ sh.key = .string) {m m' : List (String × V)}
    (hm : lookupK (.s tid) members = some mt)
    (hnk : hasKey disc m = false) (hnk' : hasKey disc m' = false)
    (h : rec .U env mt (toStrAny m) = .ok (toStrAny m')) :
    oneOfUnser rec x env false disc false members (.map sh (kvsOf (m ++ [(disc, V.str tid)]))) =
      .ok (toStrAny (m' ++ [(disc, V.str tid)])) := by
  have hk : (!(sh.key == KeyTy.any || sh.key == KeyTy.string)) = false := by
    rcases hsh with h | h <;> simp [h]
  have hfd : (kvsOf (m ++ [(disc, V.str tid)])).find? (isDiscKey disc) = _ := find_disc_append disc _ m hnk
  unfold oneOfUnser
  simp only [V.mapEntries?, hk, hfd, Bool.false_eq_true, ↓reduceIte,
    stringInputMapper, rewrapC, Out.ds_bind_ok, strKeys?_map, hm, eraseKey_append_self disc _ m hnk, h]
  simp only [toStrAny_eq, Key.toV]
  show (match V.map ⟨.string, true⟩ (kvsOf m') with
    | V.map ⟨.string, true⟩ rk =>
      (match strKeys? rk with
       | some rm => Out.ok (V.map MapShape.strAny (kvsOf (setKey disc (V.str tid) rm)))
       | none => Out.cerr)
    | _ => Out.ok (V.map MapShape.strAny (kvsOf m'))) = _
  simp only [strKeys?_map, setKey_absent disc _ m' hnk']

/-- `Unserialize` by a string-keyed, non-inlined one-of of a map carrying the discriminator last -/
theorem evals_typed {x : Ext} {env : Env} {disc tid : String} {members : List (Key × Ty)} {mt : Ty}
    {sh : MapShape} (hsh : sh.key = .any ∨ sh.key = .string) {m m' : List (String × V)}
    (hm : lookupK (.s tid) members = some mt)
    (hnk : hasKey disc m = false) (hnk' : hasKey disc m' = false)
    (h : Evals x env mt (toStrAny m) (toStrAny m')) :
    Evals x env (.oneOf false disc false members) (.map sh (kvsOf (m ++ [(disc, V.str tid)])))
      (toStrAny (m' ++ [(disc, V.str tid)])) := by
  obtain ⟨f0, hf⟩ := h
  exact Evals.step f0 fun f hle => by
    rw [run_oneOf]
    exact oneOfUnser_typed (run x f) x env hsh hm hnk hnk' (hf f hle)

end Arca
