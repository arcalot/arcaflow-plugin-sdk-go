import ArcaModel.Model.Step
import ArcaModel.Lemmas.Assoc
/-
  Lemmas for property C11 (step and signal calls): the call paths of `callStep` / `callSignal` as
  relations with one constructor per path (`StepPath`, `SigPath`), proved to be exactly the graph
  of the executable functions, and the inductive invariant of the step-data transition system.
-/
namespace Arca.Step

/-- `Validate` never accepts the nil interface, so the unchecked assertion `input.(InputType)`
    behind a successful `Validate` (schema/step.go, schema/signal.go) cannot fail -/
theorem run_V_nil (x : Ext) : ∀ (fuel : Nat) (env : Env) (t : Ty) (u : V),
    run x fuel .V env t .nil ≠ .ok u := by
  intro fuel
  induction fuel with
  | zero => intro env t u; simp [run]
  | succ n ih =>
    intro env t u
    cases t
    case ref | scope =>
      simp only [run]
      split
      · simp
      · exact ih _ _ _
    -- every other kind looks at the value first and has no case for nil
    all_goals simp [run, runInt, runFloat, runStr, runBool, runPattern, runEnumInt, runEnumStr, runList,
      runMap, runObj, runOneOf, runAny, anyConvert, asInt, asFloat, asString, asBool, V.under,
      V.sliceElems?, V.mapEntries?, Out.cerr, Out.bind]

theorem isNilV_of_valid {x : Ext} {fuel : Nat} {t : Ty} {v u : V}
    (h : run x fuel .V [] t v = .ok u) : isNilV v = false := by
  cases v <;> simp [isNilV]
  exact run_V_nil x fuel [] t u h

/-- the input is accepted by the step's input schema: `Unserialize` yields `v`, and `v` passes the
    `Validate` that `CallableStepSchema.Call` repeats on it -/
def Accepts (x : Ext) (fuel : Nat) (t : Ty) (raw v : V) : Prop :=
  run x fuel .U [] t raw = .ok v ∧ ∃ u, run x fuel .V [] t v = .ok u

/-- The paths of `CallStep`, one constructor per path, as a relation between the call and its
    result (outcome, handler invocations). -/
inductive StepPath (x : Ext) (fuel : Nat) (p : Plugin) (beh : String → HandlerBeh) (stepID : String) (raw : V) :
    StepOut × List V → Prop
  | unknownStep : lookupS stepID p = none → StepPath x fuel p beh stepID raw (.err .unknownStep, [])
  | unserErr {st e} : lookupS stepID p = some st → run x fuel .U [] st.input raw = .err e →
      StepPath x fuel p beh stepID raw (.err .invalidInput, [])
  | unserPanic {st} : lookupS stepID p = some st → run x fuel .U [] st.input raw = .panic →
      StepPath x fuel p beh stepID raw (.panic, [])
  | unserFuel {st} : lookupS stepID p = some st → run x fuel .U [] st.input raw = .fuel →
      StepPath x fuel p beh stepID raw (.fuel, [])
  | validErr {st v e} : lookupS stepID p = some st → run x fuel .U [] st.input raw = .ok v →
      run x fuel .V [] st.input v = .err e → StepPath x fuel p beh stepID raw (.err .invalidInput, [])
  | validPanic {st v} : lookupS stepID p = some st → run x fuel .U [] st.input raw = .ok v →
      run x fuel .V [] st.input v = .panic → StepPath x fuel p beh stepID raw (.panic, [])
  | validFuel {st v} : lookupS stepID p = some st → run x fuel .U [] st.input raw = .ok v →
      run x fuel .V [] st.input v = .fuel → StepPath x fuel p beh stepID raw (.fuel, [])
  | handlerPanic {st v} : lookupS stepID p = some st → Accepts x fuel st.input raw v →
      beh stepID v = none → StepPath x fuel p beh stepID raw (.panic, [v])
  | undeclared {st v oid d} : lookupS stepID p = some st → Accepts x fuel st.input raw v →
      beh stepID v = some (oid, d) → lookupS oid st.outputs = none →
      StepPath x fuel p beh stepID raw (.err .undeclaredOutput, [v])
  | outErr {st v oid d ot e} : lookupS stepID p = some st → Accepts x fuel st.input raw v →
      beh stepID v = some (oid, d) → lookupS oid st.outputs = some ot →
      run x fuel .V [] ot d = .err e → StepPath x fuel p beh stepID raw (.err .invalidOutput, [v])
  | outPanic {st v oid d ot} : lookupS stepID p = some st → Accepts x fuel st.input raw v →
      beh stepID v = some (oid, d) → lookupS oid st.outputs = some ot →
      run x fuel .V [] ot d = .panic → StepPath x fuel p beh stepID raw (.panic, [v])
  | outFuel {st v oid d ot} : lookupS stepID p = some st → Accepts x fuel st.input raw v →
      beh stepID v = some (oid, d) → lookupS oid st.outputs = some ot →
      run x fuel .V [] ot d = .fuel → StepPath x fuel p beh stepID raw (.fuel, [v])
  | serOk {st v oid d ot u w} : lookupS stepID p = some st → Accepts x fuel st.input raw v →
      beh stepID v = some (oid, d) → lookupS oid st.outputs = some ot →
      run x fuel .V [] ot d = .ok u → run x fuel .S [] ot d = .ok w →
      StepPath x fuel p beh stepID raw (.ok oid w, [v])
  | serErr {st v oid d ot u e} : lookupS stepID p = some st → Accepts x fuel st.input raw v →
      beh stepID v = some (oid, d) → lookupS oid st.outputs = some ot →
      run x fuel .V [] ot d = .ok u → run x fuel .S [] ot d = .err e →
      StepPath x fuel p beh stepID raw (.err .unserializableOutput, [v])
  | serPanic {st v oid d ot u} : lookupS stepID p = some st → Accepts x fuel st.input raw v →
      beh stepID v = some (oid, d) → lookupS oid st.outputs = some ot →
      run x fuel .V [] ot d = .ok u → run x fuel .S [] ot d = .panic →
      StepPath x fuel p beh stepID raw (.panic, [v])
  | serFuel {st v oid d ot u} : lookupS stepID p = some st → Accepts x fuel st.input raw v →
      beh stepID v = some (oid, d) → lookupS oid st.outputs = some ot →
      run x fuel .V [] ot d = .ok u → run x fuel .S [] ot d = .fuel →
      StepPath x fuel p beh stepID raw (.fuel, [v])

theorem callStep_path (x : Ext) (fuel : Nat) (p : Plugin) (beh : String → HandlerBeh) (stepID : String) (raw : V) :
    StepPath x fuel p beh stepID raw (callStep x fuel p beh stepID raw) := by
  unfold callStep
  cases hl : lookupS stepID p with
  | none => exact .unknownStep hl
  | some st =>
    dsimp only
    cases hu : run x fuel .U [] st.input raw with
    | err e => exact .unserErr hl hu
    | panic => exact .unserPanic hl hu
    | fuel => exact .unserFuel hl hu
    | ok v =>
      dsimp only
      unfold stepCall
      cases hv : run x fuel .V [] st.input v with
      | err e => exact .validErr hl hu hv
      | panic => exact .validPanic hl hu hv
      | fuel => exact .validFuel hl hu hv
      | ok u0 =>
        have ha : Accepts x fuel st.input raw v := ⟨hu, u0, hv⟩
        simp only [isNilV_of_valid hv, Bool.false_eq_true, ↓reduceIte]
        cases hb : beh stepID v with
        | none => exact .handlerPanic hl ha hb
        | some od =>
          obtain ⟨oid, d⟩ := od
          dsimp only
          cases ho : lookupS oid st.outputs with
          | none => exact .undeclared hl ha hb ho
          | some ot =>
            dsimp only
            cases hV : run x fuel .V [] ot d with
            | err e => exact .outErr hl ha hb ho hV
            | panic => exact .outPanic hl ha hb ho hV
            | fuel => exact .outFuel hl ha hb ho hV
            | ok u =>
              dsimp only
              unfold serializeOutput
              simp only [ho]
              cases hS : run x fuel .S [] ot d with
              | ok w => exact .serOk hl ha hb ho hV hS
              | err e => exact .serErr hl ha hb ho hV hS
              | panic => exact .serPanic hl ha hb ho hV hS
              | fuel => exact .serFuel hl ha hb ho hV hS

section
variable {x : Ext} {fuel : Nat} {p : Plugin} {beh : String → HandlerBeh} {stepID : String} {raw : V}

/-- A path's premises are equations that drive `callStep` down that path. -/
theorem StepPath.eq_callStep {r : StepOut × List V} (h : StepPath x fuel p beh stepID raw r) :
    callStep x fuel p beh stepID raw = r := by
  cases h
  case unknownStep | unserErr | unserPanic | unserFuel | validErr | validPanic | validFuel =>
    simp only [callStep, stepCall, *]
  all_goals
    obtain ⟨hu, u, hv⟩ := ‹Accepts x fuel _ raw _›
    simp only [callStep, stepCall, serializeOutput, isNilV_of_valid hv, Bool.false_eq_true, ↓reduceIte, *]

/-- the paths exclude each other: the relation is a function -/
theorem StepPath.unique {x : Ext} {fuel : Nat} {p : Plugin} {beh : String → HandlerBeh} {stepID : String} {raw : V}
    {r r' : StepOut × List V} (h : StepPath x fuel p beh stepID raw r) (h' : StepPath x fuel p beh stepID raw r') :
    r = r' :=
  h.eq_callStep.symm.trans h'.eq_callStep

theorem callStep_eq_iff {r : StepOut × List V} :
    callStep x fuel p beh stepID raw = r ↔ StepPath x fuel p beh stepID raw r :=
  ⟨fun h => h ▸ callStep_path .., StepPath.eq_callStep⟩

theorem callStep_fst_iff {o : StepOut} :
    (callStep x fuel p beh stepID raw).1 = o ↔ ∃ cs, StepPath x fuel p beh stepID raw (o, cs) :=
  ⟨fun h => ⟨_, by subst h; exact callStep_path ..⟩, fun ⟨_, h⟩ => h.eq_callStep ▸ rfl⟩

theorem callStep_snd_iff {cs : List V} :
    (callStep x fuel p beh stepID raw).2 = cs ↔ ∃ o, StepPath x fuel p beh stepID raw (o, cs) :=
  ⟨fun h => ⟨_, by subst h; exact callStep_path ..⟩, fun ⟨_, h⟩ => h.eq_callStep ▸ rfl⟩

/-- after an accepted input every branch of `stepCall` has called the handler, once -/
theorem callStep_calls {st : StepD} {v : V} (hl : lookupS stepID p = some st)
    (ha : Accepts x fuel st.input raw v) : (callStep x fuel p beh stepID raw).2 = [v] := by
  obtain ⟨hu, u, hv⟩ := ha
  simp only [callStep, stepCall, serializeOutput, hl, hu, hv, isNilV_of_valid hv, Bool.false_eq_true,
    ↓reduceIte]
  repeat' split
  all_goals rfl

end

/-- the signal data is accepted: `Unserialize` yields `v`, and `v` passes the `Validate` that
    `CallableSignalSchema.Call` repeats on it -/
def SigAccepts (x : Ext) (fuel : Nat) (t : Ty) (raw v : V) : Prop :=
  run x fuel .U [] t raw = .ok v ∧ ∃ u, run x fuel .V [] t v = .ok u

inductive SigPath (x : Ext) (fuel : Nat) (p : Plugin) (sbeh : String → String → SignalBeh)
    (stepID sigID : String) (raw : V) : SigOut × List V → Prop
  | unknownStep : lookupS stepID p = none → SigPath x fuel p sbeh stepID sigID raw (.err .unknownStep, [])
  | unknownSignal {st} : lookupS stepID p = some st → lookupS sigID st.signals = none →
      SigPath x fuel p sbeh stepID sigID raw (.err .unknownSignal, [])
  | unserErr {st dt e} : lookupS stepID p = some st → lookupS sigID st.signals = some dt →
      run x fuel .U [] dt raw = .err e → SigPath x fuel p sbeh stepID sigID raw (.err .invalidInput, [])
  | unserPanic {st dt} : lookupS stepID p = some st → lookupS sigID st.signals = some dt →
      run x fuel .U [] dt raw = .panic → SigPath x fuel p sbeh stepID sigID raw (.panic, [])
  | unserFuel {st dt} : lookupS stepID p = some st → lookupS sigID st.signals = some dt →
      run x fuel .U [] dt raw = .fuel → SigPath x fuel p sbeh stepID sigID raw (.fuel, [])
  | validErr {st dt v e} : lookupS stepID p = some st → lookupS sigID st.signals = some dt →
      run x fuel .U [] dt raw = .ok v → run x fuel .V [] dt v = .err e →
      SigPath x fuel p sbeh stepID sigID raw (.err .invalidInput, [])
  | validPanic {st dt v} : lookupS stepID p = some st → lookupS sigID st.signals = some dt →
      run x fuel .U [] dt raw = .ok v → run x fuel .V [] dt v = .panic →
      SigPath x fuel p sbeh stepID sigID raw (.panic, [])
  | validFuel {st dt v} : lookupS stepID p = some st → lookupS sigID st.signals = some dt →
      run x fuel .U [] dt raw = .ok v → run x fuel .V [] dt v = .fuel →
      SigPath x fuel p sbeh stepID sigID raw (.fuel, [])
  | handlerPanic {st dt v} : lookupS stepID p = some st → lookupS sigID st.signals = some dt →
      SigAccepts x fuel dt raw v → sbeh stepID sigID v = false →
      SigPath x fuel p sbeh stepID sigID raw (.panic, [v])
  | ok {st dt v} : lookupS stepID p = some st → lookupS sigID st.signals = some dt →
      SigAccepts x fuel dt raw v → sbeh stepID sigID v = true →
      SigPath x fuel p sbeh stepID sigID raw (.ok, [v])

theorem callSignal_path (x : Ext) (fuel : Nat) (p : Plugin) (sbeh : String → String → SignalBeh)
    (stepID sigID : String) (raw : V) :
    SigPath x fuel p sbeh stepID sigID raw (callSignal x fuel p sbeh stepID sigID raw) := by
  unfold callSignal
  cases hl : lookupS stepID p with
  | none => exact .unknownStep hl
  | some st =>
    dsimp only
    cases hs : lookupS sigID st.signals with
    | none => exact .unknownSignal hl hs
    | some dt =>
      dsimp only
      cases hu : run x fuel .U [] dt raw with
      | err e => exact .unserErr hl hs hu
      | panic => exact .unserPanic hl hs hu
      | fuel => exact .unserFuel hl hs hu
      | ok v =>
        dsimp only
        unfold signalCall
        simp only [hs]
        cases hv : run x fuel .V [] dt v with
        | err e => exact .validErr hl hs hu hv
        | panic => exact .validPanic hl hs hu hv
        | fuel => exact .validFuel hl hs hu hv
        | ok u0 =>
          have ha : SigAccepts x fuel dt raw v := ⟨hu, u0, hv⟩
          simp only [isNilV_of_valid hv, Bool.false_eq_true, ↓reduceIte]
          cases hb : sbeh stepID sigID v with
          | false => simpa using .handlerPanic hl hs ha hb
          | true => simpa using .ok hl hs ha hb

section
variable {x : Ext} {fuel : Nat} {p : Plugin} {sbeh : String → String → SignalBeh} {stepID sigID : String}
  {raw : V}

theorem SigPath.eq_callSignal {r : SigOut × List V} (h : SigPath x fuel p sbeh stepID sigID raw r) :
    callSignal x fuel p sbeh stepID sigID raw = r := by
  cases h
  case handlerPanic | ok =>
    obtain ⟨hu, u, hv⟩ := ‹SigAccepts x fuel _ raw _›
    simp only [callSignal, signalCall, isNilV_of_valid hv, Bool.false_eq_true, ↓reduceIte, *]
  all_goals simp only [callSignal, signalCall, *]

theorem SigPath.unique {x : Ext} {fuel : Nat} {p : Plugin} {sbeh : String → String → SignalBeh}
    {stepID sigID : String} {raw : V} {r r' : SigOut × List V}
    (h : SigPath x fuel p sbeh stepID sigID raw r) (h' : SigPath x fuel p sbeh stepID sigID raw r') : r = r' :=
  h.eq_callSignal.symm.trans h'.eq_callSignal

theorem callSignal_eq_iff {r : SigOut × List V} :
    callSignal x fuel p sbeh stepID sigID raw = r ↔ SigPath x fuel p sbeh stepID sigID raw r :=
  ⟨fun h => h ▸ callSignal_path .., SigPath.eq_callSignal⟩

theorem callSignal_fst_iff {o : SigOut} :
    (callSignal x fuel p sbeh stepID sigID raw).1 = o ↔
      ∃ cs, SigPath x fuel p sbeh stepID sigID raw (o, cs) :=
  ⟨fun h => ⟨_, by subst h; exact callSignal_path ..⟩, fun ⟨_, h⟩ => h.eq_callSignal ▸ rfl⟩

theorem callSignal_snd_iff {cs : List V} :
    (callSignal x fuel p sbeh stepID sigID raw).2 = cs ↔
      ∃ o, SigPath x fuel p sbeh stepID sigID raw (o, cs) :=
  ⟨fun h => ⟨_, by subst h; exact callSignal_path ..⟩, fun ⟨_, h⟩ => h.eq_callSignal ▸ rfl⟩

theorem callSignal_calls {st : StepD} {dt : Ty} {v : V} (hl : lookupS stepID p = some st)
    (hs : lookupS sigID st.signals = some dt) (ha : SigAccepts x fuel dt raw v) :
    (callSignal x fuel p sbeh stepID sigID raw).2 = [v] := by
  obtain ⟨hu, u, hv⟩ := ha
  simp only [callSignal, signalCall, hl, hs, hu, hv, isNilV_of_valid hv, Bool.false_eq_true, ↓reduceIte]
  split <;> rfl

end

theorem mem_removeNth {α} {c : α} : ∀ {l : List α} {i : Nat}, c ∈ removeNth l i → c ∈ l
  | _ :: _, 0, h => List.mem_cons_of_mem _ h
  | _ :: _, _ + 1, h => (List.mem_cons.mp h).elim (· ▸ List.mem_cons_self) fun h =>
      List.mem_cons_of_mem _ (mem_removeNth h)

/-- the invariant of the step-data transition system -/
structure Inv (hasInit : Bool) (σ : St) : Prop where
  /-- the ghost log of initialiser calls and the initialised entries of the store say the same -/
  init_iff_store : ∀ r n, (r, n) ∈ σ.inits ↔ lookupS r σ.store = some (some n)
  lt_next : ∀ r n, (r, n) ∈ σ.inits → n < σ.next
  runs_nodup : (σ.inits.map Prod.fst).Nodup
  ords_nodup : (σ.inits.map Prod.snd).Nodup
  nonzero : hasInit = true → ∀ r d, lookupS r σ.store = some d → d ≠ none
  calls_own : ∀ c, c ∈ σ.pending ∨ c ∈ σ.seen → lookupS c.run σ.store = some c.data

theorem inv_init (hasInit : Bool) : Inv hasInit St.init := by
  constructor <;> simp [St.init, lookupS]

/-- only `calls_own` looks at the calls -/
theorem Inv.calls {hasInit : Bool} {σ : St} (h : Inv hasInit σ) (pending seen : List Call)
    (hc : ∀ c, c ∈ pending ∨ c ∈ seen → lookupS c.run σ.store = some c.data) :
    Inv hasInit { σ with pending := pending, seen := seen } :=
  { h with calls_own := hc }

theorem setup_lookup (hasInit : Bool) (σ : St) (r : String) :
    lookupS r (setup hasInit σ r).1.store = some (setup hasInit σ r).2 := by
  unfold setup
  split
  · assumption
  · split <;> simp [lookupS]

theorem setup_pending (hasInit : Bool) (σ : St) (r : String) :
    (setup hasInit σ r).1.pending = σ.pending ∧ (setup hasInit σ r).1.seen = σ.seen := by
  unfold setup
  split
  · simp
  · split <;> simp

theorem inv_setup {hasInit : Bool} {σ : St} (h : Inv hasInit σ) (r : String) :
    Inv hasInit (setup hasInit σ r).1 := by
  unfold setup
  cases hl : lookupS r σ.store with
  | some d => exact h
  | none =>
    -- the new entry hides none of the old ones, and `r` is in no initialiser call so far
    have keep : ∀ {r' d} e, lookupS r' σ.store = some d → lookupS r' ((r, e) :: σ.store) = some d := by
      intro r' d e h'
      rw [lookupS_cons, if_neg (fun heq => by rw [heq, hl] at h'; cases h'), h']
    have fresh : ∀ n, (r, n) ∉ σ.inits := fun n hm => by
      rw [h.init_iff_store, hl] at hm; cases hm
    cases hasInit with
    | true =>
      simp only [↓reduceIte]
      refine ⟨fun r' n => ?_, fun r' n hm => ?_, ?_, ?_, fun _ r' d hs => ?_, fun c hc => keep _ (h.calls_own c hc)⟩
      · by_cases heq : r' = r
        · subst heq
          simp [lookupS_cons, fresh, eq_comm]
        · simp [lookupS_cons, heq, h.init_iff_store]
      · rcases List.mem_cons.mp hm with heq | hm
        · cases heq; exact Nat.lt_succ_self _
        · exact Nat.lt_succ_of_lt (h.lt_next r' n hm)
      · refine List.nodup_cons.mpr ⟨fun hr => ?_, h.runs_nodup⟩
        obtain ⟨⟨_, n⟩, hm, rfl⟩ := List.mem_map.mp hr
        exact fresh n hm
      · refine List.nodup_cons.mpr ⟨fun hn => ?_, h.ords_nodup⟩
        obtain ⟨⟨r', _⟩, hm, rfl⟩ := List.mem_map.mp hn
        exact Nat.lt_irrefl _ (h.lt_next r' _ hm)
      · rw [lookupS_cons] at hs
        split at hs
        · cases hs; simp
        · exact h.nonzero rfl r' d hs
    | false =>
      simp only [Bool.false_eq_true, ↓reduceIte]
      refine ⟨fun r' n => ?_, h.lt_next, h.runs_nodup, h.ords_nodup, nofun,
        fun c hc => keep _ (h.calls_own c hc)⟩
      by_cases heq : r' = r
      · subst heq
        simp [lookupS_cons, fresh]
      · simp [lookupS_cons, heq, h.init_iff_store]

theorem inv_arrive {hasInit : Bool} {σ : St} (h : Inv hasInit σ) (who : Who) (r : String) :
    Inv hasInit { (setup hasInit σ r).1 with
      pending := (setup hasInit σ r).1.pending ++ [⟨who, r, (setup hasInit σ r).2⟩] } := by
  have h' := inv_setup h r
  refine h'.calls _ _ fun c hc => ?_
  simp only [List.mem_append, List.mem_singleton] at hc
  rcases hc with (hc | rfl) | hc
  · exact h'.calls_own c (.inl hc)
  · exact setup_lookup hasInit σ r
  · exact h'.calls_own c (.inr hc)

theorem inv_apply {hasInit : Bool} {σ : St} (h : Inv hasInit σ) (a : Act) : Inv hasInit (apply hasInit σ a) := by
  cases a with
  | stepArrives r => exact inv_arrive h .step r
  | signalArrives r s => exact inv_arrive h (.signal s) r
  | invoke i =>
    simp only [apply]
    split
    · exact h
    · rename_i c hi
      refine h.calls _ _ fun c' hc' => ?_
      simp only [List.mem_append, List.mem_singleton] at hc'
      rcases hc' with hc' | hc' | rfl
      · exact h.calls_own c' (.inl (mem_removeNth hc'))
      · exact h.calls_own c' (.inr hc')
      · exact h.calls_own c' (.inl (List.mem_of_getElem? hi))

theorem inv_exec (hasInit : Bool) (acts : List Act) : Inv hasInit (exec hasInit acts) := by
  unfold exec
  generalize St.init = σ, inv_init hasInit = h
  induction acts generalizing σ with
  | nil => exact h
  | cons a _ ih => exact ih _ (inv_apply h a)

theorem filter_fst_le_one {α} (r : String) (l : List (String × α)) (h : (l.map Prod.fst).Nodup) :
    (l.filter (fun p => p.1 == r)).length ≤ 1 := by
  have := List.nodup_iff_count.mp h r
  rwa [List.count, List.countP_map, List.countP_eq_length_filter] at this

end Arca.Step
