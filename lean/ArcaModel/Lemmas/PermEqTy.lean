import ArcaModel.Lemmas.PermEqRun
import ArcaModel.Lemmas.Inline
import ArcaModel.Props.C03
/-
  The schema side of C12: schemas equal up to the order of their TABLES (an object's properties, a
  one-of's members, a scope's objects, an enum's values - all Go maps) at every depth, and the
  operations respect it.
-/
namespace Arca

/-- `t ≈ₜ t'`: the same schema up to the order of property tables, member tables, scope tables and
    enum value sets, at every depth. As for `V.PermEq` the list-level companions are encoded in the
    wrappers (`objCons`: the first property of the left table occurs, with a related type and the
    same declared rules, somewhere in the right table). -/
inductive Ty.PermEq : Ty → Ty → Prop
  | int (a b : Option Int) (u : Option Units) : Ty.PermEq (.int a b u) (.int a b u)
  | float (a b : Option Nat) (u : Option Units) : Ty.PermEq (.float a b u) (.float a b u)
  | str (a b : Option Int) (p : Option String) : Ty.PermEq (.str a b p) (.str a b p)
  | bool : Ty.PermEq .bool .bool
  | pattern : Ty.PermEq .pattern .pattern
  | any : Ty.PermEq .any .any
  | ref (id : String) : Ty.PermEq (.ref id) (.ref id)
  | enumInt {vals vals' : List Int} (u : Option Units) : vals.Perm vals' → Ty.PermEq (.enumInt vals u) (.enumInt vals' u)
  | enumStr {vals vals' : List String} : vals.Perm vals' → Ty.PermEq (.enumStr vals) (.enumStr vals')
  | list {item item' : Ty} (a b : Option Int) : Ty.PermEq item item' → Ty.PermEq (.list item a b) (.list item' a b)
  | map {k k' v v' : Ty} (a b : Option Int) : Ty.PermEq k k' → Ty.PermEq v v' → Ty.PermEq (.map k v a b) (.map k' v' a b)
  | objNil (id : String) : Ty.PermEq (.obj id []) (.obj id [])
  | objCons {id k : String} {ty ty' : Ty} {req : Bool} {rif rifn cf : List String} {dflt : Option DefaultV} {dis : Bool}
      {rest pre post : List (String × PropT)} :
      Ty.PermEq ty ty' → Ty.PermEq (.obj id rest) (.obj id (pre ++ post)) →
      Ty.PermEq (.obj id ((k, .mk ty req rif rifn cf dflt dis) :: rest))
        (.obj id (pre ++ (k, .mk ty' req rif rifn cf dflt dis) :: post))
  | oneOfNil (ik : Bool) (d : String) (inl : Bool) : Ty.PermEq (.oneOf ik d inl []) (.oneOf ik d inl [])
  | oneOfCons {ik : Bool} {d : String} {inl : Bool} {k : Key} {ty ty' : Ty} {rest pre post : List (Key × Ty)} :
      Ty.PermEq ty ty' → Ty.PermEq (.oneOf ik d inl rest) (.oneOf ik d inl (pre ++ post)) →
      Ty.PermEq (.oneOf ik d inl ((k, ty) :: rest)) (.oneOf ik d inl (pre ++ (k, ty') :: post))
  | scopeNil (root : String) : Ty.PermEq (.scope [] root) (.scope [] root)
  | scopeCons {root k : String} {ty ty' : Ty} {rest pre post : List (String × Ty)} :
      Ty.PermEq ty ty' → Ty.PermEq (.scope rest root) (.scope (pre ++ post) root) →
      Ty.PermEq (.scope ((k, ty) :: rest) root) (.scope (pre ++ (k, ty') :: post) root)

@[inherit_doc] infix:50 " ≈ₜ " => Ty.PermEq

def PropT.PermEq (p p' : PropT) : Prop :=
  p.ty ≈ₜ p'.ty ∧ p.required = p'.required ∧ p.requiredIf = p'.requiredIf ∧ p.requiredIfNot = p'.requiredIfNot ∧
    p.conflicts = p'.conflicts ∧ p.default = p'.default ∧ p.disabled = p'.disabled

def PropEntryEq (a b : String × PropT) : Prop := a.1 = b.1 ∧ a.2.PermEq b.2
def TyEntryEq {κ : Type} (a b : κ × Ty) : Prop := a.1 = b.1 ∧ a.2 ≈ₜ b.2

abbrev PropsEq (ps ps' : List (String × PropT)) : Prop := PermRel PropEntryEq ps ps'
abbrev MembersEq (ms ms' : List (Key × Ty)) : Prop := PermRel (TyEntryEq (κ := Key)) ms ms'
abbrev EnvEq (env env' : Env) : Prop := PermRel (TyEntryEq (κ := String)) env env'

theorem Ty.permEq_obj_inv {t w : Ty} (h : t ≈ₜ w) :
    ∀ id props, t = .obj id props → ∃ props', w = .obj id props' ∧ PropsEq props props' := by
  induction h with
  | objNil id => intro _ _ e; cases e; exact ⟨[], rfl, .nil⟩
  | objCons hty _ _ ih =>
    intro _ _ e; cases e
    obtain ⟨_, ⟨⟩, h⟩ := ih _ _ rfl
    exact ⟨_, rfl, .cons_middle ⟨rfl, hty, rfl, rfl, rfl, rfl, rfl, rfl⟩ h⟩
  | _ => intro _ _ e; cases e

theorem Ty.permEq_obj_of {id : String} {props props' : List (String × PropT)} (h : PropsEq props props') :
    Ty.obj id props ≈ₜ Ty.obj id props' := by
  refine PermRel.ind (motive := fun a b => Ty.obj id a ≈ₜ Ty.obj id b) (.objNil id) ?_ h
  rintro ⟨k, ty, req, rif, rifn, cf, dflt, dis⟩ ⟨_, ty', _, _, _, _, _, _⟩ _ _ _ ⟨⟨⟩, hty, ⟨⟩, ⟨⟩, ⟨⟩, ⟨⟩, ⟨⟩, ⟨⟩⟩ _ ih
  exact .objCons hty ih

theorem Ty.permEq_oneOf_inv {t w : Ty} (h : t ≈ₜ w) :
    ∀ ik d inl ms, t = .oneOf ik d inl ms → ∃ ms', w = .oneOf ik d inl ms' ∧ MembersEq ms ms' := by
  induction h with
  | oneOfNil ik d inl => intro _ _ _ _ e; cases e; exact ⟨[], rfl, .nil⟩
  | oneOfCons hty _ _ ih =>
    intro _ _ _ _ e; cases e
    obtain ⟨_, ⟨⟩, h⟩ := ih _ _ _ _ rfl
    exact ⟨_, rfl, .cons_middle ⟨rfl, hty⟩ h⟩
  | _ => intro _ _ _ _ e; cases e

theorem Ty.permEq_oneOf_of {ik : Bool} {d : String} {inl : Bool} : ∀ {ms ms' : List (Key × Ty)}, MembersEq ms ms' →
    Ty.oneOf ik d inl ms ≈ₜ Ty.oneOf ik d inl ms' := by
  intro ms ms' h
  refine PermRel.ind (motive := fun a b => Ty.oneOf ik d inl a ≈ₜ Ty.oneOf ik d inl b) (.oneOfNil ik d inl) ?_ h
  rintro ⟨k, ty⟩ ⟨_, ty'⟩ _ _ _ ⟨⟨⟩, hty⟩ _ ih
  exact .oneOfCons hty ih

theorem Ty.permEq_scope_inv {t w : Ty} (h : t ≈ₜ w) :
    ∀ objs root, t = .scope objs root → ∃ objs', w = .scope objs' root ∧ EnvEq objs objs' := by
  induction h with
  | scopeNil root => intro _ _ e; cases e; exact ⟨[], rfl, .nil⟩
  | scopeCons hty _ _ ih =>
    intro _ _ e; cases e
    obtain ⟨_, ⟨⟩, h⟩ := ih _ _ rfl
    exact ⟨_, rfl, .cons_middle ⟨rfl, hty⟩ h⟩
  | _ => intro _ _ e; cases e

theorem Ty.permEq_scope_of {root : String} {objs objs' : List (String × Ty)} (h : EnvEq objs objs') :
    Ty.scope objs root ≈ₜ Ty.scope objs' root := by
  refine PermRel.ind (motive := fun a b => Ty.scope a root ≈ₜ Ty.scope b root) (.scopeNil root) ?_ h
  rintro ⟨k, ty⟩ ⟨_, ty'⟩ _ _ _ ⟨⟨⟩, hty⟩ _ ih
  exact .scopeCons hty ih

theorem Ty.PermEq.refl : ∀ (t : Ty), t ≈ₜ t :=
  Ty.rec (motive_1 := fun t => t ≈ₜ t) (motive_2 := fun p => p.PermEq p)
    (motive_3 := fun ps => Forall2 PropEntryEq ps ps) (motive_4 := fun ms => Forall2 TyEntryEq ms ms)
    (motive_5 := fun os => Forall2 TyEntryEq os os) (motive_6 := fun a => PropEntryEq a a)
    (motive_7 := fun a => TyEntryEq a a) (motive_8 := fun a => TyEntryEq a a)
    .int .float .str .bool .pattern (fun _ u => .enumInt u (.refl _)) (fun _ => .enumStr (.refl _))
    (fun _ a b ih => .list a b ih) (fun _ _ a b ihk ihv => .map a b ihk ihv)
    (fun _ _ ih => Ty.permEq_obj_of (.of_forall2 ih)) (fun _ _ _ _ ih => Ty.permEq_oneOf_of (.of_forall2 ih)) .ref
    (fun _ _ ih => Ty.permEq_scope_of (.of_forall2 ih)) .any (fun _ _ _ _ _ _ _ ih => ⟨ih, rfl, rfl, rfl, rfl, rfl, rfl⟩)
    .nil (fun _ _ h t => .cons h t) .nil (fun _ _ h t => .cons h t) .nil (fun _ _ h t => .cons h t)
    (fun _ _ ih => ⟨rfl, ih⟩) (fun _ _ ih => ⟨rfl, ih⟩) (fun _ _ ih => ⟨rfl, ih⟩)

theorem PropT.PermEq.refl (p : PropT) : p.PermEq p := ⟨.refl _, rfl, rfl, rfl, rfl, rfl, rfl⟩
theorem PropsEq.of_perm {ps ps' : List (String × PropT)} (h : ps.Perm ps') : PropsEq ps ps' :=
  PermRel.of_perm (fun a => ⟨rfl, PropT.PermEq.refl a.2⟩) h
theorem MembersEq.of_perm {ms ms' : List (Key × Ty)} (h : ms.Perm ms') : MembersEq ms ms' :=
  PermRel.of_perm (fun a => ⟨rfl, Ty.PermEq.refl a.2⟩) h
theorem EnvEq.of_perm {e e' : Env} (h : e.Perm e') : EnvEq e e' :=
  PermRel.of_perm (fun a => ⟨rfl, Ty.PermEq.refl a.2⟩) h
theorem EnvEq.refl (e : Env) : EnvEq e e := EnvEq.of_perm (.refl _)

/-- every property table, member table and scope table inside `t` has pairwise distinct keys, and
    every default is a genuine Go value -/
inductive Ty.Distinct : Ty → Prop
  | int (a b : Option Int) (u : Option Units) : Ty.Distinct (.int a b u)
  | float (a b : Option Nat) (u : Option Units) : Ty.Distinct (.float a b u)
  | str (a b : Option Int) (p : Option String) : Ty.Distinct (.str a b p)
  | bool : Ty.Distinct .bool
  | pattern : Ty.Distinct .pattern
  | any : Ty.Distinct .any
  | ref (id : String) : Ty.Distinct (.ref id)
  | enumInt (vals : List Int) (u : Option Units) : Ty.Distinct (.enumInt vals u)
  | enumStr (vals : List String) : Ty.Distinct (.enumStr vals)
  | list {item : Ty} (a b : Option Int) : Ty.Distinct item → Ty.Distinct (.list item a b)
  | map {k v : Ty} (a b : Option Int) : Ty.Distinct k → Ty.Distinct v → Ty.Distinct (.map k v a b)
  | obj {id : String} {props : List (String × PropT)} : (props.map Prod.fst).Nodup →
      (∀ np, np ∈ props → Ty.Distinct np.2.ty) →
      (∀ np, np ∈ props → ∀ d, np.2.defaultV = some (some d) → d.DistinctKeys) → Ty.Distinct (.obj id props)
  | oneOf {ik : Bool} {d : String} {inl : Bool} {ms : List (Key × Ty)} : (ms.map Prod.fst).Nodup →
      (∀ m, m ∈ ms → Ty.Distinct m.2) → Ty.Distinct (.oneOf ik d inl ms)
  | scope {objs : List (String × Ty)} {root : String} : (objs.map Prod.fst).Nodup →
      (∀ p, p ∈ objs → Ty.Distinct p.2) → Ty.Distinct (.scope objs root)

def EnvDistinct (env : Env) : Prop := (env.map Prod.fst).Nodup ∧ ∀ p, p ∈ env → p.2.Distinct

theorem Ty.PermEq.keyTy {t t' : Ty} (h : t ≈ₜ t') : t.keyTy = t'.keyTy := by cases h <;> rfl
theorem Ty.PermEq.reflectsAny {t t' : Ty} (h : t ≈ₜ t') : t.reflectsAny = t'.reflectsAny := by cases h <;> rfl

theorem Ty.PermEq.isStr {t t' : Ty} (h : t ≈ₜ t') : t.isStr = t'.isStr := by cases h <;> rfl

theorem PropT.PermEq.defaultV {p p' : PropT} (h : p.PermEq p') : p.defaultV = p'.defaultV := by
  obtain ⟨hty, _, _, _, _, hd, _⟩ := h
  rw [defaultV_eq, defaultV_eq, hd, hty.isStr]

/-- the entries a property contributes, given whether it is present; `none` = the constructor panics -/
def defAdd (ip : String × PropT) (present : Bool) : Option (List (String × V)) :=
  if present then some [] else
  match ip.2.defaultV with
  | none => some []
  | some none => none
  | some (some d) => some [(ip.1, d)]

theorem defAdd_keys {ip : String × PropT} {pr : Bool} {l : List (String × V)} (h : defAdd ip pr = some l) :
    ∀ kv, kv ∈ l → kv.1 = ip.1 := by
  unfold defAdd at h
  split at h
  · simp only [Option.some.injEq] at h; subst h; intro kv hkv; cases hkv
  · split at h
    · simp only [Option.some.injEq] at h; subst h; intro kv hkv; cases hkv
    · cases h
    · simp only [Option.some.injEq] at h; subst h
      intro kv hkv
      simp only [List.mem_singleton] at hkv; subst hkv; rfl

theorem applyDefaults_cons (ip : String × PropT) (rest : List (String × PropT)) (m : List (String × V)) :
    applyDefaults (ip :: rest) m =
      match defAdd ip (hasKey ip.1 m) with
      | none => .panic
      | some l => applyDefaults rest (m ++ l) := by
  obtain ⟨id, p⟩ := ip
  simp only [applyDefaults, defAdd]
  cases hasKey id m
  · cases p.defaultV with
    | none => simp
    | some o => cases o <;> simp
  · simp

theorem hasKey_append_of {k : String} {l : List (String × V)} (hl : ∀ kv, kv ∈ l → kv.1 ≠ k) (m : List (String × V)) :
    hasKey k (m ++ l) = hasKey k m := by
  rw [hasKey_append]
  have : hasKey k l = false := by
    cases hk : hasKey k l with
    | false => rfl
    | true =>
      obtain ⟨kv, hkv, e⟩ := List.mem_map.mp ((hasKey_iff_mem k l).mp hk)
      exact absurd e (hl kv hkv)
  rw [this, Bool.or_false]

/-- With pairwise distinct names, whether a property is present when its turn comes is whether it
    was supplied (`pres`): the defaults appended before it have other names. So the defaults are
    those of the absent properties, in table order. -/
theorem applyDefaults_eq (pres : String → Bool) : ∀ (props : List (String × PropT)) (m : List (String × V)),
    (∀ ip, ip ∈ props → hasKey ip.1 m = pres ip.1) → (props.map Prod.fst).Nodup →
    applyDefaults props m =
      if props.any (fun ip => (defAdd ip (pres ip.1)).isNone) then .panic
      else .ok (m ++ props.flatMap fun ip => (defAdd ip (pres ip.1)).getD [])
  | [], m, _, _ => by simp [applyDefaults]
  | ip :: rest, m, hpres, hnd => by
    rw [List.map_cons, List.nodup_cons] at hnd
    rw [applyDefaults_cons, hpres ip (List.mem_cons_self ..), List.any_cons, List.flatMap_cons]
    cases hA : defAdd ip (pres ip.1) with
    | none => rfl
    | some l =>
      have hk : ∀ ip', ip' ∈ rest → hasKey ip'.1 (m ++ l) = pres ip'.1 := fun ip' h' => by
        rw [hasKey_append_of (fun kv hkv e =>
          hnd.1 (List.mem_map.mpr ⟨ip', h', e.symm.trans (defAdd_keys hA kv hkv)⟩)) m]
        exact hpres ip' (List.mem_cons_of_mem _ h')
      simp only [Option.isNone_some, Bool.false_or, Option.getD_some, ← List.append_assoc]
      exact applyDefaults_eq pres rest (m ++ l) hk hnd.2

theorem applyDefaults_perm {props props' : List (String × PropT)} (hp : props.Perm props')
    (hnd : (props.map Prod.fst).Nodup) (m : List (String × V)) :
    Out.Rel List.Perm (applyDefaults props m) (applyDefaults props' m) := by
  rw [applyDefaults_eq (fun k => hasKey k m) props m (fun _ _ => rfl) hnd,
    applyDefaults_eq (fun k => hasKey k m) props' m (fun _ _ => rfl) ((hp.map _).nodup_iff.mp hnd), hp.any_eq]
  split
  · exact Out.Rel.panic_panic
  · exact Out.Rel.ok_ok.mpr ((hp.flatMap_right _).append_left m)

theorem applyDefaults_forall2 {props props' : List (String × PropT)} (h : Forall2 PropEntryEq props props')
    (m : List (String × V)) : applyDefaults props m = applyDefaults props' m := by
  induction h generalizing m with
  | nil => rfl
  | @cons a b _ _ hab _ ih =>
    have : defAdd a = defAdd b := by
      funext pr
      unfold defAdd
      rw [hab.1, hab.2.defaultV]
    rw [applyDefaults_cons, applyDefaults_cons, this, hab.1]
    cases defAdd b (hasKey b.1 m) with
    | none => rfl
    | some l => exact ih _

theorem applyDefaults_propsEq {props props' : List (String × PropT)} (hp : PropsEq props props')
    (hnd : (props.map Prod.fst).Nodup) (m : List (String × V)) :
    Out.Rel List.Perm (applyDefaults props m) (applyDefaults props' m) := by
  obtain ⟨mid, f, p⟩ := hp
  rw [applyDefaults_forall2 f]
  have hnd' : (mid.map Prod.fst).Nodup := by rw [← f.map_eq (fun a b hab => hab.1)]; exact hnd
  exact applyDefaults_perm p hnd' m

def TyIn (t t' : Ty) : Prop := t ≈ₜ t' ∧ t.Distinct

def VIn (v w : V) : Prop := v ≈ᵥ w ∧ v.DistinctKeys

theorem interdeps_propsEq {props props' : List (String × PropT)} (hp : PropsEq props props') (isSet : String → Bool) :
    Out.Rel (fun _ _ => True) (interdeps props isSet) (interdeps props' isSet) := by
  have rule : ∀ {a b : String × PropT}, PropEntryEq a b → (RuleHolds isSet a.1 a.2 ↔ RuleHolds isSet b.1 b.2) := by
    intro a b hab
    obtain ⟨e, _, e1, e2, e3, e4, _, _⟩ := hab
    unfold RuleHolds
    rw [e, e1, e2, e3, e4]
  have hiff : interdeps props isSet = .ok () ↔ interdeps props' isSet = .ok () := by
    rw [C03_rules_iff, C03_rules_iff]
    constructor
    · intro h np' hnp'
      obtain ⟨np, hnp, hr⟩ := (hp.flip (S := fun b a => PropEntryEq a b) (fun _ _ x => x)).mem_left hnp'
      exact (rule hr).mp (h np hnp)
    · intro h np hnp
      obtain ⟨np', hnp', hr⟩ := hp.mem_left hnp
      exact (rule hr).mpr (h np' hnp')
  exact Out.Rel.of_ok (fun _ ha => ⟨(), hiff.mp ha, trivial⟩) (fun _ hb => ⟨(), hiff.mpr hb⟩)

theorem reqMissing_propsEq {props props' : List (String × PropT)} (hp : PropsEq props props') (m : List (String × V)) :
    reqMissing props m = reqMissing props' m := by
  unfold reqMissing
  exact hp.any_eq (fun a b ⟨hk, _, hreq, _⟩ => by rw [hk, hreq])

structure PropsOK (props props' : List (String × PropT)) : Prop where
  eq : PropsEq props props'
  nodup : (props.map Prod.fst).Nodup
  tys : ∀ np, np ∈ props → np.2.ty.Distinct
  dflts : ∀ np, np ∈ props → ∀ d, np.2.defaultV = some (some d) → d.DistinctKeys

theorem PropsOK.lookup {props props' : List (String × PropT)} (h : PropsOK props props') (k : String) :
    ORel PropT.PermEq (lookupS k props) (lookupS k props') :=
  lookupS_permRel (S := PropT.PermEq) h.eq h.nodup k

theorem PropsOK.agree {props props' : List (String × PropT)} (hp : PropsOK props props') :
    PropsAgree TyIn VIn props props' where
  lookup k := by
    rcases (hp.lookup k).cases with ⟨h1, h2⟩ | ⟨p, p', h1, h2, hty, _, _, _, _, _, hdis⟩ <;> rw [h1, h2]
    · trivial
    · exact ⟨⟨hty, hp.tys _ (lookupS_mem h1)⟩, hdis⟩
  length_eq := hp.eq.length_eq
  defaults h :=
    (applyDefaults_sRel props (fun np hnp d hd => ⟨.refl d, hp.dflts np hnp d hd⟩) h).comp
      (applyDefaults_propsEq hp.eq hp.nodup _) fun _ _ _ h1 h2 => h1.permR h2
  rules := interdeps_propsEq hp.eq
  required := reqMissing_propsEq hp.eq

structure MembersOK (ms ms' : List (Key × Ty)) : Prop where
  eq : MembersEq ms ms'
  nodup : (ms.map Prod.fst).Nodup
  tys : ∀ m, m ∈ ms → m.2.Distinct

theorem MembersOK.lookup {ms ms' : List (Key × Ty)} (h : MembersOK ms ms') (k : Key) :
    ORel Ty.PermEq (lookupK k ms) (lookupK k ms') :=
  lookupK_permRel (S := Ty.PermEq) h.eq h.nodup k

theorem MembersOK.agree {ms ms' : List (Key × Ty)} (h : MembersOK ms ms') (k : Key) :
    ORel TyIn (lookupK k ms) (lookupK k ms') := by
  rcases (h.lookup k).cases with ⟨h1, h2⟩ | ⟨t, t', h1, h2, ht⟩ <;> rw [h1, h2]
  · trivial
  · exact ⟨ht, h.tys _ (lookupK_mem h1)⟩

/-- **Order independence, both sides at once.** Reordering the tables of the schema and of the
    environment (names pairwise distinct) and the map entries of the argument changes neither the
    verdict nor, up to the order of map entries, the result. (With the same argument the results
    still differ in order: defaults are appended in table order.) -/
theorem run_permEqT (x : Ext) (n : Nat) : ∀ (op : Op) {env env' : Env} {t t' : Ty} {v w : V},
    EnvEq env env' → EnvDistinct env → t ≈ₜ t' → t.Distinct → v ≈ᵥ w → v.DistinctKeys →
    Out.Rel V.PermEq (run x n op env t v) (run x n op env' t' w) := by
  induction n with
  | zero => intros; exact Out.Rel.fuel_fuel
  | succ n run_permEqT =>
    intro op env env' t t' v w henv hdenv ht hdt hv hdv
    have ih : ∀ {env env'}, EnvEq env env' → EnvDistinct env → RecRel (run x n) env env' TyIn VIn := fun he hde =>
      ⟨fun op _ _ _ _ ht hv => run_permEqT op he hde ht.1 ht.2 hv.1 hv.2, fun h hd => ⟨h, hd⟩⟩
    have htop := run_topDistinct x n
    cases t
    case int | float | str | bool | pattern | any => cases ht; exact run_permEq x (n + 1) op env _ v w hv hdv
    case enumInt vals u =>
      cases ht with
      | @enumInt _ vals' _ hp =>
        have e : run x (n + 1) op env' (.enumInt vals' u) w = run x (n + 1) op env (.enumInt vals u) w := by
          simp only [run, runEnumInt, hp.contains_eq]
        rw [e]; exact run_permEq x (n + 1) op env _ v w hv hdv
    case enumStr vals =>
      cases ht with
      | @enumStr _ vals' hp =>
        have e : run x (n + 1) op env' (.enumStr vals') w = run x (n + 1) op env (.enumStr vals) w := by
          simp only [run, runEnumStr, hp.contains_eq]
        rw [e]; exact run_permEq x (n + 1) op env _ v w hv hdv
    case list item a b =>
      cases ht with
      | list _ _ hi =>
        cases hdt with
        | list _ _ hdi => simp only [run]; exact runList_rel (ih henv hdenv) op ⟨hi, hdi⟩ a b hv hdv
    case map kt vt a b =>
      cases ht with
      | map _ _ hk hvt =>
        cases hdt with
        | map _ _ hdk hdvt =>
          simp only [run]
          exact runMap_rel (ih henv hdenv) op ⟨hk, hdk⟩ ⟨hvt, hdvt⟩ hk.keyTy hvt.reflectsAny a b hv hdv
    case obj id props =>
      obtain ⟨props', rfl, hp⟩ := Ty.permEq_obj_inv ht _ _ rfl
      cases hdt with
      | obj hnd htys hdf =>
        simp only [run]
        exact runObj_rel (ih henv hdenv) (PropsOK.agree ⟨hp, hnd, htys, hdf⟩) ⟨ht, .obj hnd htys hdf⟩ op hv hdv
    case oneOf ik disc inl ms =>
      obtain ⟨ms', rfl, hm⟩ := Ty.permEq_oneOf_inv ht _ _ _ _ rfl
      cases hdt with
      | oneOf hnd htys =>
        simp only [run]
        exact runOneOf_rel (ih henv hdenv) htop x op ik disc inl (MembersOK.agree ⟨hm, hnd, htys⟩) hv hdv
    case ref id =>
      cases ht
      simp only [run]
      rcases (lookupS_permRel (S := Ty.PermEq) henv hdenv.1 id).cases with ⟨h1, h2⟩ | ⟨o, o', h1, h2, hl⟩ <;> rw [h1, h2]
      · exact Out.Rel.panic_panic
      · exact run_permEqT op henv hdenv hl (hdenv.2 _ (lookupS_mem h1)) hv hdv
    case scope objs root =>
      obtain ⟨objs', rfl, he⟩ := Ty.permEq_scope_inv ht _ _ rfl
      cases hdt with
      | scope hnd htys =>
        simp only [run]
        rcases (lookupS_permRel (S := Ty.PermEq) he hnd root).cases with ⟨h1, h2⟩ | ⟨o, o', h1, h2, hl⟩ <;> rw [h1, h2]
        · exact Out.Rel.panic_panic
        · exact run_permEqT op he ⟨hnd, htys⟩ hl (htys _ (lookupS_mem h1)) hv hdv

/-- executable check of `Ty.Distinct` for concrete schemas: sound, and `false` when the depth budget
    `n` (64 for a default value) runs out -/
def tyDistinctB : Nat → Ty → Bool
  | 0, _ => false
  | n + 1, .list item _ _ => tyDistinctB n item
  | n + 1, .map k v _ _ => tyDistinctB n k && tyDistinctB n v
  | n + 1, .obj _ props =>
    decide (props.map Prod.fst).Nodup &&
      props.all (fun np => tyDistinctB n np.2.ty &&
        (match np.2.defaultV with
          | some (some d) => distinctB 64 d
          | _ => true))
  | n + 1, .oneOf _ _ _ ms => decide (ms.map Prod.fst).Nodup && ms.all (fun m => tyDistinctB n m.2)
  | n + 1, .scope objs _ => decide (objs.map Prod.fst).Nodup && objs.all (fun p => tyDistinctB n p.2)
  | _ + 1, _ => true

theorem tyDistinctB_sound : ∀ (n : Nat) (t : Ty), tyDistinctB n t = true → t.Distinct
  | 0, _, h => by simp [tyDistinctB] at h
  | n + 1, t, h => by
    have ih := tyDistinctB_sound n
    cases t with
    | list item a b => simp only [tyDistinctB] at h; exact .list a b (ih _ h)
    | map k v a b =>
      simp only [tyDistinctB, Bool.and_eq_true] at h
      exact .map a b (ih _ h.1) (ih _ h.2)
    | obj id props =>
      simp only [tyDistinctB, Bool.and_eq_true, List.all_eq_true, decide_eq_true_eq] at h
      refine .obj h.1 (fun np hnp => ih _ (h.2 np hnp).1) (fun np hnp d hd => ?_)
      have := (h.2 np hnp).2
      rw [hd] at this
      exact distinctB_sound 64 d this
    | oneOf ik d inl ms =>
      simp only [tyDistinctB, Bool.and_eq_true, List.all_eq_true, decide_eq_true_eq] at h
      exact .oneOf h.1 (fun m hm => ih _ (h.2 m hm))
    | scope objs root =>
      simp only [tyDistinctB, Bool.and_eq_true, List.all_eq_true, decide_eq_true_eq] at h
      exact .scope h.1 (fun p hp => ih _ (h.2 p hp))
    | int a b u => exact .int a b u
    | float a b u => exact .float a b u
    | str a b p => exact .str a b p
    | bool => exact .bool
    | pattern => exact .pattern
    | any => exact .any
    | ref id => exact .ref id
    | enumInt vals u => exact .enumInt vals u
    | enumStr vals => exact .enumStr vals

end Arca
