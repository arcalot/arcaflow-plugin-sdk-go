import ArcaModel.Lemmas.AtpServer
/-
  The ghost identity used by `C07_terminal_once` (the goroutine index) and the run ID on the wire,
  for `C07_terminal_run_id`: every terminal message counted for goroutine `g` carries the run ID of
  the work-start that spawned `g`, and is a work-done or a step-fatal (not server-fatal) error message.
-/
namespace Arca.AtpServer

variable {c : Cfg} {s s' : State} {a : Act}

/-- `g` is a step goroutine spawned for run ID `r` -/
def Acc (s : State) (g : Gid) (r : Run) : Prop :=
  ∃ x, s.gs[g]? = some x ∧ x.kind = .step ∧ x.run = r

/-- a `ServerError` reported by step goroutine `g` carries the run ID of `g` and is step-fatal,
    not server-fatal -/
def errOk (s : State) (e : SErr) : Prop :=
  ∀ g, e.origin = .step g → Acc s g e.run ∧ e.stepFatal = true ∧ e.serverFatal = false

/-- a work-done message carries the run ID of the step goroutine `g` it is counted for; an error
    message is `errOk` -/
def msgOk (s : State) : OutMsg → Prop
  | .hello => True
  | .workDone r g => Acc s g r
  | .error e => errOk s e

/-- the invariant behind `C07_terminal_run_id`: `msgOk` of every message written to the client,
    `errOk` of every `ServerError` still on `workDone` or held by `handleClosure` -/
structure InvR (s : State) : Prop where
  written : ∀ m ∈ s.written, msgOk s m
  held : ∀ e ∈ heldErrs s, errOk s e

def GsExt (s s' : State) : Prop :=
  ∀ (g : Nat) (x : G), s.gs[g]? = some x → ∃ x', s'.gs[g]? = some x' ∧ x'.kind = x.kind ∧ x'.run = x.run

theorem gsExt_refl {s s' : State} (h : s'.gs = s.gs) : GsExt s s' := by
  intro g x hx; exact ⟨x, by rw [h]; exact hx, rfl, rfl⟩

theorem gsExt_set {s s' : State} {g : Nat} {x : G} {pc : GPc} (hx : s.gs[g]? = some x)
    (h : s'.gs = s.gs.set g { x with pc := pc }) : GsExt s s' := by
  intro g' y hy
  rcases getElem?_set_cases hx { x with pc := pc } g' with ⟨rfl, e⟩ | ⟨_, e⟩
  · cases hx.symm.trans hy
    exact ⟨{ x with pc := pc }, h ▸ e, rfl, rfl⟩
  · exact ⟨y, h ▸ e ▸ hy, rfl, rfl⟩

theorem gsExt_append {s s' : State} {y : G} (h : s'.gs = s.gs ++ [y]) : GsExt s s' := by
  intro g x hx
  exact ⟨x, by rw [h, List.getElem?_append_left (getElem?_lt hx)]; exact hx, rfl, rfl⟩

theorem acc_mono {s s' : State} (h : GsExt s s') {g : Gid} {r : Run} (a : Acc s g r) : Acc s' g r := by
  obtain ⟨x, hx, hk, hr⟩ := a
  obtain ⟨x', hx', hk', hr'⟩ := h g x hx
  exact ⟨x', hx', by rw [hk', hk], by rw [hr', hr]⟩

theorem errOk_mono {s s' : State} (h : GsExt s s') {e : SErr} (a : errOk s e) : errOk s' e := by
  intro g hg
  obtain ⟨h1, h2, h3⟩ := a g hg
  exact ⟨acc_mono h h1, h2, h3⟩

theorem msgOk_mono {s s' : State} (h : GsExt s s') {m : OutMsg} (a : msgOk s m) : msgOk s' m := by
  cases m with
  | hello => trivial
  | workDone r g => exact acc_mono h a
  | error e => exact errOk_mono h a

theorem invR_frame {s s' : State} (h : InvR s) (hg : GsExt s s') (hw : s'.written = s.written)
    (hh : heldErrs s' = heldErrs s) : InvR s' := by
  constructor
  · intro m hm; rw [hw] at hm; exact msgOk_mono hg (h.written m hm)
  · intro e he; rw [hh] at he; exact errOk_mono hg (h.held e he)

theorem invR_init : InvR State.init := by
  constructor <;> simp [State.init, heldErrs]

theorem heldErrs_eq {s s' : State} (h1 : s'.h = s.h) (h2 : s'.queue = s.queue) : heldErrs s' = heldErrs s := by
  simp [heldErrs, h1, h2]

theorem invR_step (hL : InvL s) (h : InvR s) (hs : Step c s a s') : InvR s' := by
  cases hs with
  | offer | closeInput | breakOutput | cancel | observe | readFail | report | clientDone | eof | loopEnd
  | hCancel | close | ret =>
    exact invR_frame h (gsExt_refl rfl) rfl (heldErrs_eq rfl rfl)
  | hello =>
    refine ⟨fun m hm => ?_, h.held⟩
    rcases List.mem_append.mp hm with hm | hm
    · exact h.written m hm
    · cases List.mem_singleton.mp hm; trivial
  | accept => exact invR_frame h (gsExt_append (y := ⟨_, _, _, .spawned⟩) rfl) rfl (heldErrs_eq rfl rfl)
  | @loopSend e _ hl =>
    refine ⟨h.written, fun e2 he => ?_⟩
    rcases List.mem_append.mp (List.append_assoc .. ▸ he : e2 ∈ heldErrs s ++ [e]) with he | he
    · exact h.held e2 he
    · cases List.mem_singleton.mp he
      exact fun g hgo => nomatch (hL _ _ hl).symm.trans hgo
  | gStart _ hx | exit _ hx | lost hx | sigOk hx | sigFail _ hx =>
    exact invR_frame h (gsExt_set hx rfl) rfl (heldErrs_eq rfl rfl)
  | @write g x hx hk =>
    have hext : GsExt s { setPc s g x .doneOk with wg := s.wg - 1, written := s.written ++ [.workDone x.run g] } :=
      gsExt_set hx rfl
    refine ⟨fun m hm => ?_, fun e he => errOk_mono hext (h.held e he)⟩
    rcases List.mem_append.mp hm with hm | hm
    · exact msgOk_mono hext (h.written m hm)
    · cases List.mem_singleton.mp hm
      exact acc_mono hext ⟨x, hx, hk, rfl⟩
  | @gSend g x hx =>
    have hext : GsExt s { setPc s g x .doneErr with queue := s.queue ++ [gErr g x], wg := s.wg - 1 } :=
      gsExt_set hx rfl
    refine ⟨fun m hm => msgOk_mono hext (h.written m hm), fun e2 he => ?_⟩
    rcases List.mem_append.mp (List.append_assoc .. ▸ he : e2 ∈ heldErrs s ++ [gErr g x]) with he | he
    · exact errOk_mono hext (h.held e2 he)
    · cases List.mem_singleton.mp he
      intro g' hgo
      cases hk : x.kind <;> simp only [gErr, hk] at hgo ⊢ <;> cases hgo
      exact ⟨acc_mono hext ⟨x, hx, hk, rfl⟩, trivial, trivial⟩
  | recv hh hq => exact invR_frame h (gsExt_refl rfl) rfl (by simp [heldErrs, hh, hq])
  | recvClosed hh => exact invR_frame h (gsExt_refl rfl) rfl (by simp [heldErrs, hh])
  | emitDrop hh | emitLost hh =>
    exact ⟨h.written, fun e he => h.held e (by rw [heldErrs, hh]; exact List.mem_cons_of_mem _ he)⟩
  | emitFatal hh | emit hh =>
    refine ⟨fun m hm => ?_, fun e he => h.held e (by rw [heldErrs, hh]; exact List.mem_cons_of_mem _ he)⟩
    rcases List.mem_append.mp hm with hm | hm
    · exact h.written m hm
    · cases List.mem_singleton.mp hm
      exact h.held _ (by rw [heldErrs, hh]; exact List.mem_cons_self ..)

theorem invR_reachable (hg : c.Good) {s : State} (h : Reachable c s) : InvR s := by
  induction h with
  | init => exact invR_init
  | step hr e ih =>
    have I := inv_reachable hg hr
    exact invR_step I.s.loopOrigin ih (step_inv hg I.a e)

end Arca.AtpServer
