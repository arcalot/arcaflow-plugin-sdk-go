/-
  Lists whose images under a key function are distinct: the key determines the element.
-/
namespace Arca

theorem eq_of_map_eq_of_nodup {α β} {f : α → β} {l : List α} (nd : (l.map f).Nodup) :
    ∀ ⦃a⦄, a ∈ l → ∀ ⦃b⦄, b ∈ l → f a = f b → a = b :=
  have h := List.pairwise_map.mp nd
  List.Pairwise.forall_of_forall_of_flip (fun _ _ _ => rfl) (h.imp fun hne heq => absurd heq hne)
    (h.imp fun hne heq => absurd heq.symm hne)

end Arca
