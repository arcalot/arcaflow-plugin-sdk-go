import ArcaModel.Lemmas.Stuck
/-
  `run` never panics on well-formed schemas (`run_np`, for `C04_no_panic` and `C04_no_panic_closed`).
-/
namespace Arca
open Out

theorem mem_of_lookupS_props {k : String} {props : List (String × PropT)} {p : PropT}
    (h : lookupS k props = some p) : (k, p) ∈ props := lookupS_mem h

theorem runObj_S_strAny {rec : Rec} {env : Env} {id : String} {props : List (String × PropT)} {v r : V}
    (h : runObj rec .S env id props v = .ok r) : ∃ m, r = toStrAny m := by
  unfold runObj at h
  simp only at h
  split at h
  · split at h
    · cases h
    · obtain ⟨_, _, h2⟩ := bind_eq_ok h
      obtain ⟨m', _, h3⟩ := bind_eq_ok h2
      exact ⟨m', (Out.ok.inj h3).symm⟩
  · cases h

/-- Serialize of a schema that denotes an object yields a `map[string]any` (which is what one-of
    Serialize asserts of its member's result without a check) -/
theorem run_S_objLike (x : Ext) {fuel : Nat} {env : Env} {t : Ty} {v r : V} (ho : ObjLike env t)
    (h : run x fuel .S env t v = .ok r) : ∃ m, r = toStrAny m := by
  have obj : ∀ {fuel env id props}, run x fuel .S env (.obj id props) v = .ok r → ∃ m, r = toStrAny m := by
    intro fuel env id props h
    cases fuel with
    | zero => cases h
    | succ n => exact runObj_S_strAny (rec := run x n) (id := id) h
  cases fuel with
  | zero => cases h
  | succ n =>
    cases t with
    | obj => exact obj h
    | ref id =>
      obtain ⟨oid, ps, hl⟩ := ho
      simp only [run, hl] at h
      exact obj h
    | scope objs root =>
      obtain ⟨oid, ps, hl⟩ := ho
      simp only [run, hl] at h
      exact obj h
    | _ => exact False.elim ho

theorem run_np (x : Ext) : ∀ (fuel : Nat) (op : Op) (env : Env) (t : Ty) (v : V),
    EnvWF env → WF env t → Avoids .panic (run x fuel op env t v)
  | 0, _, _, _, _, _, _ => avoids_panic_fuel
  | n + 1, op, env, t, v, henv, hwf => by
    have ih : ∀ {env : Env} {t : Ty}, EnvWF env → WF env t → ∀ op v, Avoids .panic (run x n op env t v) :=
      fun he ht op v => run_np x n op _ _ v he ht
    simp only [run]
    cases hwf with
    | any => exact avoids_runAny _ _ _ nofun
    | list hi => exact avoids_runList (fun _ _ e _ op' _ => ih henv hi op' e) _ _
    | map hk hv => exact avoids_runMap (fun _ _ _ k e _ op' _ => ⟨ih henv hk op' k, ih henv hv op' e⟩) _ _
    | obj hp hd =>
      refine avoids_runObj (fun _ => avoids_objRaw (fun _ => hd) (fun name p hpr _ _ => ?_)
        (fun _ _ _ _ e _ np hnp => ih henv (hp np hnp) .U e) (fun np hnp _ _ _ dv _ => ih henv (hp np hnp) .U dv))
        (fun _ _ _ _ e _ np hnp op' _ => ih henv (hp np hnp) op' e) (fun _ => ih henv (.obj hp hd) .U v)
      exact ih henv (hp (name, p) (hpr ▸ List.mem_singleton_self _)) .U v
    | oneOf hm ho =>
      exact avoids_runOneOf (fun _ _ _ _ _ mem hmem op' _ => ih henv (hm mem hmem) op' _)
        (fun _ mem hmem _ _ hr => run_S_objLike x (ho mem hmem) hr)
    | ref hl =>
      simp only [hl]
      exact ih henv (henv _ (lookupS_mem hl)) op v
    | scope hl hobjs =>
      simp only [hl]
      exact ih hobjs (hobjs _ (lookupS_mem hl)) op v
    | _ => simp

end Arca
