import ArcaModel.Lemmas.RoundTrip
import ArcaModel.Model.Describe
/-
  The CBOR leg of the round trip (C01).

  ATP sends a serialized value through `cbor.Marshal` and decodes it into `any` on the other
  side. `cborNorm` (Model/Describe.lean) is what that does to the Go types. This file proves that
  Unserialize does not see the difference: whatever Unserialize accepts, it accepts in its
  CBOR-normalised form as well, with the identical result (`unser_cborNorm`).

  The only requirement is that the value is a Go value at all (`GoV`): the model type `V` is wider
  than Go's value universe (it can write down an `int64` holding 2^63), and `cborNorm` - like the
  real encoder - decides by the NUMBER, not by the kind, whether an integer travels as unsigned.
  That Serialize and Unserialize return Go values when given Go values (`serialize_goV`,
  `unserialize_goV`; the defaults of the schema have to be Go values, `DefGo`) is the second half
  of the file. A lemma named `f_cn` says that `f` accepts the `cborNorm` of what it accepts.
-/
namespace Arca
open Out

/-- a scalar that a defined (named) type can wrap, within the range of its kind -/
def GoScalar : V → Bool
  | .int k n => k.inRange n
  | .float _ _ => true
  | .str _ => true
  | .bool _ => true
  | _ => false

mutual
/-- The values of `V` that are Go values: every integer lies within the range of its kind, a byte
    is below 256, a defined type wraps a scalar (as the docstring of `V.named` says). -/
def GoV : V → Bool
  | .int k n => k.inRange n
  | .bytes b => b.all (· < 256)
  | .list xs => GoVL xs
  | .map _ kvs => GoVKV kvs
  | .named x => GoScalar x
  | _ => true
termination_by structural v => v
def GoVL : List V → Bool
  | [] => true
  | x :: xs => GoV x && GoVL xs
termination_by structural l => l
def GoVKV : List (V × V) → Bool
  | [] => true
  | (k, e) :: rest => GoV k && GoV e && GoVKV rest
termination_by structural l => l
end

def GoVS (m : List (String × V)) : Prop := ∀ kv, kv ∈ m → GoV kv.2 = true

theorem inInt64_of_inRange_int64 {n : Int} (h : IKind.int64.inRange n = true) : inInt64 n = true := by
  simp [IKind.inRange, IKind.lo, IKind.hi, IKind.signed, IKind.bits, inInt64, minInt64, maxInt64] at h ⊢
  exact ⟨decide_eq_true h.1, decide_eq_true h.2⟩

theorem goVS_of_strKeys : ∀ {kvs : List (V × V)} {m : List (String × V)}, strKeys? kvs = some m →
    GoVKV kvs = true → GoVS m
  | [], m, h, _ => by simp [strKeys?] at h; subst h; intro kv hkv; simp at hkv
  | (k, v) :: rest, m, h, hg => by
    cases k <;> simp only [strKeys?, reduceCtorEq] at h
    rename_i s
    cases hr : strKeys? rest with
    | none => simp [hr] at h
    | some a =>
      simp [hr] at h
      subst h
      simp only [GoVKV, Bool.and_eq_true] at hg
      intro kv hkv
      rcases List.mem_cons.mp hkv with heq | hkv'
      · subst heq; exact hg.1.2
      · exact goVS_of_strKeys hr hg.2 kv hkv'

theorem goVKV_of_goVS : ∀ {m : List (String × V)}, GoVS m →
    GoVKV (m.map fun (kv : String × V) => (V.str kv.1, kv.2)) = true
  | [], _ => by simp [GoVKV]
  | (k, v) :: rest, h => by
    simp only [List.map_cons, GoVKV, GoV, Bool.true_and, Bool.and_eq_true]
    exact ⟨h (k, v) (by simp), goVKV_of_goVS (fun kv hkv => h kv (List.mem_cons_of_mem _ hkv))⟩

theorem goV_toStrAny {m : List (String × V)} (h : GoVS m) : GoV (toStrAny m) = true := by
  simp only [toStrAny, GoV]
  exact goVKV_of_goVS h

def normS (m : List (String × V)) : List (String × V) := m.map fun kv => (kv.1, cborNorm kv.2)

theorem cborNormKV_strKeys : ∀ {kvs : List (V × V)} {m : List (String × V)}, strKeys? kvs = some m →
    cborNormKV kvs = (normS m).map fun (kv : String × V) => (V.str kv.1, kv.2)
  | [], m, h => by simp [strKeys?] at h; subst h; simp [cborNormKV, normS]
  | (k, v) :: rest, m, h => by
    cases k <;> simp only [strKeys?, reduceCtorEq] at h
    rename_i s
    cases hr : strKeys? rest with
    | none => simp [hr] at h
    | some a =>
      simp [hr] at h
      subst h
      have := cborNormKV_strKeys hr
      simp only [cborNormKV, cborNorm, this, normS, List.map_cons]

theorem cborNorm_toStrAny (m : List (String × V)) :
    cborNorm (toStrAny m) = .map .anyAny ((normS m).map fun (kv : String × V) => (V.str kv.1, kv.2)) := by
  simp only [toStrAny, cborNorm]
  rw [cborNormKV_strKeys (strKeys_toStrAny m)]

theorem normS_keys (m : List (String × V)) : (normS m).map Prod.fst = m.map Prod.fst := by
  simp [normS]

theorem lookupS_normS (k : String) : ∀ (m : List (String × V)), lookupS k (normS m) = (lookupS k m).map cborNorm
  | [] => by simp [normS, lookupS]
  | (k', v) :: rest => by
    have ih := lookupS_normS k rest
    simp only [normS, List.map_cons, lookupS] at ih ⊢
    split
    · simp
    · exact ih

theorem eraseKey_normS (k : String) : ∀ (m : List (String × V)), eraseKey k (normS m) = normS (eraseKey k m)
  | [] => by simp [normS, eraseKey]
  | (k', v) :: rest => by
    have ih := eraseKey_normS k rest
    simp only [normS, List.map_cons, eraseKey] at ih ⊢
    split
    · exact ih
    · simp [ih]

theorem goVS_eraseKey {k : String} : ∀ {m : List (String × V)}, GoVS m → GoVS (eraseKey k m)
  | [], _ => by intro kv hkv; simp [eraseKey] at hkv
  | (k', v) :: rest, h => by
    have hr : GoVS rest := fun kv hkv => h kv (List.mem_cons_of_mem _ hkv)
    simp only [eraseKey]
    split
    · exact goVS_eraseKey hr
    · intro kv hkv
      rcases List.mem_cons.mp hkv with heq | hkv'
      · subst heq; exact h (k', v) (by simp)
      · exact goVS_eraseKey hr kv hkv'

/-- what a one-of hands to the selected member: the map itself, or the map without the discriminator -/
theorem goVS_clone {disc : String} {inl : Bool} {m : List (String × V)} (h : GoVS m) :
    GoVS (if inl = true then m else eraseKey disc m) := by
  cases inl
  · exact goVS_eraseKey h
  · exact h

/-! ### the input mappers do not look at the kind of an integer or float -/

theorem intInputMapper_cn {u : Option Units} {a : V} {n : Int} (h : intInputMapper u a = .ok n) :
    intInputMapper u (cborNorm a) = .ok n := by
  cases a with
  | int k i => simp only [cborNorm]; split <;> exact h
  | named a => simp [intInputMapper, plain] at h
  | _ => simp only [cborNorm]; exact h

theorem floatInputMapper_cn {x : Ext} {u : Option Units} {a : V} {b : Nat} (h : floatInputMapper x u a = .ok b) :
    floatInputMapper x u (cborNorm a) = .ok b := by
  cases a with
  | int k i => simp only [cborNorm]; split <;> exact h
  | named a => simp [floatInputMapper, plain] at h
  | _ => simp only [cborNorm]; exact h

theorem stringInputMapper_cn {x : Ext} {a : V} {s : String} (h : stringInputMapper x a = .ok s) :
    stringInputMapper x (cborNorm a) = .ok s := by
  cases a with
  | int k i => simp only [cborNorm]; split <;> exact h
  | named a => simp [stringInputMapper, plain] at h
  | _ => simp only [cborNorm]; exact h

theorem boolInputMapper_cn {a : V} {b : Bool} (h : boolInputMapper a = .ok b) :
    boolInputMapper (cborNorm a) = .ok b := by
  cases a with
  | int k i => simp only [cborNorm]; split <;> exact h
  | named a => simp [boolInputMapper, cerr] at h
  | _ => simp only [cborNorm]; exact h

theorem bind_ok_of_ok {α β} {o1 o2 : Out α} {f : α → Out β} {r : β} (h : ∀ n, o1 = .ok n → o2 = .ok n)
    (h1 : o1.bind f = .ok r) : o2.bind f = .ok r := by
  obtain ⟨n, h2, h3⟩ := bind_eq_ok h1
  rw [h n h2]
  exact h3

theorem bind_rewrapC_ok_of_ok {α β} {o1 o2 : Out α} {f : α → Out β} {r : β} (h : ∀ n, o1 = .ok n → o2 = .ok n)
    (h1 : (rewrapC o1).bind f = .ok r) : (rewrapC o2).bind f = .ok r :=
  bind_ok_of_ok (fun n hn => rewrapC_eq_ok.mpr (h n (rewrapC_eq_ok.mp hn))) h1

theorem discDenotes_cn {x : Ext} {ik : Bool} {d : V} {key : Key} (h : DiscDenotes x ik d key) :
    DiscDenotes x ik (cborNorm d) key := by
  unfold DiscDenotes at h ⊢
  by_cases hik : ik = true
  · simp only [hik, if_true] at h ⊢
    obtain ⟨n, hn, hk⟩ := h
    exact ⟨n, (intInputMapper_ok_iff _ _ _).mp (intInputMapper_cn ((intInputMapper_ok_iff _ _ _).mpr hn)), hk⟩
  · simp only [hik, if_false, Bool.false_eq_true] at h ⊢
    obtain ⟨s, hs, hk⟩ := h
    exact ⟨s, (stringInputMapper_ok_iff _ _ _).mp (stringInputMapper_cn ((stringInputMapper_ok_iff _ _ _).mpr hs)), hk⟩

theorem forall2_cn {g : V → Out V} (hg : ∀ a r, GoV a = true → g a = .ok r → g (cborNorm a) = .ok r)
    {xs ys : List V} (h : Forall2 (fun e y => g e = .ok y) xs ys) (hgo : GoVL xs = true) :
    Forall2 (fun e y => g e = .ok y) (cborNormL xs) ys := by
  induction h with
  | nil => simp only [cborNormL]; exact .nil
  | cons hab _ ih =>
    simp only [GoVL, Bool.and_eq_true] at hgo
    simp only [cborNormL]
    exact .cons (hg _ _ hgo.1 hab) (ih hgo.2)

theorem forall2_kv_cn {gk gv : V → Out V}
    (hk : ∀ a r, GoV a = true → gk a = .ok r → gk (cborNorm a) = .ok r)
    (hv : ∀ a r, GoV a = true → gv a = .ok r → gv (cborNorm a) = .ok r)
    {kvs kvs' : List (V × V)}
    (h : Forall2 (fun (kv kv' : V × V) => gk kv.1 = .ok kv'.1 ∧ gv kv.2 = .ok kv'.2) kvs kvs') (hgo : GoVKV kvs = true) :
    Forall2 (fun (kv kv' : V × V) => gk kv.1 = .ok kv'.1 ∧ gv kv.2 = .ok kv'.2) (cborNormKV kvs) kvs' := by
  induction h with
  | nil => simp only [cborNormKV]; exact .nil
  | @cons a b as bs hab _ ih =>
    obtain ⟨k, e⟩ := a
    simp only [GoVKV, Bool.and_eq_true] at hgo
    simp only [cborNormKV]
    exact .cons ⟨hk _ _ hgo.1.1 hab.1, hv _ _ hgo.1.2 hab.2⟩ (ih hgo.2)

theorem cborNorm_under (v : V) : cborNorm v.under = cborNorm v := by
  cases v <;> simp only [V.under, cborNorm]

theorem goV_under {v : V} (h : GoV v = true) : GoV v.under = true := by
  cases v <;> try exact h
  rename_i y
  cases y <;> first | exact h | rfl | cases h

theorem anyConvert_cn : ∀ (n : Nat) (a r : V), GoV a = true → anyConvert n a = .ok r →
    anyConvert n (cborNorm a) = .ok r
  | 0, _, _, _, h => by simp [anyConvert] at h
  | n + 1, a, r, hg, h => by
    have ih := anyConvert_cn n
    have hg' := goV_under hg
    rw [← cborNorm_under]
    rcases anyConvert_ok h with ⟨k, i, hu, hk, rfl⟩ | ⟨k, b, hu, rfl⟩ | ⟨s, hu, rfl⟩ | ⟨b, hu, rfl⟩ | ⟨xs, ys, hxs, hall, rfl⟩ |
      ⟨sh, kvs, kvs', hu, hall, hd, rfl⟩
    · -- the decoder returns the number as `uint64` or `int64`; either converts when it is an int64 number
      rw [hu] at hg' ⊢
      simp only [GoV] at hg'
      have hi : inInt64 i = true := hk.elim (fun hk => inInt64_of_inRange_int64 (hk ▸ hg')) id
      simp only [cborNorm]
      split <;> simp [anyConvert, V.under, intInputMapper, hi, Out.bind]
    · rw [hu]; simp [cborNorm, anyConvert, V.under]
    · rw [hu]; simp [cborNorm, anyConvert, V.under]
    · rw [hu]; simp [cborNorm, anyConvert, V.under]
    · cases hv : a.under <;> rw [hv] at hxs hg' <;> cases hxs <;> simp only [cborNorm]
      · exact anyConvert_slice (v := .bytes _) rfl hall
      · exact anyConvert_slice (v := .list _) rfl (forall2_cn ih hall (by simpa only [GoV] using hg'))
    · rw [hu] at hg' ⊢
      simp only [cborNorm]
      exact anyConvert_map (forall2_kv_cn ih ih hall (by simpa only [GoV] using hg')) hd

/-! ### Unserialize does not look at the static type of a map (`map[string]any` / `map[any]any`) -/

theorem run_U_shape (x : Ext) : ∀ (n : Nat) (env : Env) (t : Ty) (sh sh' : MapShape) (kvs : List (V × V)),
    (sh.key = .any ∨ sh.key = .string) → (sh'.key = .any ∨ sh'.key = .string) →
    run x n .U env t (.map sh kvs) = run x n .U env t (.map sh' kvs)
  | 0, _, _, _, _, _, _, _ => rfl
  | n + 1, env, t, sh, sh', kvs, h1, h2 => by
    have ih := run_U_shape x n
    cases t with
    | int => rfl
    | float => rfl
    | str => rfl
    | bool => rfl
    | pattern => rfl
    | enumInt => rfl
    | enumStr => rfl
    | list => rfl
    | map => rfl
    | obj => rfl
    | any => rfl
    | oneOf ik d inl ms =>
      have e1 : (sh.key == KeyTy.any || sh.key == KeyTy.string) = true := by
        rcases h1 with h | h <;> simp [h]
      have e2 : (sh'.key == KeyTy.any || sh'.key == KeyTy.string) = true := by
        rcases h2 with h | h <;> simp [h]
      simp only [run, runOneOf, oneOfUnser, V.mapEntries?, e1, e2]
    | ref id =>
      simp only [run]
      cases lookupS id env with
      | none => rfl
      | some o => exact ih env o sh sh' kvs h1 h2
    | scope objs root =>
      simp only [run]
      cases lookupS root objs with
      | none => rfl
      | some o => exact ih objs o sh sh' kvs h1 h2

def RecCN (rec : Rec) (env : Env) : Prop :=
  ∀ t a r, GoV a = true → rec .U env t a = .ok r → rec .U env t (cborNorm a) = .ok r

theorem mapEntries_cn_none {a : V} (hg : GoV a = true) (h : a.mapEntries? = none) :
    (cborNorm a).mapEntries? = none := by
  have hint : ∀ (k : IKind) (n : Int), (cborNorm (.int k n)).mapEntries? = none := by
    intro k n
    simp only [cborNorm]
    by_cases hn : n ≥ 0 <;> simp [hn, V.mapEntries?]
  cases a <;> simp only [V.mapEntries?, reduceCtorEq] at h
  all_goals first | exact hint _ _ | (simp only [cborNorm, V.mapEntries?]; done) | skip
  rename_i y
  simp only [GoV] at hg
  cases y <;> simp only [GoScalar, Bool.false_eq_true] at hg
  · simp only [cborNorm, V.mapEntries?]
  · rename_i k n
    have := hint k n
    simp only [cborNorm] at this ⊢
    exact this
  · simp only [cborNorm, V.mapEntries?]
  · simp only [cborNorm, V.mapEntries?]

/-- defaulting appends the same entries whatever the values of the supplied properties are -/
theorem applyDefaults_tail : ∀ (props : List (String × PropT)) (m m' m2 : List (String × V)),
    applyDefaults props m = .ok m' → m2.map Prod.fst = m.map Prod.fst →
    ∃ tl, m' = m ++ tl ∧ applyDefaults props m2 = .ok (m2 ++ tl)
  | [], m, m', m2, h, _ => by
    simp [applyDefaults] at h
    exact ⟨[], by simp [h], by simp [applyDefaults]⟩
  | (id, p) :: rest, m, m', m2, h, hk => by
    have hkey : hasKey id m2 = hasKey id m := hasKey_eq_of_keys hk id
    simp only [applyDefaults, hkey] at h ⊢
    split at h
    · rename_i hh
      simp only [hh, if_true]
      exact applyDefaults_tail rest m m' m2 h hk
    · rename_i hh
      simp only [hh]
      split at h
      · exact applyDefaults_tail rest m m' m2 h hk
      · simp at h
      · rename_i d hd
        obtain ⟨tl, h1, h2⟩ := applyDefaults_tail rest (m ++ [(id, d)]) m' (m2 ++ [(id, d)]) h (by simp [hk])
        exact ⟨(id, d) :: tl, by simp [h1], by simp [h2]⟩

theorem objEntryU_cn {rec : Rec} {env : Env} {props : List (String × PropT)} (ih : RecCN rec env) {k : String} {a r : V}
    (hg : GoV a = true) (h : objEntryU rec env props k a = .ok r) : objEntryU rec env props k (cborNorm a) = .ok r := by
  obtain ⟨p, hp, hd, hu⟩ := objEntryU_ok_iff.mp h
  exact objEntryU_ok_iff.mpr ⟨p, hp, hd, ih _ _ _ hg hu⟩

theorem allSV_normS_tail {f : String → V → Out V}
    (hf : ∀ k a r, GoV a = true → f k a = .ok r → f k (cborNorm a) = .ok r) (tl : List (String × V)) :
    ∀ (m m' : List (String × V)), GoVS m → AllSV f (m ++ tl) m' → AllSV f (normS m ++ tl) m'
  | [], _, _, h => by simpa [normS] using h
  | (k, v) :: rest, m', hg, h => by
    simp only [List.cons_append] at h
    cases h with
    | cons hx hr =>
      simp only [normS, List.map_cons, List.cons_append]
      exact .cons (hf _ _ _ (hg (k, v) (by simp)) hx)
        (allSV_normS_tail hf tl rest _ (fun kv hkv => hg kv (List.mem_cons_of_mem _ hkv)) hr)

theorem objRaw_cn {rec : Rec} {env : Env} {props : List (String × PropT)} {a : V} {m' : List (String × V)}
    (ih : RecCN rec env) (hg : GoV a = true) (h : objRaw rec env props a = .ok m') :
    objRaw rec env props (cborNorm a) = .ok m' := by
  rcases objRaw_ok_iff.mp h with ⟨hv, name, p, r, rfl, hdis, hr, rfl⟩ | ⟨sh, kvs, skvs, m, rfl, hs, hany, hd, hall⟩
  · exact objRaw_ok_iff.mpr (.inl ⟨mapEntries_cn_none hg hv, name, p, r, rfl, hdis, ih _ _ _ hg hr, rfl⟩)
  · -- the normalised map has the same keys, so the same defaults are appended, after the normalised entries
    simp only [GoV] at hg
    obtain ⟨tl, rfl, hd'⟩ := applyDefaults_tail props skvs m (normS skvs) hd (normS_keys skvs)
    refine objRaw_ok_iff.mpr (.inr ⟨.anyAny, cborNormKV kvs, normS skvs, normS skvs ++ tl, by rw [cborNorm], ?_, ?_, hd', ?_⟩)
    · rw [cborNormKV_strKeys hs]
      exact strKeys_toStrAny _
    · simpa only [normS, List.any_map, Function.comp_def] using hany
    · exact allSV_normS_tail (fun k a r hga hka => objEntryU_cn ih hga hka) tl skvs m' (goVS_of_strKeys hs hg) hall

theorem oneOfUnser_cn {rec : Rec} {x : Ext} {env : Env} {ik : Bool} {disc : String} {inl : Bool}
    {members : List (Key × Ty)} {a r : V} (ih : RecCN rec env)
    (hshape : ∀ t kvs, rec .U env t (.map .strAny kvs) = rec .U env t (.map .anyAny kvs))
    (hg : GoV a = true) (h : oneOfUnser rec x env ik disc inl members a = .ok r) :
    oneOfUnser rec x env ik disc inl members (cborNorm a) = .ok r := by
  obtain ⟨key, m, mt, mr, @⟨sh, kvs, dk, d, _, _, _, _, hfind, hkey, hm, hmt⟩, h3, h4⟩ := oneOfUnser_ok_iff.mp h
  simp only [GoV] at hg
  have hld : lookupS disc m = some d := find_lookup_disc disc kvs m dk d hm hfind
  -- the same route on the normalised map: same key, same member, same member result
  rw [cborNorm]
  refine oneOfUnser_ok_iff.mpr ⟨key, normS m, mt, mr,
    .mk (Or.inl rfl) (dk := .str disc) ?_ (discDenotes_cn hkey) ?_ hmt, ?_, h4⟩
  · rw [cborNormKV_strKeys hm]
    exact lookup_find_disc disc (cborNorm d) (normS m) (by rw [lookupS_normS, hld]; rfl)
  · rw [cborNormKV_strKeys hm]; exact strKeys_toStrAny _
  · have hclone : (if inl = true then normS m else eraseKey disc (normS m)) =
        normS (if inl = true then m else eraseKey disc m) := by
      cases inl <;> simp only [eraseKey_normS, Bool.false_eq_true, if_false, if_true]
    have := ih mt _ _ (goV_toStrAny (goVS_clone (goVS_of_strKeys hm hg))) h3
    rw [cborNorm_toStrAny] at this
    rw [hclone, toStrAny, hshape]
    exact this

theorem cborNormL_length : ∀ (xs : List V), (cborNormL xs).length = xs.length
  | [] => by simp [cborNormL]
  | _ :: xs => by simp [cborNormL, cborNormL_length xs]

theorem cborNormKV_length : ∀ (kvs : List (V × V)), (cborNormKV kvs).length = kvs.length
  | [] => by simp [cborNormKV]
  | (_, _) :: rest => by simp [cborNormKV, cborNormKV_length rest]

/-- THE CBOR LEG. Whatever Unserialize accepts (a Go value), it accepts in its CBOR-normalised
    form too, with the identical result - for every schema, environment and externals. No
    well-formedness of the schema is needed. -/
theorem unser_cborNorm (x : Ext) : ∀ (n : Nat) (env : Env) (t : Ty) (a r : V), GoV a = true →
    run x n .U env t a = .ok r → run x n .U env t (cborNorm a) = .ok r
  | 0, _, _, _, _, _, h => by simp [run] at h
  | n + 1, env, t, a, r, hg, h => by
    have ih := unser_cborNorm x n
    cases t with
    | int mn mx u =>
      simp only [run, runInt] at h ⊢
      exact bind_rewrapC_ok_of_ok (fun _ => intInputMapper_cn) h
    | float mn mx u =>
      simp only [run, runFloat] at h ⊢
      exact bind_rewrapC_ok_of_ok (fun _ => floatInputMapper_cn) h
    | str mn mx pat =>
      simp only [run, runStr] at h ⊢
      exact bind_rewrapC_ok_of_ok (fun _ => stringInputMapper_cn) h
    | bool =>
      simp only [run, runBool] at h ⊢
      exact bind_ok_of_ok (fun _ => boolInputMapper_cn) h
    | pattern =>
      simp only [run, runPattern] at h ⊢
      exact bind_rewrapC_ok_of_ok (fun _ => stringInputMapper_cn) h
    | enumInt vals u =>
      simp only [run, runEnumInt] at h ⊢
      exact bind_rewrapC_ok_of_ok (fun _ => intInputMapper_cn) h
    | enumStr vals =>
      simp only [run, runEnumStr] at h ⊢
      exact bind_rewrapC_ok_of_ok (fun _ => stringInputMapper_cn) h
    | list item mn mx =>
      obtain ⟨xs, ys, hxs, hl, hall, hr⟩ := (C02_list_unser_iff x n env item mn mx a r).mp h
      cases a <;> simp only [V.sliceElems?, reduceCtorEq, Option.some.injEq] at hxs
      · -- []byte travels as a byte string
        simp only [cborNorm]; exact h
      · subst hxs
        simp only [GoV] at hg
        have hall' := forall2_cn (ih env item) hall hg
        refine (C02_list_unser_iff x n env item mn mx _ r).mpr ⟨cborNormL _, ys, by simp [cborNorm, V.sliceElems?], ?_, hall', hr⟩
        rw [cborNormL_length]; exact hl
    | map kt vt mn mx =>
      obtain ⟨sh, kvs, kvs', ha, hl, hall, hd, hr⟩ := (C02_map_unser_iff x n env kt vt mn mx a r).mp h
      subst ha
      simp only [GoV] at hg
      have hall' := forall2_kv_cn (ih env kt) (ih env vt) hall hg
      refine (C02_map_unser_iff x n env kt vt mn mx _ r).mpr ⟨.anyAny, cborNormKV kvs, kvs', by simp [cborNorm], ?_, hall', hd, hr⟩
      rw [cborNormKV_length]; exact hl
    | obj id props =>
      simp only [run, runObj] at h ⊢
      exact bind_ok_of_ok (fun m hm => objRaw_cn (ih env) hg hm) h
    | oneOf ik d inl ms =>
      simp only [run, runOneOf] at h ⊢
      exact oneOfUnser_cn (ih env)
        (fun t kvs => run_U_shape x n env t .strAny .anyAny kvs (Or.inr rfl) (Or.inl rfl)) hg h
    | ref id =>
      obtain ⟨o, hl, h'⟩ := run_ref_ok h
      simp only [run, hl]
      exact ih env o a r hg h'
    | scope objs root =>
      obtain ⟨o, hl, h'⟩ := run_scope_ok h
      simp only [run, hl]
      exact ih objs o a r hg h'
    | any =>
      simp only [run, runAny] at h ⊢
      exact anyConvert_cn _ _ _ hg h

theorem inInt64_wrapInt64 (n : Int) : inInt64 (wrapInt64 n) = true := by
  unfold inInt64 minInt64 maxInt64 wrapInt64
  have h1 : (2:Int)^64 = 18446744073709551616 := by decide
  have h2 : (2:Int)^63 = 9223372036854775808 := by decide
  simp only [h1, h2]
  have h3 := Int.emod_nonneg n (b := 18446744073709551616) (by decide)
  have h4 := Int.emod_lt_of_pos n (b := 18446744073709551616) (by decide)
  simp only [Bool.and_eq_true, decide_eq_true_eq]
  split <;> omega

theorem inInt64_clamp (v : Int) : inInt64 (if inInt64 v = true then v else minInt64) = true := by
  by_cases h : inInt64 v = true
  · simp only [h, if_true]
  · rw [if_neg h]; decide

theorem inInt64_truncInt64 (b : Nat) : inInt64 (F64.truncInt64 b) = true := by
  unfold F64.truncInt64
  split
  · decide
  · decide
  · exact inInt64_clamp _

theorem inRange_int64_of_inInt64 {n : Int} (h : inInt64 n = true) : IKind.int64.inRange n = true := by
  simp [IKind.inRange, IKind.lo, IKind.hi, IKind.signed, IKind.bits, inInt64, minInt64, maxInt64] at h ⊢
  exact ⟨of_decide_eq_true h.1, of_decide_eq_true h.2⟩

theorem asInt_inInt64 {v : V} {k : Int} (h : asInt v = .ok k) : inInt64 k = true := by
  unfold asInt at h
  split at h
  · simp at h; subst h; exact inInt64_wrapInt64 _
  · simp at h; subst h; exact inInt64_truncInt64 _
  · simp [cerr] at h

theorem goVL_of_forall2 {g : V → Out V} (hg : ∀ e y, GoV e = true → g e = .ok y → GoV y = true)
    {xs ys : List V} (h : Forall2 (fun e y => g e = .ok y) xs ys) (hgo : GoVL xs = true) : GoVL ys = true := by
  induction h with
  | nil => rfl
  | cons hab _ ih =>
    simp only [GoVL, Bool.and_eq_true] at hgo ⊢
    exact ⟨hg _ _ hgo.1 hab, ih hgo.2⟩

theorem goVKV_of_forall2 {gk gv : V → Out V}
    (hk : ∀ e y, GoV e = true → gk e = .ok y → GoV y = true)
    (hv : ∀ e y, GoV e = true → gv e = .ok y → GoV y = true)
    {kvs kvs' : List (V × V)}
    (h : Forall2 (fun (kv kv' : V × V) => gk kv.1 = .ok kv'.1 ∧ gv kv.2 = .ok kv'.2) kvs kvs') (hgo : GoVKV kvs = true) :
    GoVKV kvs' = true := by
  induction h with
  | nil => rfl
  | @cons a b as bs hab _ ih =>
    obtain ⟨k, e⟩ := a
    obtain ⟨k', e'⟩ := b
    simp only [GoVKV, Bool.and_eq_true] at hgo ⊢
    exact ⟨⟨hk _ _ hgo.1.1 hab.1, hv _ _ hgo.1.2 hab.2⟩, ih hgo.2⟩

theorem goVS_of_allSV {f : String → V → Out V} (hf : ∀ k e y, GoV e = true → f k e = .ok y → GoV y = true)
    {m m' : List (String × V)} (h : AllSV f m m') (hgo : GoVS m) : GoVS m' := by
  intro kv hkv
  obtain ⟨v, hv, hfv⟩ := h.of_mem_right kv hkv
  exact hf _ _ _ (hgo _ hv) hfv

theorem goVL_bytes : ∀ (b : List Nat), (b.all (· < 256)) = true →
    GoVL (b.map fun (n : Nat) => V.int .uint8 (Int.ofNat n)) = true
  | [], _ => rfl
  | n :: rest, h => by
    simp only [List.all_cons, Bool.and_eq_true, decide_eq_true_eq] at h
    simp only [List.map_cons, GoVL, GoV, Bool.and_eq_true]
    refine ⟨?_, goVL_bytes rest h.2⟩
    simp [IKind.inRange, IKind.lo, IKind.hi, IKind.signed, IKind.bits]
    omega

theorem goVL_sliceElems {v : V} {xs : List V} (hg : GoV v = true) (h : v.sliceElems? = some xs) : GoVL xs = true := by
  cases v <;> simp only [V.sliceElems?, reduceCtorEq, Option.some.injEq] at h
  · subst h; exact goVL_bytes _ (by simpa [GoV] using hg)
  · subst h; simpa [GoV] using hg

theorem anyConvert_goV : ∀ (n : Nat) (a r : V), GoV a = true → anyConvert n a = .ok r → GoV r = true
  | 0, _, _, _, h => by simp [anyConvert] at h
  | n + 1, a, r, hg, h => by
    have ih := anyConvert_goV n
    have hg' := goV_under hg
    rcases anyConvert_ok h with ⟨k, i, hu, hk, rfl⟩ | ⟨_, _, _, rfl⟩ | ⟨_, _, rfl⟩ | ⟨_, _, rfl⟩ | ⟨xs, ys, hxs, hall, rfl⟩ |
      ⟨sh, kvs, kvs', hu, hall, _, rfl⟩
    · rw [hu] at hg'
      simp only [GoV] at hg' ⊢
      exact hk.elim (fun hk => hk ▸ hg') inRange_int64_of_inInt64
    · rfl
    · rfl
    · rfl
    · simp only [GoV]
      exact goVL_of_forall2 ih hall (goVL_sliceElems hg' hxs)
    · rw [hu] at hg'
      simp only [GoV] at hg' ⊢
      exact goVKV_of_forall2 ih ih hall hg'

theorem oneOfSelect_goV {rec : Rec} {env : Env} {ik : Bool} {disc : String} {inl : Bool} {members : List (Key × Ty)}
    {m : List (String × V)} {sel : Key × Ty × List (String × V)} (hgm : GoVS m)
    (h : oneOfSelect rec env ik disc inl members false m = .ok sel) : GoV sel.1.toV = true ∧ GoVS sel.2.2 := by
  simp only [oneOfSelect] at h
  split at h
  · simp [cerr] at h
  · rename_i key hkey
    split at h
    · simp [cerr] at h
    · rename_i mt hmt
      simp only [Bool.false_eq_true, if_false] at h
      simp at h
      subst h
      refine ⟨?_, ?_⟩
      · split at hkey
        · rename_i n hl
          split at hkey
          · simp at hkey; subst hkey
            exact hgm _ (lookupS_mem hl)
          · simp at hkey
        · rename_i s hl
          split at hkey
          · simp at hkey
          · simp at hkey; subst hkey; rfl
        · simp at hkey
      · exact goVS_clone hgm

theorem goVS_append {m : List (String × V)} {k : String} {v : V} (hm : GoVS m) (hv : GoV v = true) :
    GoVS (m ++ [(k, v)]) := by
  intro kv hkv
  rcases List.mem_append.mp hkv with h | h
  · exact hm kv h
  · simp at h; subst h; exact hv

theorem serialize_goV (x : Ext) : ∀ (n : Nat) (env : Env) (t : Ty) (r w : V), GoV r = true →
    run x n .S env t r = .ok w → GoV w = true
  | 0, _, _, _, _, _, h => by simp [run] at h
  | n + 1, env, t, r, w, hg, h => by
    have ih := serialize_goV x n
    cases t with
    | int mn mx u =>
      simp only [run, runInt] at h
      obtain ⟨k, h1, h2⟩ := bind_eq_ok h
      obtain ⟨_, _, h4⟩ := bind_eq_ok h2
      simp at h4; subst h4
      simp only [GoV]
      exact inRange_int64_of_inInt64 (asInt_inInt64 h1)
    | float mn mx u =>
      simp only [run, runFloat] at h
      obtain ⟨k, h1, h2⟩ := bind_eq_ok h
      obtain ⟨_, _, h4⟩ := bind_eq_ok h2
      simp at h4; subst h4; rfl
    | str mn mx pat =>
      simp only [run, runStr] at h
      obtain ⟨k, h1, h2⟩ := bind_eq_ok h
      obtain ⟨_, _, h4⟩ := bind_eq_ok h2
      simp at h4; subst h4; rfl
    | bool =>
      simp only [run, runBool] at h
      obtain ⟨k, h1, h2⟩ := bind_eq_ok h
      simp at h2; subst h2; rfl
    | pattern =>
      simp only [run, runPattern] at h
      split at h
      · simp at h; subst h; rfl
      · simp [cerr] at h
    | enumInt vals u =>
      simp only [run, runEnumInt] at h
      obtain ⟨k, h1, h2⟩ := bind_eq_ok h
      split at h2
      · simp at h2; subst h2
        simp only [GoV]
        exact inRange_int64_of_inInt64 (asInt_inInt64 h1)
      · simp [cerr] at h2
    | enumStr vals =>
      simp only [run, runEnumStr] at h
      obtain ⟨k, h1, h2⟩ := bind_eq_ok h
      split at h2
      · simp at h2; subst h2; rfl
      · simp [cerr] at h2
    | list item mn mx =>
      simp only [run, runList] at h
      split at h
      · simp [cerr] at h
      · rename_i xs hxs
        obtain ⟨_, _, h2⟩ := bind_eq_ok h
        obtain ⟨_, _, h3⟩ := bind_eq_ok h2
        obtain ⟨ys, h4, h5⟩ := bind_eq_ok h3
        simp at h5; subst h5
        simp only [GoV]
        exact goVL_of_forall2 (ih env item) (allIdx_addSeg_iff.mp (forIdx_ok_iff.mp h4)) (goVL_sliceElems hg hxs)
    | map kt vt mn mx =>
      simp only [run, runMap] at h
      split at h
      · simp [cerr] at h
      · rename_i sh kvs hm
        cases mapEntries_eq hm
        obtain ⟨_, _, h2⟩ := bind_eq_ok h
        obtain ⟨_, _, h3⟩ := bind_eq_ok h2
        obtain ⟨kvs', h4, h5⟩ := bind_eq_ok h3
        simp at h5; subst h5
        simp only [GoV] at hg ⊢
        exact goVKV_of_forall2 (ih env kt) (ih env vt) (allKV_entry_iff.mp (forKV_ok_iff.mp h4)) hg
    | obj id props =>
      simp only [run, runObj] at h
      split at h
      · rename_i kvs
        split at h
        · simp [cerr] at h
        · rename_i m hm
          obtain ⟨_, _, h2⟩ := bind_eq_ok h
          obtain ⟨m', h3, h4⟩ := bind_eq_ok h2
          simp at h4; subst h4
          simp only [GoV] at hg
          refine goV_toStrAny (goVS_of_allSV ?_ (forSV_ok_iff.mp h3) (goVS_of_strKeys hm hg))
          intro k e y he hy
          obtain ⟨p, _, hy⟩ := objEntry_ok_iff.mp hy
          exact ih _ _ _ _ he hy
      · simp [cerr] at h
    | oneOf ik d inl ms =>
      simp only [run, runOneOf] at h
      split at h
      · rename_i kvs
        split at h
        · simp [cerr] at h
        · rename_i m hm
          simp only [GoV] at hg
          obtain ⟨sel, h1, h2⟩ := bind_eq_ok h
          obtain ⟨r', h3, h4⟩ := bind_eq_ok h2
          obtain ⟨hkey, hclone⟩ := oneOfSelect_goV (goVS_of_strKeys hm hg) h1
          have hr' := ih _ _ _ _ (goV_toStrAny hclone) h3
          split at h4
          · rename_i rk
            split at h4
            · rename_i rm hrm
              simp at h4; subst h4
              simp only [GoV] at hr'
              have hgrm := goVS_of_strKeys hrm hr'
              apply goV_toStrAny
              split
              · exact hgrm
              · exact goVS_append hgrm hkey
            · simp [cerr] at h4
          · simp at h4
      · simp [cerr] at h
    | ref id =>
      obtain ⟨o, _, h'⟩ := run_ref_ok h
      exact ih env o r w hg h'
    | scope objs root =>
      obtain ⟨o, _, h'⟩ := run_scope_ok h
      exact ih objs o r w hg h'
    | any =>
      simp only [run, runAny] at h
      exact anyConvert_goV _ _ _ hg h

/-- every property default in the schema is a Go value (defaults are produced by `encoding/json`
    decoding into `any`, so they are: float64, string, bool, nil, `[]any`, `map[string]any`) -/
inductive DefGo : Ty → Prop
  | int {a b u} : DefGo (.int a b u)
  | float {a b u} : DefGo (.float a b u)
  | str {a b p} : DefGo (.str a b p)
  | bool : DefGo .bool
  | pattern : DefGo .pattern
  | enumInt {vs u} : DefGo (.enumInt vs u)
  | enumStr {vs} : DefGo (.enumStr vs)
  | any : DefGo .any
  | ref {id} : DefGo (.ref id)
  | list {item a b} : DefGo item → DefGo (.list item a b)
  | map {k v a b} : DefGo k → DefGo v → DefGo (.map k v a b)
  | obj {id props} : (∀ np, np ∈ props → DefGo np.2.ty) →
      (∀ np d, np ∈ props → np.2.defaultV = some (some d) → GoV d = true) → DefGo (.obj id props)
  | oneOf {ik d inl members} : (∀ m, m ∈ members → DefGo m.2) → DefGo (.oneOf ik d inl members)
  | scope {objs root} : (∀ p, p ∈ objs → DefGo p.2) → DefGo (.scope objs root)

def EnvDefGo (env : Env) : Prop := ∀ p, p ∈ env → DefGo p.2

theorem applyDefaults_goVS : ∀ (props : List (String × PropT)) (m m' : List (String × V)),
    (∀ np d, np ∈ props → np.2.defaultV = some (some d) → GoV d = true) →
    applyDefaults props m = .ok m' → GoVS m → GoVS m'
  | [], m, m', _, h, hg => by simp [applyDefaults] at h; subst h; exact hg
  | (id, p) :: rest, m, m', hd, h, hg => by
    have hd' : ∀ np d, np ∈ rest → np.2.defaultV = some (some d) → GoV d = true :=
      fun np d hnp => hd np d (List.mem_cons_of_mem _ hnp)
    simp only [applyDefaults] at h
    split at h
    · exact applyDefaults_goVS rest m m' hd' h hg
    · split at h
      · exact applyDefaults_goVS rest m m' hd' h hg
      · simp at h
      · rename_i d hdv
        exact applyDefaults_goVS rest _ m' hd' h (goVS_append hg (hd (id, p) d (by simp) hdv))

theorem objRaw_goV {rec : Rec} {env : Env} {props : List (String × PropT)} {v : V} {m' : List (String × V)}
    (hrec : ∀ np, np ∈ props → ∀ a r, GoV a = true → rec .U env np.2.ty a = .ok r → GoV r = true)
    (hdefs : ∀ np d, np ∈ props → np.2.defaultV = some (some d) → GoV d = true)
    (hg : GoV v = true) (h : objRaw rec env props v = .ok m') : GoVS m' := by
  rcases objRaw_ok_iff.mp h with ⟨_, name, p, r, rfl, _, hr, rfl⟩ | ⟨sh, kvs, skvs, m, rfl, hs, _, hd, hall⟩
  · intro kv hkv
    cases List.mem_singleton.mp hkv
    exact hrec (name, p) List.mem_cons_self v r hg hr
  · simp only [GoV] at hg
    refine goVS_of_allSV (fun k e y he hy => ?_) hall (applyDefaults_goVS props skvs m hdefs hd (goVS_of_strKeys hs hg))
    obtain ⟨p, hp, _, hu⟩ := objEntryU_ok_iff.mp hy
    exact hrec (k, p) (lookupS_mem hp) e y he hu

theorem goVS_setKey {k : String} {v : V} (hv : GoV v = true) : ∀ {m : List (String × V)}, GoVS m → GoVS (setKey k v m)
  | [], _ => by intro kv hkv; simp [setKey] at hkv; subst hkv; exact hv
  | (k', v') :: rest, h => by
    have hr : GoVS rest := fun kv hkv => h kv (List.mem_cons_of_mem _ hkv)
    simp only [setKey]
    split
    · intro kv hkv
      rcases List.mem_cons.mp hkv with heq | hkv'
      · subst heq; exact hv
      · exact hr kv hkv'
    · intro kv hkv
      rcases List.mem_cons.mp hkv with heq | hkv'
      · subst heq; exact h (k', v') (by simp)
      · exact goVS_setKey hv hr kv hkv'

theorem discDenotes_goV {x : Ext} {ik : Bool} {d : V} {key : Key} (h : DiscDenotes x ik d key) : GoV key.toV = true := by
  unfold DiscDenotes at h
  by_cases hik : ik = true
  · simp only [hik, if_true] at h
    obtain ⟨n, hn, hk⟩ := h
    subst hk
    simp only [Key.toV, GoV]
    exact inRange_int64_of_inInt64 (intDenotes_inInt64 hn)
  · simp only [hik, if_false, Bool.false_eq_true] at h
    obtain ⟨s, _, hk⟩ := h
    subst hk; rfl

theorem attachDisc_goV {disc : String} {key : Key} {mr r : V} (hk : GoV key.toV = true) (hm : GoV mr = true)
    (h : attachDisc disc key mr = .ok r) : GoV r = true := by
  unfold attachDisc at h
  split at h
  · split at h
    · rename_i hrm
      cases h
      simp only [GoV] at hm
      exact goV_toStrAny (goVS_setKey hk (goVS_of_strKeys hrm hm))
    · cases h
  · cases h; exact hm

theorem unserialize_goV (x : Ext) : ∀ (n : Nat) (env : Env) (t : Ty) (v r : V), EnvDefGo env → DefGo t →
    GoV v = true → run x n .U env t v = .ok r → GoV r = true
  | 0, _, _, _, _, _, _, _, h => by simp [run] at h
  | n + 1, env, t, v, r, henv, hdef, hg, h => by
    have ih := unserialize_goV x n
    cases hdef with
    | int =>
      obtain ⟨k, hd, _, hr⟩ := (C02_int_unser_iff x n env _ _ _ v r).mp h
      subst hr; simp only [GoV]
      exact inRange_int64_of_inInt64 (intDenotes_inInt64 hd)
    | float =>
      obtain ⟨b, _, _, hr⟩ := (C02_float_unser_iff x n env _ _ _ v r).mp h
      subst hr; rfl
    | str =>
      obtain ⟨s, _, _, hr⟩ := (C02_str_unser_iff x n env _ _ _ v r).mp h
      subst hr; rfl
    | bool =>
      obtain ⟨b, _, hr⟩ := (C02_bool_unser_iff x n env v r).mp h
      subst hr; rfl
    | pattern =>
      obtain ⟨s, _, _, hr⟩ := (C02_pattern_unser_iff x n env v r).mp h
      subst hr; rfl
    | enumInt =>
      obtain ⟨k, hd, _, hr⟩ := (C02_enumInt_unser_iff x n env _ _ v r).mp h
      subst hr; simp only [GoV]
      exact inRange_int64_of_inInt64 (intDenotes_inInt64 hd)
    | enumStr =>
      obtain ⟨s, _, _, hr⟩ := (C02_enumStr_unser_iff x n env _ v r).mp h
      subst hr; rfl
    | any =>
      simp only [run, runAny] at h
      exact anyConvert_goV _ _ _ hg h
    | @ref id =>
      obtain ⟨o, hl, h'⟩ := run_ref_ok h
      exact ih env o v r henv (henv _ (lookupS_mem hl)) hg h'
    | list hi =>
      obtain ⟨xs, ys, hxs, _, hall, hr⟩ := (C02_list_unser_iff x n env _ _ _ v r).mp h
      subst hr; simp only [GoV]
      exact goVL_of_forall2 (fun e y => ih env _ e y henv hi) hall (goVL_sliceElems hg hxs)
    | map hk hv =>
      obtain ⟨sh, kvs, kvs', ha, _, hall, _, hr⟩ := (C02_map_unser_iff x n env _ _ _ _ v r).mp h
      subst ha hr
      simp only [GoV] at hg ⊢
      exact goVKV_of_forall2 (fun e y => ih env _ e y henv hk) (fun e y => ih env _ e y henv hv) hall hg
    | obj hp hd =>
      obtain ⟨m', h1, _, rfl⟩ := run_obj_U_ok h
      exact goV_toStrAny (objRaw_goV (fun np hnp a r => ih env _ a r henv (hp np hnp)) hd hg h1)
    | @oneOf ik disc inl members hm =>
      simp only [run, runOneOf] at h
      obtain ⟨key, m, mt, mr, ⟨_, _, hkey, hms, hmt⟩, h3, h4⟩ := oneOfUnser_ok_iff.mp h
      simp only [GoV] at hg
      exact attachDisc_goV (discDenotes_goV hkey)
        (ih env mt _ mr henv (hm _ (lookupK_mem hmt)) (goV_toStrAny (goVS_clone (goVS_of_strKeys hms hg))) h3) h4
    | @scope objs root hobjs =>
      obtain ⟨o, hl, h'⟩ := run_scope_ok h
      exact ih objs o v r hobjs (hobjs _ (lookupS_mem hl)) hg h'

/-! ### an executable check of `DefGo`, for the non-vacuity examples -/

def defGoB : Nat → Ty → Bool
  | 0, _ => false
  | n + 1, t =>
    match t with
    | .list item _ _ => defGoB n item
    | .map k v _ _ => defGoB n k && defGoB n v
    | .obj _ props => props.all fun np => defGoB n np.2.ty &&
        (match np.2.defaultV with
          | some (some d) => GoV d
          | _ => true)
    | .oneOf _ _ _ members => members.all fun m => defGoB n m.2
    | .scope objs _ => objs.all fun p => defGoB n p.2
    | _ => true

theorem defGoB_sound : ∀ (n : Nat) (t : Ty), defGoB n t = true → DefGo t
  | 0, _, h => by simp [defGoB] at h
  | n + 1, t, h => by
    have ih := defGoB_sound n
    cases t with
    | int => exact .int
    | float => exact .float
    | str => exact .str
    | bool => exact .bool
    | pattern => exact .pattern
    | enumInt => exact .enumInt
    | enumStr => exact .enumStr
    | any => exact .any
    | ref => exact .ref
    | list item a b => exact .list (ih _ (by simpa [defGoB] using h))
    | map k v a b =>
      simp only [defGoB, Bool.and_eq_true] at h
      exact .map (ih _ h.1) (ih _ h.2)
    | obj id props =>
      simp only [defGoB, List.all_eq_true, Bool.and_eq_true] at h
      refine .obj (fun np hnp => ih _ (h np hnp).1) (fun np d hnp hd => ?_)
      have := (h np hnp).2
      simpa [hd] using this
    | oneOf ik d inl members =>
      simp only [defGoB, List.all_eq_true] at h
      exact .oneOf (fun m hmm => ih _ (h m hmm))
    | scope objs root =>
      simp only [defGoB, List.all_eq_true] at h
      exact .scope (fun p hp => ih _ (h p hp))

theorem envDefGo_nil : EnvDefGo [] := by intro p hp; simp at hp

end Arca
