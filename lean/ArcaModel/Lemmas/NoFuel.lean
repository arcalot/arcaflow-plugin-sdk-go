import ArcaModel.Lemmas.Stuck
/-
  Unserialize on recursive scopes needs only a budget linear in the nesting depth of the input
  (C14, "self-referential object graphs work on all finite inputs"), provided recursion through
  references always consumes input: no object with exactly one property (the single-property
  shorthand passes a non-map value on unchanged) and no defaults (a default is schema-supplied
  input of its own depth).
-/
namespace Arca
open Out

/-- `Avoids .fuel` unfolded; the lemmas of `Avoids` are used -/
def Out.NF {α} (o : Out α) : Prop := o ≠ .fuel

theorem nf_rewrapP {α} {a : Out α} (ha : NF a) : NF (rewrapP a) := avoids_rewrapP (s := .fuel) ha

/-- `vfits d v`: the containers of `v` are nested at most `d` deep -/
def vfits : Nat → V → Bool
  | _, .nil => true
  | _, .bool _ => true
  | _, .int _ _ => true
  | _, .float _ _ => true
  | _, .str _ => true
  | _, .regex _ => true
  | _, .opaque => true
  | 0, .bytes _ => false
  | 0, .list _ => false
  | 0, .map _ _ => false
  | 0, .named _ => false
  | _ + 1, .bytes _ => true
  | n + 1, .list xs => xs.all (vfits n)
  | n + 1, .map _ kvs => kvs.all (fun kv => vfits n kv.1 && vfits n kv.2)
  | n + 1, .named v => vfits n v

theorem vfits_iff_depth : ∀ (d : Nat) (v : V), vfits d v = true ↔ v.depth ≤ d
  | 0, v => by cases v <;> simp [vfits, V.depth]
  | d + 1, v => by
    have ih := vfits_iff_depth d
    cases v with
    | list xs => simp only [vfits, V.depth, List.all_eq_true, ih, Nat.succ_le_succ_iff, depthList_le]
    | map sh kvs =>
      simp only [vfits, V.depth, List.all_eq_true, Bool.and_eq_true, ih, Nat.succ_le_succ_iff, depthKVs_le]
    | named w => simp only [vfits, V.depth, ih, Nat.succ_le_succ_iff]
    | _ => simp [vfits, V.depth]

theorem vfits_mono {d d' : Nat} {v : V} (h : vfits d v = true) (hle : d ≤ d') : vfits d' v = true :=
  (vfits_iff_depth d' v).2 (Nat.le_trans ((vfits_iff_depth d v).1 h) hle)

def Ty.isObj : Ty → Bool
  | .obj _ _ => true
  | _ => false

/-- `okTy s t`: `t` is nested at most `s` deep (references are leaves), no object in it has exactly
    one property or a default, and scope entries are objects -/
def okTy : Nat → Ty → Bool
  | 0, _ => false
  | s + 1, t =>
    match t with
    | .int _ _ _ | .float _ _ _ | .str _ _ _ | .bool | .pattern | .enumInt _ _ | .enumStr _ | .any => true
    | .ref _ => true
    | .list item _ _ => okTy s item
    | .map k v _ _ => okTy s k && okTy s v
    | .obj _ props => props.length != 1 && props.all fun np => np.2.default.isNone && okTy s np.2.ty
    | .oneOf _ _ _ members => members.all fun m => okTy s m.2
    | .scope objs _ => objs.all fun p => p.2.isObj && okTy s p.2

theorem okTy_succ : ∀ (s : Nat) (t : Ty), okTy s t = true → okTy (s + 1) t = true
  | 0, _, h => by simp [okTy] at h
  | s + 1, t, h => by
    have ih := okTy_succ s
    cases t with
    | list item a b => exact ih _ h
    | map k v a b =>
      simp only [okTy, Bool.and_eq_true] at h ⊢
      exact ⟨ih _ h.1, ih _ h.2⟩
    | obj id props =>
      simp only [okTy, Bool.and_eq_true, List.all_eq_true] at h ⊢
      exact ⟨h.1, fun np hnp => ⟨(h.2 np hnp).1, ih _ (h.2 np hnp).2⟩⟩
    | oneOf ik d inl ms =>
      simp only [okTy, List.all_eq_true] at h ⊢
      exact fun m hm => ih _ (h m hm)
    | scope objs root =>
      simp only [okTy, Bool.and_eq_true, List.all_eq_true] at h ⊢
      exact fun p hp => ⟨(h p hp).1, ih _ (h p hp).2⟩
    | _ => rfl

theorem okTy_mono {s s' : Nat} {t : Ty} (h : okTy s t = true) (hle : s ≤ s') : okTy s' t = true := by
  induction hle with
  | refl => exact h
  | step _ ih => exact okTy_succ _ _ ih

theorem okTy_obj {s : Nat} {id : String} {props : List (String × PropT)} (h : okTy (s + 1) (.obj id props) = true) :
    props.length ≠ 1 ∧ ∀ np, np ∈ props → np.2.default = none ∧ okTy s np.2.ty = true := by
  simpa [okTy] using h

def EnvOK (M : Nat) (env : Env) : Prop := ∀ p ∈ env, p.2.isObj = true ∧ okTy M p.2 = true

/-- Unserialize of an object without shorthand and defaults hands on entries of the value only -/
theorem nf_runObj_U {rec : Rec} {env : Env} {id : String} {props : List (String × PropT)} {v : V}
    (hlen : props.length ≠ 1) (hdef : ∀ np, np ∈ props → np.2.default = none)
    (h : ∀ np, np ∈ props → ∀ e, e.depth + 1 ≤ v.depth → Avoids .fuel (rec .U env np.2.ty e)) :
    Avoids .fuel (runObj rec .U env id props v) :=
  avoids_runObj
    (fun _ => avoids_objRaw nofun (fun name p hp => absurd (hp ▸ rfl) hlen)
      (fun sh kvs hkvs k e he np hnp => h np hnp e (depth_mapEntries hkvs he).2)
      (fun np _ np' hnp' _ dv hdv => by simp [PropT.defaultV, hdef np' hnp'] at hdv))
    (fun sh kvs hkvs k e he np hnp op' ho => ho ▸ h np hnp e (depth_mapEntries hkvs he).2) nofun

/-- one level of the value pays for the `M + 2` units from a reference to the next -/
theorem nf_budget_ref {M s a d n : Nat} (ha : a + 1 ≤ d) (hn : s + 1 + 2 + d * (M + 1 + 2) ≤ n + 1 + 1) :
    M + 2 + a * (M + 1 + 2) ≤ n := by
  have := Nat.mul_le_mul_right (M + 1 + 2) ha
  rw [Nat.succ_mul] at this
  omega

/-- Strong induction on the budget. Inside a schema every level costs one unit and the value gets
    no deeper (`s` counts the schema levels left, `s ≤ M`). A reference and the object of the scope
    it denotes cost one unit each, and `s` starts again at `M - 1`; but the properties of that
    object see only entries of the value, one level shallower, which frees `M + 2` units. -/
theorem nf_run_U_le (x : Ext) (M : Nat) (n : Nat) : ∀ {d s : Nat} {env : Env} {t : Ty} {v : V},
    s ≤ M → EnvOK M env → okTy s t = true → v.depth ≤ d → s + 2 + d * (M + 2) ≤ n →
    Avoids .fuel (run x n .U env t v) := by
  induction n using Nat.strongRecOn with
  | _ n ih =>
    intro d s env t v hsM henv ht hv hn
    obtain ⟨n, rfl⟩ : ∃ m, n = m + 1 := ⟨n - 1, by omega⟩
    obtain ⟨s, rfl⟩ : ∃ s', s = s' + 1 := by cases s with
      | zero => simp [okTy] at ht
      | succ s' => exact ⟨s', rfl⟩
    -- the recursive calls of the current node, on values no deeper, one schema level down
    have sub : ∀ {env' : Env} {c : Ty} {w : V}, EnvOK M env' → okTy s c = true → w.depth ≤ v.depth →
        Avoids .fuel (run x n .U env' c w) :=
      fun he hc hw => ih n (Nat.lt_succ_self n) (by omega) he hc (Nat.le_trans hw hv) (by omega)
    simp only [run]
    cases t with
    | any =>
      have : d ≤ d * (M + 2) := Nat.le_mul_of_pos_right d (by omega)
      exact avoids_runAny _ _ _ fun _ => by omega
    | list item a b =>
      exact avoids_runList (fun xs hxs e he op' ho =>
        ho ▸ sub henv ht (Nat.le_of_succ_le (depth_sliceElems hxs he))) _ _
    | map kt vt a b =>
      simp only [okTy, Bool.and_eq_true] at ht
      exact avoids_runMap (fun sh kvs hkvs k e he op' ho =>
        ho ▸ ⟨sub henv ht.1 (Nat.le_of_succ_le (depth_mapEntries hkvs he).1),
              sub henv ht.2 (Nat.le_of_succ_le (depth_mapEntries hkvs he).2)⟩) _ _
    | obj id props =>
      obtain ⟨hlen, hp⟩ := okTy_obj ht
      exact nf_runObj_U hlen (fun np hnp => (hp np hnp).1) fun np hnp e he =>
        sub henv (hp np hnp).2 (Nat.le_of_succ_le he)
    | oneOf ik disc inl ms =>
      simp only [okTy, List.all_eq_true] at ht
      exact avoids_runOneOf (fun sh kvs m hkvs hm mem hmem op' ho =>
        ho ▸ sub henv (ht mem hmem) (depth_clone_le hkvs hm inl disc)) nofun
    | scope objs root =>
      simp only [okTy, Bool.and_eq_true, List.all_eq_true] at ht
      dsimp only
      split
      · simp
      · rename_i o ho
        exact sub (fun p hp => ⟨(ht p hp).1, okTy_mono (ht p hp).2 (by omega)⟩) (ht _ (lookupS_mem ho)).2 (Nat.le_refl _)
    | ref id =>
      dsimp only
      split
      · simp
      · rename_i o ho
        -- the object the reference denotes takes one more unit; its properties see strictly
        -- shallower values, and one level of the value pays for a fresh `M`
        obtain ⟨hobj, hok⟩ := henv _ (lookupS_mem ho)
        cases o with
        | obj oid props =>
          obtain ⟨M, rfl⟩ : ∃ M', M = M' + 1 := by cases M with
            | zero => simp [okTy] at hok
            | succ M' => exact ⟨M', rfl⟩
          obtain ⟨hlen, hp⟩ := okTy_obj hok
          obtain ⟨n, rfl⟩ : ∃ m, n = m + 1 := ⟨n - 1, by omega⟩
          simp only [run]
          exact nf_runObj_U hlen (fun np hnp => (hp np hnp).1) fun np hnp e he =>
            ih n (by omega) (Nat.le_succ M) henv (hp np hnp).2 (Nat.le_refl _)
              (nf_budget_ref (Nat.le_trans he hv) hn)
        | _ => simp [Ty.isObj] at hobj
    | _ => simp

/-- **Linear budget.** On schemas of nesting depth ≤ `M` without single-property objects and without
    defaults, Unserialize of a value of container nesting depth ≤ `d` does not run out of a budget
    of `s + 2 + d * (M + 2)` (`s` = nesting depth of the schema it starts at). -/
theorem nf_run_U (x : Ext) (M : Nat) : ∀ (d s : Nat) (env : Env) (t : Ty) (v : V),
    s ≤ M → EnvOK M env → okTy s t = true → vfits d v = true →
    NF (run x (s + 2 + d * (M + 2)) .U env t v) :=
  fun d _ _ _ v hsM henv ht hv => nf_run_U_le x M _ hsM henv ht ((vfits_iff_depth d v).1 hv) (Nat.le_refl _)

end Arca
