import ArcaModel.Model.AtpServer
/-
  Invariants of the ATP server model under the repaired rules, proved by induction over `Reachable`.
  `step_inv` turns a successful `step?` into the transition relation `Step` (the rules themselves
  are unfolded in the `*_step` lemmas, one per action); every invariant is a case analysis on
  `Step`. Used by `Props/C07.lean`.
-/
namespace Arca.AtpServer

/-- the configurations the positive theorems are about (`repaired` is one) -/
structure Cfg.Good (c : Cfg) : Prop where
  cap : 1 ≤ c.cap
  close : c.closeAtLoopEnd = false
  drain : c.drainAfterStop = true
  guarded : c.signalGuarded = true

theorem repaired_good : Cfg.Good repaired := ⟨by decide, rfl, rfl, rfl⟩

def sumW (w : G → Nat) : List G → Nat
  | [] => 0
  | x :: xs => w x + sumW w xs

theorem sumW_append (w : G → Nat) (a b : List G) : sumW w (a ++ b) = sumW w a + sumW w b := by
  induction a with
  | nil => simp [sumW]
  | cons x xs ih => simp [sumW, ih, Nat.add_assoc]

theorem sumW_set (w : G → Nat) : ∀ (gs : List G) (g : Nat) (x y : G), gs[g]? = some x →
    sumW w (gs.set g y) + w x = sumW w gs + w y := by
  intro gs
  induction gs with
  | nil => intro g x y h; simp at h
  | cons a as ih =>
    intro g x y h
    cases g with
    | zero =>
      simp at h
      subst h
      simp [sumW]; omega
    | succ n =>
      simp at h
      have := ih n x y h
      simp [sumW]; omega

theorem sumW_eq_zero_iff (w : G → Nat) (gs : List G) :
    sumW w gs = 0 ↔ ∀ (g : Nat) (x : G), gs[g]? = some x → w x = 0 := by
  induction gs with
  | nil => simp [sumW]
  | cons a as ih =>
    rw [sumW, Nat.add_eq_zero_iff, ih]
    constructor
    · rintro ⟨ha, has⟩ (_ | g) x h
      · cases h; exact ha
      · exact has g x h
    · exact fun h => ⟨h 0 a rfl, fun g x hx => h (g + 1) x hx⟩

/-- 1 for a goroutine that has not yet called `wg.Done()` -/
def liveW (x : G) : Nat := if x.pc.done then 0 else 1

def live (gs : List G) : Nat := sumW liveW gs

def loopLive (l : LoopPc) : Nat := if l = .ended then 0 else 1

theorem liveW_setpc (x : G) (pc : GPc) : liveW { x with pc := pc } = if pc.done then 0 else 1 := rfl

theorem live_set {gs : List G} {g : Nat} {x : G} (pc : GPc) (h : gs[g]? = some x)
    (hd : x.pc.done = false) :
    live (gs.set g { x with pc := pc }) + (if pc.done then 1 else 0) = live gs := by
  have := sumW_set liveW gs g x { x with pc := pc } h
  rw [liveW_setpc, liveW, hd] at this
  revert this
  cases pc.done <;> simp [live] <;> omega

theorem live_spawn (gs : List G) (k : GKind) (r : Run) (src : Nat) :
    live (gs ++ [⟨k, r, src, .spawned⟩]) = live gs + 1 := by
  simp [live, sumW_append, sumW, liveW, GPc.done]

/-! ### invariant A: WaitGroup accounting, channel closure, no crash -/

structure InvA (s : State) : Prop where
  wg : s.wg = loopLive s.loop + live s.gs
  closed : s.closed = true → s.wg = 0
  crashed : s.crashed = false

variable {c : Cfg} {s s' : State} {a : Act}

theorem invA_init : InvA State.init := ⟨rfl, nofun, rfl⟩

theorem InvA.wg_pos_of_loop (h : InvA s) (hl : s.loop ≠ .ended) : 0 < s.wg := by
  have := h.wg
  simp [loopLive, hl] at this
  omega

theorem InvA.wg_pos_of_get (h : InvA s) {g : Nat} {x : G} (hx : s.gs[g]? = some x)
    (hd : x.pc.done = false) : 0 < s.wg := by
  have h1 := h.wg
  have h2 : live s.gs ≠ 0 := fun h0 => by
    have := (sumW_eq_zero_iff liveW s.gs).mp h0 g x hx
    simp [liveW, hd] at this
  omega

/-- the channel is open as long as anybody is counted in the WaitGroup -/
theorem InvA.not_closed (h : InvA s) (hw : 0 < s.wg) : s.closed = false := by
  cases hc : s.closed with
  | false => rfl
  | true => have := h.closed hc; omega

/-- The successful branches of `step?` for a configuration with the repaired structure, from a
    state that satisfies `InvA`: one constructor per branch, with what the invariants use of its
    guard and the state it yields. The branches that are missing (a send on the closed channel, an
    unguarded signal, the close at the end of the read loop, the handler returning early) are the
    ones `Cfg.Good` and `InvA` exclude: `step_inv`. -/
inductive Step (c : Cfg) (s : State) : Act → State → Prop
  | offer (it : Item) : s.inputClosed = false → Step c s (.offer it) { s with input := s.input ++ [it] }
  | closeInput : Step c s .closeInput { s with inputClosed := true }
  | breakOutput : Step c s .breakOutput { s with outBroken := true }
  | cancel : Step c s .cancel { s with cancelled := true }
  | observe : s.seen < s.written.length → Step c s .observe { s with seen := s.seen + 1 }
  | hello {w rest} : s.input = .msg w :: rest → s.loop = .start → s.outBroken = false →
      Step c s .loopRead
        { s with input := rest, nread := s.nread + 1, written := s.written ++ [.hello], loop := .idle }
  | readFail {it rest} : s.input = it :: rest → s.loop = .start ∨ s.loop = .idle →
      Step c s .loopRead { s with input := rest, nread := s.nread + 1, loop := .sending fatalErr true }
  | report {w rest} (e : SErr) : s.input = .msg w :: rest → s.loop = .idle → e.origin = .loop →
      Step c s .loopRead
        { s with input := rest, nread := s.nread + 1, last := decode c s.last w, loop := .sending e false }
  | accept {w rest} (rn : List Run) (k : GKind) (r : Run) : s.input = .msg w :: rest → s.loop = .idle →
      Step c s .loopRead
        (spawn { s with input := rest, nread := s.nread + 1, last := decode c s.last w, running := rn }
          k r s.nread)
  | clientDone {w rest} : s.input = .msg w :: rest → s.loop = .idle →
      Step c s .loopRead
        { s with input := rest, nread := s.nread + 1, last := decode c s.last w, stdinClosed := true,
                 loop := .ending }
  | eof : s.loop = .start ∨ s.loop = .idle → Step c s .loopReadErr { s with loop := .sending fatalErr true }
  | loopSend {e stop} : s.loop = .sending e stop → s.queue.length < c.cap → s.closed = false →
      Step c s .loopSend { s with queue := s.queue ++ [e], loop := if stop then .ending else .idle }
  | loopEnd : s.loop = .ending → Step c s .loopEnd { s with loop := .ended, wg := s.wg - 1 }
  | gStart {g x} (p : Pre) : s.gs[g]? = some x → x.kind = .step → x.pc = .spawned →
      Step c s (.gStart g p) (setPc s g x (match p with | .reject => .failing | .enter => .entered))
  | exit {g x} (b : Beh) : s.gs[g]? = some x → x.kind = .step → x.pc = .entered →
      Step c s (.exit g b) (setPc s g x (match b with | .ok => .writing | _ => .failing))
  | lost {g x} : s.gs[g]? = some x → x.kind = .step → x.pc = .writing → s.outBroken = true →
      Step c s (.gWrite g) { setPc s g x .doneLost with wg := s.wg - 1 }
  | write {g x} : s.gs[g]? = some x → x.kind = .step → x.pc = .writing → s.outBroken = false →
      Step c s (.gWrite g)
        { setPc s g x .doneOk with wg := s.wg - 1, written := s.written ++ [.workDone x.run g] }
  | gSend {g x} : s.gs[g]? = some x → x.pc = .failing → s.queue.length < c.cap → s.closed = false →
      Step c s (.gSend g) { setPc s g x .doneErr with queue := s.queue ++ [gErr g x], wg := s.wg - 1 }
  | sigOk {g x} : s.gs[g]? = some x → x.kind = .signal → x.pc = .spawned →
      Step c s (.sigRun g .ok) { setPc s g x .doneOk with wg := s.wg - 1 }
  | sigFail {g x} (r : SigRes) : s.gs[g]? = some x → x.kind = .signal → x.pc = .spawned →
      Step c s (.sigRun g r) (setPc s g x .failing)
  | recv {e rest} : s.h = .idle → s.queue = e :: rest →
      Step c s .hRecv { s with queue := rest, h := .holding e }
  | recvClosed : s.h = .idle → s.queue = [] → s.closed = true → Step c s .hRecv { s with h := .done }
  | emitDrop {e} : s.h = .holding e → s.stopped = true →
      Step c s .hEmit { s with errors := s.errors ++ [e], h := .idle }
  | emitLost {e} : s.h = .holding e → s.stopped = false → s.outBroken = true →
      Step c s .hEmit
        { s with errors := s.errors ++ [e], stdinClosed := true, stopped := true, h := .idle }
  | emitFatal {e} : s.h = .holding e → s.stopped = false → s.outBroken = false →
      e.serverFatal = true →
      Step c s .hEmit
        { s with errors := s.errors ++ [e], written := s.written ++ [.error e], stdinClosed := true,
                 stopped := true, h := .idle }
  | emit {e} : s.h = .holding e → s.stopped = false → s.outBroken = false → e.serverFatal = false →
      Step c s .hEmit { s with errors := s.errors ++ [e], written := s.written ++ [.error e], h := .idle }
  | hCancel : s.cancelled = true → s.h = .idle → s.stopped = false →
      Step c s .hCancel { s with stopped := true }
  | close : s.wg = 0 → s.closed = false → Step c s .close { s with closed := true }
  | ret : s.h = .done → s.wg = 0 → s.returned = false → Step c s .ret { s with returned := true }

/-- what the read loop makes of a decoded message: it reports an error of its own, or accepts a
    work-start or signal (a goroutine is spawned), or ends at client-done -/
theorem react_cases {P : State → Prop} (s : State) (src : Nat) (d : Decoded)
    (report : ∀ e : SErr, e.origin = .loop → P { s with loop := .sending e false })
    (accept : ∀ rn k r, P (spawn { s with running := rn } k r src))
    (done : P { s with stdinClosed := true, loop := .ending }) : P (react s src d) := by
  unfold react
  by_cases h1 : d.id = 1
  · rw [if_pos h1]
    cases d.data.ws with
    | none => exact report _ rfl
    | some b =>
      show P (ite _ _ _)
      by_cases h2 : d.run = 0 ∨ b = true
      · exact if_pos h2 ▸ report _ rfl
      · exact if_neg h2 ▸ accept _ _ _
  · rw [if_neg h1]
    by_cases h3 : d.id = 3
    · rw [if_pos h3]
      by_cases h4 : d.data.sg = false
      · exact if_pos h4 ▸ report _ rfl
      · rw [if_neg h4]
        by_cases h5 : d.run = 0
        · exact if_pos h5 ▸ report _ rfl
        · rw [if_neg h5]
          by_cases h6 : s.running.contains d.run = false
          · exact if_pos h6 ▸ report _ rfl
          · exact if_neg h6 ▸ accept s.running _ _
    · rw [if_neg h3]
      by_cases h7 : d.id = 4
      · exact if_pos h7 ▸ done
      · exact if_neg h7 ▸ report _ rfl

theorem loopRead_step (e : loopRead c s = some s') : Step c s .loopRead s' := by
  unfold loopRead at e
  cases hin : s.input with
  | nil => rw [hin] at e; cases e
  | cons it rest =>
    rw [hin] at e
    cases hl : s.loop <;> rw [hl] at e <;> cases it <;> dsimp only at e <;> try cases e
    · by_cases hb : s.outBroken = true
      · rw [if_pos hb] at e; cases e; exact .readFail hin (.inl hl)
      · rw [if_neg hb] at e; cases e; exact .hello hin hl (by simpa using hb)
    · exact .readFail hin (.inl hl)
    · exact react_cases (P := Step c s .loopRead) _ _ _ (fun er ho => .report er hin hl ho)
        (fun rn k r => hl ▸ Step.accept rn k r hin hl) (.clientDone hin hl)
    · exact .readFail hin (.inr hl)

theorem loopReadErr_step (e : loopReadErr s = some s') : Step c s .loopReadErr s' := by
  unfold loopReadErr at e
  by_cases h : s.stdinClosed = true ∨ (s.input = [] ∧ s.inputClosed = true)
  · rw [if_pos h] at e
    cases hl : s.loop <;> rw [hl] at e <;> cases e
    · exact .eof (.inl hl)
    · exact .eof (.inr hl)
  · rw [if_neg h] at e; cases e

theorem chanSend_eq (hc : s.closed = false) {e : SErr} :
    chanSend c s e = if s.queue.length < c.cap then some { s with queue := s.queue ++ [e] } else none :=
  if_neg (by simp [hc])

theorem loopSend_step (hA : InvA s) (e : loopSend c s = some s') : Step c s .loopSend s' := by
  unfold loopSend at e
  cases hl : s.loop <;> rw [hl] at e <;> try cases e
  have hc := hA.not_closed (hA.wg_pos_of_loop (by rw [hl]; nofun))
  have hx : ¬ s.crashed = true := by simp [hA.crashed]
  dsimp only at e
  rw [chanSend_eq hc] at e
  by_cases hq : s.queue.length < c.cap
  · rw [if_pos hq, Option.map_some, if_neg hx] at e
    cases e; exact .loopSend hl hq hc
  · rw [if_neg hq] at e; cases e

theorem loopEnd_step (hg : c.Good) (e : loopEnd c s = some s') : Step c s .loopEnd s' := by
  unfold loopEnd at e
  rw [hg.close] at e
  cases hl : s.loop <;> rw [hl] at e <;> cases e
  exact .loopEnd hl

theorem gStart_step {g : Gid} {p : Pre} (e : gStart s g p = some s') : Step c s (.gStart g p) s' := by
  unfold gStart at e
  split at e <;> try cases e
  split at e <;> cases e
  rename_i x hx h
  exact .gStart p hx h.1 h.2

theorem gExit_step {g : Gid} {b : Beh} (e : gExit s g b = some s') : Step c s (.exit g b) s' := by
  unfold gExit at e
  split at e <;> try cases e
  split at e <;> cases e
  rename_i x hx h
  exact .exit b hx h.1 h.2

theorem gWrite_step {g : Gid} (e : gWrite s g = some s') : Step c s (.gWrite g) s' := by
  unfold gWrite at e
  split at e <;> try cases e
  split at e <;> try cases e
  rename_i x hx h
  split at e <;> cases e
  · exact .lost hx h.1 h.2 ‹_›
  · exact .write hx h.1 h.2 (Bool.eq_false_iff.mpr ‹_›)

theorem gSend_step {g : Gid} (hA : InvA s) (e : gSend c s g = some s') : Step c s (.gSend g) s' := by
  unfold gSend at e
  cases hx : s.gs[g]? <;> rw [hx] at e <;> try cases e
  rename_i x
  dsimp only at e
  by_cases h : x.pc = .failing
  · have hc := hA.not_closed (hA.wg_pos_of_get hx (by rw [h]; rfl))
    have hnx : ¬ s.crashed = true := by simp [hA.crashed]
    rw [if_pos h, chanSend_eq hc] at e
    by_cases hq : s.queue.length < c.cap
    · rw [if_pos hq, Option.map_some, if_neg hnx] at e
      cases e; exact .gSend hx h hq hc
    · rw [if_neg hq] at e; cases e
  · rw [if_neg h] at e; cases e

theorem sigRun_step (hg : c.Good) {g : Gid} {r : SigRes} (e : sigRun c s g r = some s') :
    Step c s (.sigRun g r) s' := by
  unfold sigRun at e
  split at e <;> try cases e
  split at e <;> try cases e
  rename_i x hx h
  rw [hg.guarded] at e
  cases r <;> cases e
  · exact .sigOk hx h.1 h.2
  all_goals exact .sigFail _ hx h.1 h.2

theorem hRecv_step (e : hRecv s = some s') : Step c s .hRecv s' := by
  unfold hRecv at e
  cases hh : s.h <;> rw [hh] at e <;> try cases e
  dsimp only at e
  cases hq : s.queue <;> rw [hq] at e <;> dsimp only at e
  · by_cases hc : s.closed = true
    · rw [if_pos hc] at e; cases e; exact hq ▸ Step.recvClosed hh hq hc
    · rw [if_neg hc] at e; cases e
  · cases e; exact .recv hh hq

theorem hEmit_step (hg : c.Good) (e : hEmit c s = some s') : Step c s .hEmit s' := by
  unfold hEmit at e
  cases hh : s.h <;> rw [hh] at e <;> try cases e
  rename_i er
  rw [hg.drain] at e
  dsimp only at e
  by_cases hs : s.stopped = true
  · rw [if_pos hs] at e; cases e; exact .emitDrop hh hs
  · rw [if_neg hs] at e
    have hs : s.stopped = false := by simpa using hs
    by_cases hb : s.outBroken = true
    · rw [if_pos (.inl hb), if_pos hb] at e; cases e; exact .emitLost hh hs hb
    · rw [if_neg hb] at e
      have hb : s.outBroken = false := by simpa using hb
      by_cases hf : er.serverFatal = true
      · rw [if_pos (.inr hf)] at e; cases e; exact .emitFatal hh hs hb hf
      · rw [if_neg (by simp [hb, hf])] at e; cases e; exact .emit hh hs hb (by simpa using hf)

theorem hCancel_step (hg : c.Good) (e : hCancel c s = some s') : Step c s .hCancel s' := by
  unfold hCancel at e
  by_cases h : s.cancelled = true ∧ s.h = .idle ∧ s.stopped = false
  · rw [if_pos h, hg.drain] at e; cases e; exact .hCancel h.1 h.2.1 h.2.2
  · rw [if_neg h] at e; cases e

theorem step_inv (hg : c.Good) (hA : InvA s) (e : step? c s a = some s') : Step c s a s' := by
  unfold step? at e
  rw [if_neg (by simp [hA.crashed])] at e
  cases a <;> dsimp only at e
  case offer it =>
    by_cases h : s.inputClosed = true
    · rw [if_pos h] at e; cases e
    · rw [if_neg h] at e; cases e; exact .offer it (by simpa using h)
  case closeInput => cases e; exact .closeInput
  case breakOutput => cases e; exact .breakOutput
  case cancel => cases e; exact .cancel
  case observe =>
    unfold doObserve at e
    by_cases h : s.seen < s.written.length
    · rw [if_pos h] at e; cases e; exact .observe h
    · rw [if_neg h] at e; cases e
  case exit => exact gExit_step e
  case loopRead => exact loopRead_step e
  case loopReadErr => exact loopReadErr_step e
  case loopSend => exact loopSend_step hA e
  case loopEnd => exact loopEnd_step hg e
  case gStart => exact gStart_step e
  case gWrite => exact gWrite_step e
  case gSend => exact gSend_step hA e
  case sigRun => exact sigRun_step hg e
  case hRecv => exact hRecv_step e
  case hEmit => exact hEmit_step hg e
  case hCancel => exact hCancel_step hg e
  case close =>
    unfold closeChan at e
    by_cases h : c.closeAtLoopEnd = false ∧ s.wg = 0 ∧ s.closed = false
    · rw [if_pos h] at e; cases e; exact .close h.2.1 h.2.2
    · rw [if_neg h] at e; cases e
  case ret =>
    unfold doRet at e
    by_cases h : s.h = .done ∧ s.wg = 0 ∧ s.returned = false
    · rw [if_pos h] at e; cases e; exact .ret h.1 h.2.1 h.2.2
    · rw [if_neg h] at e; cases e

/-- `k` of the counted parties leave (the read loop at its end, a goroutine that finishes) and call
    `wg.Done()`; with `k = 0`: the accounting is untouched -/
theorem InvA.move (h : InvA s) (k : Nat) (hw : s'.wg = s.wg - k)
    (hl : loopLive s'.loop + live s'.gs + k = loopLive s.loop + live s.gs)
    (hc : s'.closed = s.closed) (hx : s'.crashed = s.crashed) : InvA s' := by
  have h1 := h.wg
  refine ⟨by omega, fun hcl => ?_, hx ▸ h.crashed⟩
  have := h.closed (hc ▸ hcl)
  omega

/-- a goroutine that is still counted moves to control state `pc`; it calls `wg.Done()` exactly
    when `pc` is a final state -/
theorem InvA.setPc (h : InvA s) {g : Nat} {x : G} {pc : GPc} (hx : s.gs[g]? = some x)
    (hd : x.pc.done = false) (hg : s'.gs = s.gs.set g { x with pc := pc }) (hl : s'.loop = s.loop)
    (hw : s'.wg = s.wg - if pc.done then 1 else 0) (hc : s'.closed = s.closed)
    (hx' : s'.crashed = s.crashed) : InvA s' :=
  h.move _ hw (by rw [hl, hg, Nat.add_assoc, live_set pc hx hd]) hc hx'

theorem invA_step (hA : InvA s) (h : Step c s a s') : InvA s' := by
  cases h with
  | offer | closeInput | breakOutput | cancel | observe | recv | recvClosed | emitDrop | emitLost
  | emitFatal | emit | hCancel | ret => exact hA.move 0 rfl rfl rfl rfl
  | hello _ hl | report _ _ hl | clientDone _ hl => exact hA.move 0 rfl (by rw [hl]; rfl) rfl rfl
  | readFail _ hl | eof hl =>
    exact hA.move 0 rfl (by rcases hl with hl | hl <;> rw [hl] <;> rfl) rfl rfl
  | @loopSend _ stop hl => exact hA.move 0 rfl (by rw [hl]; cases stop <;> rfl) rfl rfl
  | loopEnd hl => exact hA.move 1 rfl (by rw [hl]; show 0 + live s.gs + 1 = 1 + live s.gs; omega) rfl rfl
  | accept rn k r _ hl =>
    have hcl := hA.not_closed (hA.wg_pos_of_loop (by rw [hl]; nofun))
    refine ⟨?_, fun hc => absurd (hcl ▸ hc) nofun, hA.crashed⟩
    show s.wg + 1 = loopLive s.loop + live (s.gs ++ [_])
    rw [live_spawn, hA.wg]; omega
  | gStart p hx _ hp => cases p <;> exact hA.setPc hx (by rw [hp]; rfl) rfl rfl rfl rfl rfl
  | exit b hx _ hp => cases b <;> exact hA.setPc hx (by rw [hp]; rfl) rfl rfl rfl rfl rfl
  | sigFail _ hx _ hp | lost hx _ hp | write hx _ hp | sigOk hx _ hp | gSend hx hp =>
    exact hA.setPc hx (by rw [hp]; rfl) rfl rfl rfl rfl rfl
  | close hw => exact ⟨hA.wg, fun _ => hw, hA.crashed⟩

theorem invA_reachable (hg : c.Good) {s : State} (h : Reachable c s) : InvA s := by
  induction h with
  | init => exact invA_init
  | step _ e ih => exact invA_step ih (step_inv hg ih e)

/-- the read loop only ever reports errors of origin `loop` -/
def InvL (s : State) : Prop := ∀ e st, s.loop = .sending e st → e.origin = .loop

theorem invL_loopRead {s s' : State} (e : loopRead c s = some s') : InvL s' := by
  intro er st he
  cases loopRead_step (c := c) e with
  | hello | clientDone => cases he
  | readFail => cases he; rfl
  | report _ _ _ ho => cases he; exact ho
  | accept _ _ _ _ hl => cases hl.symm.trans he

structure InvS (s : State) : Prop where
  loopOrigin : InvL s
  /-- a signal goroutine is never inside a step handler or writing a work-done -/
  sigPc : ∀ (g : Nat) (x : G), s.gs[g]? = some x → x.kind = .signal → x.pc ≠ .entered ∧ x.pc ≠ .writing
  /-- the handler returns only when the channel is closed and drained -/
  hDone : s.h = .done → s.closed = true ∧ s.queue = []
  /-- `RunATPServer` returns only after the handler and every goroutine -/
  ret : s.returned = true → s.h = .done ∧ s.wg = 0

theorem invS_init : InvS State.init := ⟨nofun, nofun, nofun, nofun⟩

theorem getElem?_lt {gs : List G} {g : Nat} {x : G} (hx : gs[g]? = some x) : g < gs.length :=
  (List.getElem?_eq_some_iff.mp hx).1

theorem getElem?_set_cases {gs : List G} {g : Nat} {x : G} (hx : gs[g]? = some x) (y : G) (g' : Nat) :
    (g' = g ∧ (gs.set g y)[g']? = some y) ∨ (g' ≠ g ∧ (gs.set g y)[g']? = gs[g']?) := by
  by_cases h : g' = g
  · exact .inl ⟨h, by rw [h, List.getElem?_set_self (getElem?_lt hx)]⟩
  · exact .inr ⟨h, List.getElem?_set_ne (Ne.symm h)⟩

theorem getElem?_snoc_cases (gs : List G) (y : G) (g : Nat) :
    (gs ++ [y])[g]? = gs[g]? ∨ (gs[g]? = none ∧ (gs ++ [y])[g]? = some y) := by
  rcases Nat.lt_or_ge g gs.length with h | h
  · exact .inl (List.getElem?_append_left h)
  · rw [List.getElem?_append_right h, List.getElem?_eq_none h]
    cases g - gs.length with
    | zero => exact .inr ⟨rfl, rfl⟩
    | succ n => exact .inl rfl

theorem InvS.setPc (h : InvS s) {g : Nat} {x : G} {pc : GPc} (hx : s.gs[g]? = some x)
    (hpc : x.kind = .signal → pc ≠ .entered ∧ pc ≠ .writing) (g' : Nat) (y : G)
    (hy : (s.gs.set g { x with pc := pc })[g']? = some y) (hk : y.kind = .signal) :
    y.pc ≠ .entered ∧ y.pc ≠ .writing := by
  rcases getElem?_set_cases hx { x with pc := pc } g' with ⟨_, e⟩ | ⟨_, e⟩ <;> rw [e] at hy
  · cases hy; exact hpc hk
  · exact h.sigPc g' y hy hk

theorem InvS.not_returned (h : InvS s) (hw : s.h ≠ .done ∨ 0 < s.wg) : s.returned = false := by
  cases hr : s.returned with
  | false => rfl
  | true =>
    obtain ⟨h1, h2⟩ := h.ret hr
    rcases hw with hw | hw
    · exact absurd h1 hw
    · omega

theorem invS_step (hA : InvA s) (hS : InvS s) (h : Step c s a s') : InvS s' := by
  -- while the read loop or a goroutine is counted, or the handler runs, `RunATPServer` has not returned
  have nr (hw : s.h ≠ .done ∨ 0 < s.wg) {P : Prop} (hr : s.returned = true) : P :=
    absurd ((hS.not_returned hw).symm.trans hr) nofun
  -- while the channel is open the handler has not returned
  have nd (hc : s.closed = false) {P : Prop} (hd : s.h = .done) : P :=
    absurd (hc.symm.trans (hS.hDone hd).1) nofun
  cases h with
  | offer | closeInput | breakOutput | cancel | observe | hCancel => exact { hS with }
  | hello | clientDone => exact { hS with loopOrigin := nofun }
  | readFail | eof => exact { hS with loopOrigin := fun _ _ he => by cases he; rfl }
  | report _ _ _ ho => exact { hS with loopOrigin := fun _ _ he => by cases he; exact ho }
  | accept _ _ _ _ hl =>
    refine { hS with loopOrigin := fun _ _ he => (nomatch hl.symm.trans he),
                     ret := nr (.inr (hA.wg_pos_of_loop (by rw [hl]; nofun))), sigPc := fun g x hx hk => ?_ }
    rcases getElem?_snoc_cases s.gs _ g with e | ⟨_, e⟩ <;> rw [spawn, e] at hx
    · exact hS.sigPc g x hx hk
    · cases hx; exact ⟨nofun, nofun⟩
  | @loopSend _ stop hl _ hc =>
    exact { hS with loopOrigin := fun _ _ he => (by cases stop <;> cases he),
                    hDone := nd hc, ret := nr (.inr (hA.wg_pos_of_loop (by rw [hl]; nofun))) }
  | loopEnd hl => exact { hS with loopOrigin := nofun, ret := nr (.inr (hA.wg_pos_of_loop (by rw [hl]; nofun))) }
  | gStart p hx hk hp | exit p hx hk hp =>
    exact { hS with sigPc := hS.setPc hx fun h => nomatch hk.symm.trans h }
  | sigFail _ hx => exact { hS with sigPc := hS.setPc hx fun _ => ⟨nofun, nofun⟩ }
  | lost hx _ hp | write hx _ hp | sigOk hx _ hp =>
    exact { hS with sigPc := hS.setPc hx fun _ => ⟨nofun, nofun⟩, ret := nr (.inr (hA.wg_pos_of_get hx (by rw [hp]; rfl))) }
  | gSend hx hp _ hc =>
    exact { hS with sigPc := hS.setPc hx fun _ => ⟨nofun, nofun⟩, hDone := nd hc, ret := nr (.inr (hA.wg_pos_of_get hx (by rw [hp]; rfl))) }
  | recv hh | emitDrop hh | emitLost hh | emitFatal hh | emit hh =>
    exact { hS with hDone := nofun, ret := nr (.inl (by rw [hh]; nofun)) }
  | recvClosed hh hq hc =>
    exact { hS with hDone := fun _ => ⟨hc, hq⟩, ret := nr (.inl (by rw [hh]; nofun)) }
  | close => exact { hS with hDone := fun hd => ⟨rfl, (hS.hDone hd).2⟩ }
  | ret hd hw => exact { hS with ret := fun _ => ⟨hd, hw⟩ }

/-! ### invariant T: terminal messages per accepted work-start -/

/-- `m` is a terminal message written on behalf of goroutine `g`: its work-done, or the error
    message for the report it sent on `workDone` -/
def isTerm (g : Gid) : OutMsg → Bool
  | .workDone _ g' => g' == g
  | .error e => e.origin == .step g
  | .hello => false

def termCount (s : State) (g : Gid) : Nat := s.written.countP (isTerm g)

def fromStep (g : Gid) (e : SErr) : Bool := e.origin == .step g

/-- the reports the handler holds or has still to receive -/
def heldErrs (s : State) : List SErr :=
  (match s.h with | .holding e => [e] | _ => []) ++ s.queue

def pendCount (s : State) (g : Gid) : Nat := (heldErrs s).countP (fromStep g)

/-- the model's notion of "the output is no longer open": the handler has stopped sending (after a
    server-fatal error message, a failed write or cancellation) or the client closed the output -/
def outClosed (s : State) : Bool := s.stopped || s.outBroken

/-- the table relating a goroutine's control state to the number of terminal messages written for
    it (`t`) and of its reports still on their way to the handler (`p`) -/
def TG (x : Option G) (t p : Nat) (oc : Bool) : Prop :=
  match x with
  | none => t = 0 ∧ p = 0
  | some x =>
    match x.kind, x.pc with
    | .signal, _ => t = 0 ∧ p = 0
    | .step, .doneOk => t = 1 ∧ p = 0
    | .step, .doneLost => t = 0 ∧ p = 0 ∧ oc = true
    | .step, .doneErr => t + p = 1 ∨ (t = 0 ∧ p = 0 ∧ oc = true)
    | .step, _ => t = 0 ∧ p = 0

def InvT (s : State) : Prop := ∀ g : Gid, TG s.gs[g]? (termCount s g) (pendCount s g) (outClosed s)

theorem invT_init : InvT State.init := by
  intro g
  simp [State.init, TG, termCount, pendCount, heldErrs]

theorem termCount_eq {s s' : State} (h : s'.written = s.written) (g : Gid) : termCount s' g = termCount s g := by
  simp [termCount, h]

theorem pendCount_eq {s s' : State} (h1 : s'.h = s.h) (h2 : s'.queue = s.queue) (g : Gid) :
    pendCount s' g = pendCount s g := by
  simp [pendCount, heldErrs, h1, h2]

theorem termCount_push {m : OutMsg} (hw : s'.written = s.written ++ [m]) (g : Gid) :
    termCount s' g = termCount s g + (if isTerm g m then 1 else 0) := by
  simp [termCount, hw, List.countP_append, List.countP_cons]

theorem pendCount_push {e : SErr} (hq : s'.queue = s.queue ++ [e]) (hh : s'.h = s.h) (g : Gid) :
    pendCount s' g = pendCount s g + (if fromStep g e then 1 else 0) := by
  simp [pendCount, heldErrs, hq, hh, List.countP_append, List.countP_cons]
  omega

theorem TG_mono {x : Option G} {t p : Nat} {oc oc' : Bool} (h : TG x t p oc) (hm : oc = true → oc' = true) :
    TG x t p oc' := by
  unfold TG at *
  split
  · simpa using h
  · rename_i y
    simp only at h
    split <;> simp_all
    · rcases h with h | h
      · exact Or.inl h
      · exact Or.inr ⟨h.1, h.2.1, hm h.2.2⟩

theorem invT_frame (h : InvT s) (hgs : s'.gs = s.gs)
    (ht : ∀ g, termCount s' g = termCount s g) (hp : ∀ g, pendCount s' g = pendCount s g)
    (ho : outClosed s = true → outClosed s' = true) : InvT s' := by
  intro g
  rw [hgs, ht, hp]
  exact TG_mono (h g) ho

theorem TG_live {x : G} {t p : Nat} {oc : Bool} (hd : x.pc.done = false) :
    TG (some x) t p oc ↔ t = 0 ∧ p = 0 := by
  unfold TG
  cases hk : x.kind <;> cases hp : x.pc <;> simp_all [GPc.done]

theorem TG_signal {x : G} {t p : Nat} {oc : Bool} (hk : x.kind = .signal) :
    TG (some x) t p oc ↔ t = 0 ∧ p = 0 := by
  unfold TG; simp only [hk]

/-- goroutine `g`, which has not finished, moves to control state `pc`; the counters of the other
    goroutines stay -/
theorem invT_setPc (h : InvT s) {g : Nat} {x : G} {pc : GPc} (hx : s.gs[g]? = some x)
    (hd : x.pc.done = false) (hgs : s'.gs = s.gs.set g { x with pc := pc })
    (hg' : ∀ g', g' ≠ g → termCount s' g' = termCount s g' ∧ pendCount s' g' = pendCount s g')
    (ho : outClosed s = true → outClosed s' = true)
    (hg : termCount s g = 0 → pendCount s g = 0 →
      TG (some { x with pc := pc }) (termCount s' g) (pendCount s' g) (outClosed s')) : InvT s' := by
  intro g'
  rw [hgs]
  rcases getElem?_set_cases hx { x with pc := pc } g' with ⟨rfl, e⟩ | ⟨hne, e⟩ <;> rw [e]
  · have h0 := (TG_live hd).mp (hx ▸ h g')
    exact hg h0.1 h0.2
  · rw [(hg' g' hne).1, (hg' g' hne).2]
    exact TG_mono (h g') ho

theorem invT_setPc_live (h : InvT s) {g : Nat} {x : G} {pc : GPc} (hx : s.gs[g]? = some x)
    (hd : x.pc.done = false) (hd' : pc.done = false) : InvT (setPc s g x pc) :=
  invT_setPc h hx hd rfl (fun _ _ => ⟨rfl, rfl⟩) id fun h1 h2 => (TG_live hd').mpr ⟨h1, h2⟩

theorem invT_spawn (k : GKind) (r : Run) (src : Nat) (h : InvT s) : InvT (spawn s k r src) := by
  intro g
  show TG (s.gs ++ [⟨k, r, src, .spawned⟩])[g]? (termCount s g) (pendCount s g) (outClosed s)
  rcases getElem?_snoc_cases s.gs ⟨k, r, src, .spawned⟩ g with e | ⟨e0, e⟩ <;> rw [e]
  · exact h g
  · have h0 := h g
    rw [e0] at h0
    exact (TG_live rfl).mpr h0

theorem TG_pending {x : Option G} {t p : Nat} {oc : Bool} (h : TG x t (p + 1) oc) :
    ∃ y, x = some y ∧ y.kind = .step ∧ y.pc = .doneErr ∧ t = 0 ∧ p = 0 := by
  unfold TG at h
  split at h
  · omega
  · rename_i y
    cases hk : y.kind <;> cases hp : y.pc <;> simp [hk, hp] at h
    exact ⟨y, rfl, hk, hp, by omega, by omega⟩

/-- the handler takes a report off the pending ones (`b`: it is this goroutine's) and either writes
    the error message (`w`) or the output is no longer open -/
theorem TG_emit {x : Option G} {t p : Nat} {b w oc oc' : Bool}
    (h : TG x t (p + (if b then 1 else 0)) oc) (hoc : oc = true → oc' = true)
    (hw : w = true ∨ oc' = true) : TG x (t + (if w && b then 1 else 0)) p oc' := by
  cases b
  · simpa using TG_mono h hoc
  · obtain ⟨y, rfl, hk, hp, rfl, rfl⟩ := TG_pending h
    unfold TG
    cases w <;> simp_all

theorem pendCount_pop {e : SErr} (hh : s.h = .holding e) (hh' : s'.h = .idle) (hq : s'.queue = s.queue)
    (g : Gid) : pendCount s g = pendCount s' g + (if fromStep g e then 1 else 0) := by
  simp [pendCount, heldErrs, hq, hh, hh', List.countP_cons]

/-- the handler acts on the report it holds: it writes the error message (`w`), or drops it, which
    it does only when the output is no longer open -/
theorem invT_emit (h : InvT s) {e : SErr} (hh : s.h = .holding e) (hh' : s'.h = .idle)
    (hq : s'.queue = s.queue) (hgs : s'.gs = s.gs) (w : Bool)
    (hw : s'.written = if w then s.written ++ [.error e] else s.written)
    (ho : outClosed s = true → outClosed s' = true) (hwo : w = true ∨ outClosed s' = true) :
    InvT s' := by
  intro g
  have ht : termCount s' g = termCount s g + (if (w && fromStep g e) then 1 else 0) := by
    cases w
    · simpa using termCount_eq hw g
    · simpa [isTerm, fromStep] using termCount_push hw g
  have h0 := h g
  rw [pendCount_pop hh hh' hq g] at h0
  rw [hgs, ht]
  exact TG_emit h0 ho hwo

theorem invT_step (hL : InvL s) (hT : InvT s) (h : Step c s a s') : InvT s' := by
  cases h with
  | offer | closeInput | cancel | observe | readFail | eof | report | clientDone | loopEnd | close | ret =>
    exact invT_frame hT rfl (fun _ => rfl) (fun _ => rfl) id
  | breakOutput => exact invT_frame hT rfl (fun _ => rfl) (fun _ => rfl) fun _ => Bool.or_true _
  | hCancel => exact invT_frame hT rfl (fun _ => rfl) (fun _ => rfl) fun _ => rfl
  | hello =>
    refine invT_frame hT rfl (fun g => ?_) (fun _ => rfl) id
    rw [termCount_push (s := s) (m := .hello) rfl]; rfl
  | accept rn k r => exact invT_spawn k r _ (invT_frame hT rfl (fun _ => rfl) (fun _ => rfl) id)
  | @loopSend e _ hl =>
    refine invT_frame hT rfl (fun _ => rfl) (fun g => ?_) id
    rw [pendCount_push (s := s) (e := e) (by rfl) (by rfl)]; simp [fromStep, hL _ _ hl]
  | gStart p hx _ hp => exact invT_setPc_live hT hx (by rw [hp]; rfl) (by cases p <;> rfl)
  | exit b hx _ hp => exact invT_setPc_live hT hx (by rw [hp]; rfl) (by cases b <;> rfl)
  | sigFail _ hx _ hp => exact invT_setPc_live hT hx (by rw [hp]; rfl) rfl
  | sigOk hx hk hp =>
    exact invT_setPc hT hx (by rw [hp]; rfl) rfl (fun _ _ => ⟨rfl, rfl⟩) id fun h1 h2 =>
      (TG_signal (x := ⟨_, _, _, .doneOk⟩) hk).mpr ⟨h1, h2⟩
  | lost hx hk hp hb =>
    exact invT_setPc hT hx (by rw [hp]; rfl) rfl (fun _ _ => ⟨rfl, rfl⟩) id fun h1 h2 => by
      unfold TG; simp only [hk]; exact ⟨h1, h2, by simp [outClosed, setPc, hb]⟩
  | @write g x hx hk hp =>
    refine invT_setPc hT hx (by rw [hp]; rfl) rfl (fun g' hg' => ⟨?_, rfl⟩) id fun h1 h2 => ?_
    · rw [termCount_push (s := s) (m := .workDone x.run g) (by rfl)]; simp [isTerm, Ne.symm hg']
    · unfold TG; simp only [hk]
      exact ⟨by rw [termCount_push (s := s) (m := .workDone x.run g) (by rfl), h1]; simp [isTerm], h2⟩
  | @gSend g x hx hp =>
    refine invT_setPc hT hx (by rw [hp]; rfl) rfl (fun g' hg' => ⟨rfl, ?_⟩) id fun h1 h2 => ?_
    · rw [pendCount_push (s := s) (e := gErr g x) (by rfl) (by rfl)]
      cases hk : x.kind <;> simp [gErr, fromStep, hk, Ne.symm hg']
    · change TG _ (termCount s g) _ _
      rw [pendCount_push (s := s) (e := gErr g x) (by rfl) (by rfl), h1, h2]
      unfold TG
      cases hk : x.kind <;> simp [gErr, fromStep, hk]
  | recv hh hq =>
    exact invT_frame hT rfl (fun _ => rfl) (fun g => by simp [pendCount, heldErrs, hh, hq]) id
  | recvClosed hh =>
    exact invT_frame hT rfl (fun _ => rfl) (fun g => by simp [pendCount, heldErrs, hh]) id
  | emitDrop hh hs => exact invT_emit hT hh rfl rfl rfl false rfl id (.inr (by simp [outClosed, hs]))
  | emitLost hh _ hb =>
    exact invT_emit hT hh rfl rfl rfl false rfl (fun _ => rfl) (.inr rfl)
  | emitFatal hh => exact invT_emit hT hh rfl rfl rfl true rfl (fun _ => rfl) (.inl rfl)
  | emit hh => exact invT_emit hT hh rfl rfl rfl true rfl id (.inl rfl)

structure Inv (st : State) : Prop where
  a : InvA st
  s : InvS st
  t : InvT st

theorem inv_reachable (hg : c.Good) {s : State} (h : Reachable c s) : Inv s := by
  induction h with
  | init => exact ⟨invA_init, invS_init, invT_init⟩
  | step _ e ih =>
    have hs := step_inv hg ih.a e
    exact ⟨invA_step ih.a hs, invS_step ih.a ih.s hs, invT_step ih.s.loopOrigin ih.t hs⟩

end Arca.AtpServer
