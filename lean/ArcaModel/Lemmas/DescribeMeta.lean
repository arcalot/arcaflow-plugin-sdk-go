import ArcaModel.Lemmas.DescribeEval
/-
  Evaluation of the meta-schema (`Meta.scopeObjs` / `Meta.schemaObjs`) on the description of a
  schema: `run .U` returns the description in normal representation (C09).

  Names: `evals_*` (Lemmas/DescribeEval.lean) is an `Evals` for one kind of type, whatever the
  environment; `ev_*` an `Evals` of a description against one type of the meta-schema; `ent_*` a
  `FieldEvals` for one optional field of a meta-schema object.
-/
namespace Arca
open Out Meta

/-- an environment that contains the objects of `DescribeScope()` -/
structure MetaEnv (E : Env) : Prop where
  any : lookupS "AnySchema" E = some oAny
  bool : lookupS "BoolSchema" E = some oBool
  display : lookupS "Display" E = some oDisplay
  float : lookupS "Float" E = some oFloat
  int : lookupS "Int" E = some oInt
  intEnum : lookupS "IntEnum" E = some oIntEnum
  list : lookupS "List" E = some oList
  map : lookupS "Map" E = some oMap
  object : lookupS "Object" E = some oObject
  oneOfInt : lookupS "OneOfIntSchema" E = some oOneOfInt
  oneOfString : lookupS "OneOfStringSchema" E = some oOneOfString
  pattern : lookupS "Pattern" E = some oPattern
  property : lookupS "Property" E = some oProperty
  ref : lookupS "Ref" E = some oRef
  scope : lookupS "Scope" E = some oScope
  string : lookupS "String" E = some oString
  stringEnum : lookupS "StringEnum" E = some oStringEnum
  unit : lookupS "Unit" E = some oUnit
  units : lookupS "Units" E = some oUnits

/-- A table without duplicate keys is read by position: the keys are compared with each other once,
    for `hn`, and not once more for every lookup. -/
theorem lookupS_of_getElem? {α} {m : List (String × α)} (hn : (m.map Prod.fst).Nodup) (i : Nat)
    {k : String} {a : α} (h : m[i]? = some (k, a)) : lookupS k m = some a :=
  lookupS_of_mem hn (List.mem_of_getElem? h)

theorem metaEnv_scope : MetaEnv scopeObjs :=
  have pos := @lookupS_of_getElem? _ scopeObjs (by decide +kernel)
  ⟨pos 0 rfl, pos 1 rfl, pos 2 rfl, pos 3 rfl, pos 4 rfl, pos 5 rfl, pos 6 rfl, pos 7 rfl, pos 8 rfl, pos 9 rfl,
   pos 10 rfl, pos 11 rfl, pos 12 rfl, pos 13 rfl, pos 14 rfl, pos 15 rfl, pos 16 rfl, pos 17 rfl, pos 18 rfl⟩
theorem metaEnv_schema : MetaEnv schemaObjs :=
  have pos := @lookupS_of_getElem? _ schemaObjs (by decide +kernel)
  ⟨pos 0 rfl, pos 1 rfl, pos 2 rfl, pos 3 rfl, pos 4 rfl, pos 5 rfl, pos 6 rfl, pos 7 rfl, pos 8 rfl, pos 9 rfl,
   pos 10 rfl, pos 11 rfl, pos 12 rfl, pos 13 rfl, pos 15 rfl, pos 19 rfl, pos 20 rfl, pos 21 rfl, pos 22 rfl⟩
theorem metaEnv_stepOutput : MetaEnv stepOutputObjs :=
  have pos := @lookupS_of_getElem? _ stepOutputObjs (by decide +kernel)
  ⟨pos 0 rfl, pos 1 rfl, pos 2 rfl, pos 3 rfl, pos 4 rfl, pos 5 rfl, pos 6 rfl, pos 7 rfl, pos 8 rfl, pos 9 rfl,
   pos 10 rfl, pos 11 rfl, pos 12 rfl, pos 13 rfl, pos 14 rfl, pos 16 rfl, pos 17 rfl, pos 18 rfl, pos 19 rfl⟩

/-- representations the lemmas apply to: objects arrive as maps keyed by `string` or `any`,
    patterns as strings -/
structure Rep.Good (r : Rep) : Prop where
  objKey : r.objShape.key = .any ∨ r.objShape.key = .string
  pat : ∀ s, r.pat s = V.str s

theorem Rep.direct_good : Rep.direct.Good := ⟨Or.inr rfl, fun _ => rfl⟩
theorem Rep.cbor_good : Rep.cbor.Good := ⟨Or.inl rfl, fun _ => rfl⟩

@[simp] theorem hasKey_nil {α} (k : String) : hasKey k ([] : List (String × α)) = false := rfl

theorem hasKey_optF {α} (k k' : String) (f : α → V) (o : Option α) :
    hasKey k (optF k' f o) = (k == k' && o.isSome) := by
  cases o <;> simp [optF, hasKey_cons]

/-! ### what `describable` demands, kind by kind -/

def isKeyKind : DTy → Bool
  | .int _ _ _ | .str _ _ _ => true
  | _ => false

def isMemberKind : DTy → Bool
  | .obj _ | .ref _ _ _ | .scope _ _ => true
  | _ => false

def keyKindOK (ik : Bool) (k : Key) : Bool := match k with | .i _ => ik | .s _ => !ik
def keyRangeOK (k : Key) : Bool := match k with | .i n => inInt64 n | .s _ => true

theorem and3 {a b c : Bool} (h : (a && b && c) = true) : a = true ∧ b = true ∧ c = true := by
  simpa only [Bool.and_eq_true, and_assoc] using h

theorem and4 {a b c d : Bool} (h : (a && b && c && d) = true) : a = true ∧ b = true ∧ c = true ∧ d = true := by
  simpa only [Bool.and_eq_true, and_assoc] using h

section
variable {x : Ext}

theorem describable_int {a b : Option Int} {u : Option Units} (h : describable x (.int a b u) = true) :
    i64OK a = true ∧ i64OK b = true ∧ unitsOK u = true := and3 h

theorem describable_str {a b : Option Int} {p : Option String} (h : describable x (.str a b p) = true) :
    lenOK a = true ∧ lenOK b = true ∧ ∀ s, p = some s → x.reCompiles s = true := by
  have h := and3 (c := p.elim true x.reCompiles) (by cases p <;> exact h)
  exact ⟨h.1, h.2.1, fun s hs => by subst hs; exact h.2.2⟩

theorem describable_enumInt {vs : List (Int × Disp)} {u : Option Units} (h : describable x (.enumInt vs u) = true) :
    vs ≠ [] ∧ (vs.all fun v => inInt64 v.1 && dispOK v.2) = true ∧ (vs.map (·.1)).Nodup ∧ unitsOK u = true := by
  simpa only [Bool.not_eq_true', List.isEmpty_eq_false_iff, decide_eq_true_eq] using and4 h

theorem describable_enumStr {vs : List (String × Disp)} (h : describable x (.enumStr vs) = true) :
    vs ≠ [] ∧ (vs.all fun v => dispOK v.2) = true ∧ (vs.map (·.1)).Nodup := by
  simpa only [Bool.not_eq_true', List.isEmpty_eq_false_iff, decide_eq_true_eq] using and3 h

theorem describable_list {item : DTy} {a b : Option Int} (h : describable x (.list item a b) = true) :
    describable x item = true ∧ lenOK a = true ∧ lenOK b = true := and3 h

theorem describable_map {k v : DTy} {a b : Option Int} (h : describable x (.map k v a b) = true) :
    isKeyKind k = true ∧ describable x k = true ∧ describable x v = true ∧ lenOK a = true ∧ lenOK b = true :=
  have h := Bool.and_eq_true_iff.1 h
  have h1 := and4 h.1
  ⟨h1.1, h1.2.1, h1.2.2.1, h1.2.2.2, h.2⟩

theorem describable_oneOf {ik : Bool} {d : String} {inl : Bool} {ms : List (Key × DTy)}
    (h : describable x (.oneOf ik d inl ms) = true) :
    (ms.map (·.1)).Nodup ∧ (ms.all fun m => keyKindOK ik m.1) = true ∧ describableMembers x ms = true :=
  have h := and3 h
  ⟨of_decide_eq_true h.1, h.2⟩

theorem describable_ref {id ns : String} {d : Option Disp} (h : describable x (.ref id ns d) = true) :
    idOK x id = true ∧ optDispOK d = true := Bool.and_eq_true_iff.1 h

theorem describable_scope {objs : List (String × DObj)} {root : String} (h : describable x (.scope objs root) = true) :
    idOK x root = true ∧ (objs.map (·.1)).Nodup ∧ describableObjs x objs = true :=
  have h := and3 h
  ⟨h.1, of_decide_eq_true h.2.1, h.2.2⟩

theorem describableObj_mk {id : String} {unenf : Bool} {props : List (String × DProp)}
    (h : describableObj x (.mk id unenf props) = true) :
    idOK x id = true ∧ (props.map (·.1)).Nodup ∧ describableProps x props = true :=
  have h := and3 h
  ⟨h.1, of_decide_eq_true h.2.1, h.2.2⟩

theorem describableProps_cons {n : String} {p : DProp} {rest : List (String × DProp)}
    (h : describableProps x ((n, p) :: rest) = true) :
    1 ≤ n.utf8ByteSize ∧ describableProp x p = true ∧ describableProps x rest = true :=
  have h := and3 h
  ⟨of_decide_eq_true h.1, h.2⟩

theorem describableProp_mk {ty : DTy} {disp : Option Disp} {req : Bool} {rif rifn conf : List String}
    {dflt : Option String} {ex : List String} {dis : Bool} {reason : Option String}
    (h : describableProp x (.mk ty disp req rif rifn conf dflt ex dis reason) = true) :
    describable x ty = true ∧ optDispOK disp = true := Bool.and_eq_true_iff.1 h

theorem describableMembers_cons {k : Key} {t : DTy} {rest : List (Key × DTy)}
    (h : describableMembers x ((k, t) :: rest) = true) :
    keyRangeOK k = true ∧ isMemberKind t = true ∧ describable x t = true ∧ describableMembers x rest = true :=
  and4 h

theorem describableObjs_cons {n : String} {o : DObj} {rest : List (String × DObj)}
    (h : describableObjs x ((n, o) :: rest) = true) :
    idOK x n = true ∧ describableObj x o = true ∧ describableObjs x rest = true := and3 h

end

theorem ev_str1 {x : Ext} {E : Env} {s : String} (h : 1 ≤ s.utf8ByteSize) : Evals x E str1 (.str s) (.str s) :=
  evals_str (checkStr_min1 x s h)

theorem ev_strT {x : Ext} {E : Env} {s : String} : Evals x E strT (.str s) (.str s) :=
  evals_str (checkStr_none x s)

def dispF (d : Disp) : List (String × V) :=
  optF "name" V.str d.name ++ optF "description" V.str d.desc ++ optF "icon" V.str d.icon

theorem descDisp_eq (r : Rep) (d : Disp) : descDisp r d = .map r.objShape (kvsOf (dispF d)) := rfl

theorem ent_optStr1 {x : Ext} {E : Env} {props : List (String × PropT)} {k : String}
    (hl : lookupS k props = some (P str1 false)) (o : Option String) (h : nonEmpty o = true) :
    FieldEvals x E props [] (optF k V.str o) (optF k V.str o) :=
  .optF o hl rfl fun s hs => by subst hs; exact ev_str1 (of_decide_eq_true h)

theorem ev_disp {x : Ext} {E : Env} (hE : MetaEnv E) (r : Rep) (d : Disp) (h : dispOK d = true) :
    Evals x E (.ref "Display") (descDisp r d) (descDisp .norm d) := by
  simp only [dispOK, Bool.and_eq_true] at h
  exact evals_ref hE.display (evals_obj (sh := r.objShape)
    (.append (.append (ent_optStr1 rfl _ h.1.1) (ent_optStr1 rfl _ h.1.2)) (ent_optStr1 rfl _ h.2)) (by decide +kernel))

theorem ent_display {x : Ext} {E : Env} (hE : MetaEnv E) (r : Rep) {props : List (String × PropT)}
    (hl : lookupS "display" props = some displayP) (d : Option Disp) (h : optDispOK d = true) :
    FieldEvals x E props [] (optF "display" (descDisp r) d) (optF "display" (descDisp .norm) d) :=
  .optF d hl rfl fun a ha => by subst ha; exact ev_disp hE r a h

theorem ev_unit {x : Ext} {E : Env} (hE : MetaEnv E) (r : Rep) (u : UnitNames) :
    Evals x E (.ref "Unit") (descUnit r u) (descUnit .norm u) :=
  evals_ref hE.unit (evals_obj (sh := r.objShape)
    (.cons rfl rfl ev_strT (.cons rfl rfl ev_strT (.cons rfl rfl ev_strT (.one rfl rfl ev_strT)))) (by decide +kernel))

theorem checkInt_none (n : Int) : checkInt none none n = .ok () := rfl

theorem checkInt_min (m n : Int) (h : m ≤ n) : checkInt (some m) none n = .ok () := by
  have : ¬ n < m := by omega
  simp [checkInt, this]

theorem ev_intT {x : Ext} {E : Env} (r : Rep) {n : Int} (h : inInt64 n = true) :
    Evals x E intT (r.int n) (Rep.norm.int n) := evals_int h (checkInt_none n)

theorem inInt64_of_len {n : Int} (h0 : 0 ≤ n) (h1 : n ≤ maxInt64) : inInt64 n = true := by
  have hm : minInt64 ≤ 0 := by decide
  simp only [inInt64, Bool.and_eq_true, decide_eq_true_eq]
  exact ⟨by omega, h1⟩

/-- a length bound evaluates against `nat0` and `len0` alike -/
theorem ev_len {x : Ext} {E : Env} (r : Rep) {u : Option Units} {n : Int} (h : lenOK (some n) = true) :
    Evals x E (.int (some 0) none u) (r.int n) (Rep.norm.int n) := by
  simp only [lenOK, Bool.and_eq_true, decide_eq_true_eq] at h
  exact evals_int (inInt64_of_len h.1 h.2) (checkInt_min 0 n h.1)

theorem ev_id {x : Ext} {E : Env} {s : String} (h : idOK x s = true) : Evals x E idType (.str s) (.str s) := by
  simp only [idOK, Bool.and_eq_true, decide_eq_true_eq] at h
  obtain ⟨⟨h1, h2⟩, h3⟩ := h
  refine evals_str ?_
  have a : ¬ ((1 : Int) > (s.utf8ByteSize : Int)) := by omega
  have b : ¬ ((255 : Int) < (s.utf8ByteSize : Int)) := by omega
  simp [checkStr, checkLen, a, b, h3]

theorem ent_i64 {x : Ext} {E : Env} (r : Rep) {props : List (String × PropT)} {k : String}
    (hl : lookupS k props = some (P intT false)) (o : Option Int) (h : i64OK o = true) :
    FieldEvals x E props [] (optF k r.int o) (optF k Rep.norm.int o) :=
  .optF o hl rfl fun n hn => by subst hn; exact ev_intT r h

theorem ent_len {x : Ext} {E : Env} (r : Rep) {props : List (String × PropT)} {k : String} {u : Option Units}
    (hl : lookupS k props = some (P (.int (some 0) none u) false)) (o : Option Int) (h : lenOK o = true) :
    FieldEvals x E props [] (optF k r.int o) (optF k Rep.norm.int o) :=
  .optF o hl rfl fun n hn => by subst hn; exact ev_len r h

/-! ### maps whose keys stand for the keys of a Go map -/

theorem nodup_map_inj {α β} (f : α → β) (hf : ∀ a b, f a = f b → a = b) : ∀ (l : List α), l.Nodup → (l.map f).Nodup
  | [], _ => List.nodup_nil
  | a :: rest, h => by
    simp only [List.nodup_cons, List.map_cons, List.mem_map, not_exists, not_and] at *
    exact ⟨fun b hb hab => h.1 (hf _ _ hab ▸ hb), nodup_map_inj f hf rest h.2⟩

theorem nodup_keys_i {α} (l : List (Int × α)) (h : (l.map (·.1)).Nodup) : (l.map fun p => Key.i p.1).Nodup := by
  simpa only [List.map_map, Function.comp_def] using nodup_map_inj Key.i (fun _ _ hab => Key.i.inj hab) _ h

theorem nodup_keys_s {α} (l : List (String × α)) (h : (l.map (·.1)).Nodup) : (l.map fun p => Key.s p.1).Nodup := by
  simpa only [List.map_map, Function.comp_def] using nodup_map_inj Key.s (fun _ _ hab => Key.s.inj hab) _ h

theorem checkLen_none (n : Nat) : checkLen none none n = .ok () := rfl

theorem checkLen_min1 {n : Nat} (h : 0 < n) : checkLen (some 1) none n = .ok () := by
  have : ¬ ((1 : Int) > (n : Int)) := by omega
  simp [checkLen, this]

theorem ev_units {x : Ext} {E : Env} (hE : MetaEnv E) (r : Rep) (u : Units) (h : unitsOK (some u) = true) :
    Evals x E (.ref "Units") (descUnits r u) (descUnits .norm u) := by
  simp only [unitsOK, Bool.and_eq_true, decide_eq_true_eq] at h
  refine evals_ref hE.units (evals_obj (sh := r.objShape) (.cons rfl rfl (ev_unit hE r u.base) (.one rfl rfl ?_))
    (by decide +kernel))
  refine evals_entries (descMults_eq r _) (descMults_eq .norm _) (fun m hm => ⟨?_, ev_unit hE r m.2⟩) rfl
    (fun _ => rfl) (nodup_keys_i _ h.2)
  have hm := List.all_eq_true.1 h.1 m hm
  simp only [Bool.and_eq_true, decide_eq_true_eq] at hm
  exact evals_int (inInt64_of_len (by omega) hm.2) (checkInt_min 1 _ hm.1)

theorem ent_units {x : Ext} {E : Env} (hE : MetaEnv E) (r : Rep) {props : List (String × PropT)}
    (hl : lookupS "units" props = some unitsP) (u : Option Units) (h : unitsOK u = true) :
    FieldEvals x E props [] (optF "units" (descUnits r) u) (optF "units" (descUnits .norm) u) :=
  .optF u hl rfl fun a ha => by subst ha; exact ev_units hE r a h

def metaObj : DTy → Ty
  | .int _ _ _ => oInt
  | .float _ _ _ => oFloat
  | .str _ _ _ => oString
  | .bool => oBool
  | .pattern => oPattern
  | .enumInt _ _ => oIntEnum
  | .enumStr _ => oStringEnum
  | .list _ _ _ => oList
  | .map _ _ _ _ => oMap
  | .obj _ => oObject
  | .oneOf ik _ _ _ => if ik then oOneOfInt else oOneOfString
  | .ref _ _ _ => oRef
  | .scope _ _ => oScope
  | .any => oAny

/-- the name under which `metaObj t` is filed in the meta-schema's scope -/
def metaName : DTy → String
  | .int _ _ _ => "Int"
  | .float _ _ _ => "Float"
  | .str _ _ _ => "String"
  | .bool => "BoolSchema"
  | .pattern => "Pattern"
  | .enumInt _ _ => "IntEnum"
  | .enumStr _ => "StringEnum"
  | .list _ _ _ => "List"
  | .map _ _ _ _ => "Map"
  | .obj _ => "Object"
  | .oneOf ik _ _ _ => if ik then "OneOfIntSchema" else "OneOfStringSchema"
  | .ref _ _ _ => "Ref"
  | .scope _ _ => "Scope"
  | .any => "AnySchema"

theorem MetaEnv.lookup {E : Env} (hE : MetaEnv E) : ∀ t : DTy, lookupS (metaName t) E = some (metaObj t)
  | .int _ _ _ => hE.int
  | .float _ _ _ => hE.float
  | .str _ _ _ => hE.string
  | .bool => hE.bool
  | .pattern => hE.pattern
  | .enumInt _ _ => hE.intEnum
  | .enumStr _ => hE.stringEnum
  | .list _ _ _ => hE.list
  | .map _ _ _ _ => hE.map
  | .obj _ => hE.object
  | .oneOf true _ _ _ => hE.oneOfInt
  | .oneOf false _ _ _ => hE.oneOfString
  | .ref _ _ _ => hE.ref
  | .scope _ _ => hE.scope
  | .any => hE.any

/-- the fields of `t` evaluate against the meta object of its kind, whatever map type they arrive in -/
def FEv (x : Ext) (E : Env) (r : Rep) (t : DTy) : Prop :=
  ∀ sh, Evals x E (metaObj t) (.map sh (kvsOf (descTyF r t))) (toStrAny (descTyF .norm t))

theorem noTypeId (r : Rep) (t : DTy) : hasKey "type_id" (descTyF r t) = false := by
  cases t with
  | obj o => cases o; simp [descTyF, descObjF, hasKey_cons]
  | _ => simp [descTyF, hasKey_append, hasKey_optF, hasKey_cons]

/-- A type as a member of a `type_id` one-of that files the reference to the meta object of its
    kind under its type ID. -/
theorem ev_typed {x : Ext} {E : Env} (hE : MetaEnv E) {r : Rep} (hr : r.Good) {ms : List (Key × Ty)} (t : DTy)
    (hm : lookupK (.s t.typeId) ms = some (.ref (metaName t))) (hF : FEv x E r t) :
    Evals x E (.oneOf false "type_id" false ms) (descTy r t) (descTy .norm t) :=
  evals_typed hr.objKey hm (noTypeId r t) (noTypeId .norm t) (evals_ref (hE.lookup t) (hF _))

theorem ev_ty_of {x : Ext} {E : Env} (hE : MetaEnv E) {r : Rep} (hr : r.Good) (t : DTy) (hF : FEv x E r t) :
    Evals x E valueType (descTy r t) (descTy .norm t) :=
  ev_typed hE hr t (by cases t with | oneOf ik _ _ _ => cases ik <;> rfl | _ => rfl) hF

theorem ev_key_of {x : Ext} {E : Env} (hE : MetaEnv E) {r : Rep} (hr : r.Good) (t : DTy) (hk : isKeyKind t = true)
    (hF : FEv x E r t) : Evals x E mapKeyType (descTy r t) (descTy .norm t) :=
  ev_typed hE hr t (by cases t <;> cases hk <;> rfl) hF

theorem ev_member_of {x : Ext} {E : Env} (hE : MetaEnv E) {r : Rep} (hr : r.Good) (t : DTy) (hk : isMemberKind t = true)
    (hF : FEv x E r t) : Evals x E memberType (descTy r t) (descTy .norm t) :=
  ev_typed hE hr t (by cases t <;> cases hk <;> rfl) hF

/-! ### the induction over the schema tree

    Kind by kind, the fields `descTyF` writes evaluate against the properties of the meta object. -/

theorem kv_member_key {x : Ext} {E : Env} (r : Rep) (ik : Bool) (k : Key)
    (hk : keyKindOK ik k = true) (hrange : keyRangeOK k = true) :
    Evals x E (if ik then intT else strT) (k.rep r) (k.rep .norm) := by
  cases k with
  | i n => cases (show ik = true from hk); exact ev_intT r hrange
  | s t => cases (show ik = false by simpa [keyKindOK] using hk); exact ev_strT

mutual
theorem evF_all {x : Ext} {E : Env} (hE : MetaEnv E) {r : Rep} (hr : r.Good) :
    (t : DTy) → describable x t = true → FEv x E r t
  | .int a b u, h => fun _ =>
    have h := describable_int h
    evals_obj (.append (.append (ent_i64 r rfl a h.1) (ent_i64 r rfl b h.2.1)) (ent_units hE r rfl u h.2.2))
      (by decide +kernel)
  | .float a b u, h => fun _ =>
    evals_obj (.append (.append (.optF a rfl rfl fun _ _ => evals_float_unbounded) (.optF b rfl rfl fun _ _ => evals_float_unbounded))
      (ent_units hE r rfl u h)) (by decide +kernel)
  | .str a b p, h => fun _ =>
    have h := describable_str h
    evals_obj (.append (.append (ent_len r rfl a h.1) (ent_len r rfl b h.2.1))
      (.optF p rfl rfl fun s hs => by rw [hr.pat s]; exact evals_pattern (h.2.2 s hs))) (by decide +kernel)
  | .bool, _ => fun _ => evals_obj .nil rfl
  | .pattern, _ => fun _ => evals_obj .nil rfl
  | .any, _ => fun _ => evals_obj .nil rfl
  | .enumInt vs u, h => fun _ =>
    have h := describable_enumInt h
    evals_obj (.append (.one rfl rfl (evals_entries (descIntVals_eq r vs) (descIntVals_eq .norm vs)
        (fun v hv => have hv := Bool.and_eq_true_iff.1 (List.all_eq_true.1 h.2.1 v hv)
          ⟨ev_intT r hv.1, ev_disp hE r v.2 hv.2⟩)
        (checkLen_min1 (List.length_pos_iff.2 h.1)) (fun _ => rfl) (nodup_keys_i vs h.2.2.1)))
      (ent_units hE r rfl u h.2.2.2)) (by decide +kernel)
  | .enumStr vs, h => fun _ =>
    have h := describable_enumStr h
    evals_obj (.one rfl rfl (evals_entries (descStrVals_eq r vs) (descStrVals_eq .norm vs)
        (fun v hv => ⟨ev_strT, ev_disp hE r v.2 (List.all_eq_true.1 h.2.1 v hv)⟩)
        (checkLen_min1 (List.length_pos_iff.2 h.1)) (fun _ => rfl) (nodup_keys_s vs h.2.2))) (by decide +kernel)
  | .list item a b, h => fun _ =>
    have h := describable_list h
    evals_obj (.append (.append (.one rfl rfl (ev_ty_of hE hr item (evF_all hE hr item h.1))) (ent_len r rfl a h.2.1))
      (ent_len r rfl b h.2.2)) (by decide +kernel)
  | .map k v a b, h => fun _ =>
    have h := describable_map h
    evals_obj (.append (.append (.cons rfl rfl (ev_key_of hE hr k h.1 (evF_all hE hr k h.2.1))
        (.one rfl rfl (ev_ty_of hE hr v (evF_all hE hr v h.2.2.1)))) (ent_len r rfl a h.2.2.2.1))
      (ent_len r rfl b h.2.2.2.2)) (by decide +kernel)
  | .obj o, h => evObjF_all hE hr o h
  | .oneOf ik d inl ms, h => fun _ => by
    have h := describable_oneOf h
    have hms := evMembers_all hE hr ik ms h.2.1 h.2.2
    have hd := dupKey_map (descMembers_eq .norm ms) (fun m => by cases m.1 <;> rfl) h.1
    cases ik
    · exact evals_obj (.cons rfl rfl evals_bool (.cons rfl rfl ev_strT
        (.one rfl rfl (evals_map hms (checkLen_none _) hd)))) (by decide +kernel)
    · exact evals_obj (.cons rfl rfl evals_bool (.cons rfl rfl ev_strT
        (.one rfl rfl (evals_map hms (checkLen_none _) hd)))) (by decide +kernel)
  | .ref id ns d, h => fun _ =>
    have h := describable_ref h
    evals_obj (.append (.cons rfl rfl (ev_id h.1) (.one rfl rfl ev_strT)) (ent_display hE r rfl d h.2))
      (by decide +kernel)
  | .scope objs root, h => fun _ =>
    have h := describable_scope h
    evals_obj (.cons rfl rfl
      (evals_map (evObjs_all hE hr objs h.2.2) (checkLen_none _)
        (dupKey_map (descObjs_eq .norm objs) (fun _ => rfl) (nodup_keys_s objs h.2.1)))
      (.one rfl rfl (ev_id h.1))) (by decide +kernel)
termination_by structural t => t
theorem evObjF_all {x : Ext} {E : Env} (hE : MetaEnv E) {r : Rep} (hr : r.Good) :
    (o : DObj) → describableObj x o = true → ∀ sh,
      Evals x E oObject (.map sh (kvsOf (descObjF r o))) (toStrAny (descObjF .norm o))
  | .mk id unenf props, h => fun _ =>
    have h := describableObj_mk h
    evals_obj (.cons rfl rfl (ev_id h.1) (.cons rfl rfl
      (evals_map (evProps_all hE hr props h.2.2) (checkLen_none _)
        (dupKey_map (descProps_eq .norm props) (fun _ => rfl) (nodup_keys_s props h.2.1)))
      (.one rfl rfl evals_bool))) (by decide +kernel)
termination_by structural o => o
theorem evProps_all {x : Ext} {E : Env} (hE : MetaEnv E) {r : Rep} (hr : r.Good) :
    (ps : List (String × DProp)) → describableProps x ps = true →
      KVEvals x E str1 (.ref "Property") (descProps r ps) (descProps .norm ps)
  | [], _ => .nil
  | (_, p) :: rest, h =>
    have h := describableProps_cons h
    .cons (ev_str1 h.1) (evProp_all hE hr p h.2.1) (evProps_all hE hr rest h.2.2)
termination_by structural ps => ps
theorem evProp_all {x : Ext} {E : Env} (hE : MetaEnv E) {r : Rep} (hr : r.Good) :
    (p : DProp) → describableProp x p = true → Evals x E (.ref "Property") (descProp r p) (descProp .norm p)
  | .mk ty disp req rif rifn conf dflt ex dis reason, h =>
    have h := describableProp_mk h
    evals_ref hE.property (evals_obj (sh := r.objShape)
      (.append (.append (.append (.append (.append (.one rfl rfl (ev_ty_of hE hr ty (evF_all hE hr ty h.1)))
        (ent_display hE r rfl disp h.2))
        (.cons rfl rfl evals_bool (.cons rfl rfl (evals_strList rif) (.cons rfl rfl (evals_strList rifn)
          (.one rfl rfl (evals_strList conf))))))
        (.optF dflt rfl rfl fun _ _ => ev_strT))
        (.cons rfl rfl (evals_strList ex) (.one rfl rfl evals_bool)))
        (.optF reason rfl rfl fun _ _ => ev_strT)) (by decide +kernel))
termination_by structural p => p
theorem evMembers_all {x : Ext} {E : Env} (hE : MetaEnv E) {r : Rep} (hr : r.Good) (ik : Bool) :
    (ms : List (Key × DTy)) → (ms.all fun m => match m.1 with | .i _ => ik | .s _ => !ik) = true →
      describableMembers x ms = true →
      KVEvals x E (if ik then intT else strT) memberType (descMembers r ms) (descMembers .norm ms)
  | [], _, _ => .nil
  | (k, t) :: rest, hk, h =>
    have h := describableMembers_cons h
    have hk : (keyKindOK ik k && rest.all fun m => keyKindOK ik m.1) = true := hk
    have hk := Bool.and_eq_true_iff.1 hk
    .cons (kv_member_key r ik k hk.1 h.1) (ev_member_of hE hr t h.2.1 (evF_all hE hr t h.2.2.1))
      (evMembers_all hE hr ik rest hk.2 h.2.2.2)
termination_by structural ms => ms
theorem evObjs_all {x : Ext} {E : Env} (hE : MetaEnv E) {r : Rep} (hr : r.Good) :
    (objs : List (String × DObj)) → describableObjs x objs = true →
      KVEvals x E idType (.ref "Object") (descObjs r objs) (descObjs .norm objs)
  | [], _ => .nil
  | (_, o) :: rest, h =>
    have h := describableObjs_cons h
    .cons (ev_id h.1) (evals_ref hE.object (evObjF_all hE hr o h.2.1 _)) (evObjs_all hE hr rest h.2.2)
termination_by structural objs => objs
end

/-- `DescribeScope().Unserialize` on the description of a scope, in any good representation,
    yields the description in normal representation. -/
theorem ev_scope {x : Ext} {r : Rep} (hr : r.Good) (objs : List (String × DObj)) (root : String)
    (h : describable x (.scope objs root) = true) :
    Evals x [] metaScope (describeR r (.scope objs root)) (describeR .norm (.scope objs root)) :=
  evals_scope metaEnv_scope.scope (evF_all metaEnv_scope hr (.scope objs root) h r.objShape)

end Arca
