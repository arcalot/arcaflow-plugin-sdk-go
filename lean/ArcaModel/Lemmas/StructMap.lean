import ArcaModel.Model.StructMapWF
import ArcaModel.Lemmas.Out
/-
  Lemmas about the struct-mapping model (`Model/StructMap.lean`): association lists standing for
  struct values, the field-wise description of `toStruct`, the property-wise description of
  `fromStruct`, and the well-formedness predicate of a (struct type, property table) pair.

  A property's type may differ from its field's as far as `reflect.Value.Convert` reaches
  (`convOK`); what is stored and what is read back is described for that case (`storedC`,
  `readBackC`: the suffix `C` marks what goes through `Convert`). Exact typing (`exactField`) is the
  case in which the conversion is the identity.
-/
namespace Arca
namespace SM

theorem lookupS_eq_none_iff {α} (k : String) (m : List (String × α)) : lookupS k m = none ↔ k ∉ keysOf m :=
  lookupS_none_iff k m

theorem hasKey_iff_mem {α} (k : String) (m : List (String × α)) : hasKey k m = true ↔ k ∈ keysOf m :=
  Arca.hasKey_iff_mem k m

theorem mem_of_lookupS {α} {k : String} {m : List (String × α)} {v : α} (h : lookupS k m = some v) : (k, v) ∈ m :=
  lookupS_mem h

theorem lookupS_of_mem_nodup {α} {k : String} {v : α} {m : List (String × α)} (hn : (keysOf m).Nodup)
    (h : (k, v) ∈ m) : lookupS k m = some v :=
  lookupS_of_mem hn h

theorem assoc_ext {α} : ∀ {a b : List (String × α)}, keysOf a = keysOf b → (keysOf a).Nodup →
    (∀ k, lookupS k a = lookupS k b) → a = b
  | [], [], _, _, _ => rfl
  | [], _ :: _, hk, _, _ => nomatch hk
  | _ :: _, [], hk, _, _ => nomatch hk
  | (k1, v1) :: ra, (k2, v2) :: rb, hk, hn, hl => by
    obtain ⟨rfl, hk2⟩ : k1 = k2 ∧ keysOf ra = keysOf rb := List.cons.inj hk
    rw [keysOf, List.map_cons, List.nodup_cons] at hn
    have h1 := hl k1
    rw [lookupS_cons, lookupS_cons, if_pos rfl, if_pos rfl] at h1
    cases h1
    rw [assoc_ext hk2 hn.2 fun k => ?_]
    have := hl k
    rw [lookupS_cons, lookupS_cons] at this
    by_cases hkk : k = k1
    · -- `k1` occurs in neither tail
      subst hkk
      rw [(lookupS_eq_none_iff _ _).mpr hn.1, (lookupS_eq_none_iff _ _).mpr (hk2 ▸ hn.1)]
    · rwa [if_neg hkk, if_neg hkk] at this

theorem filterMap_congr' {α β} {f g : α → Option β} : ∀ {l : List α}, (∀ a, a ∈ l → f a = g a) →
    l.filterMap f = l.filterMap g
  | [], _ => rfl
  | a :: rest, h => by
    rw [List.filterMap_cons, List.filterMap_cons, h a (List.mem_cons_self ..),
      filterMap_congr' (fun b hb => h b (List.mem_cons_of_mem _ hb))]

/-! #### tables read off a property table: `filterMap` by a function that keeps the key -/

section keyed
variable {α β : Type} {g : String × α → Option (String × β)} (hg : ∀ kp y, g kp = some y → y.1 = kp.1)
include hg

theorem keysOf_filterMap_sublist : ∀ (ps : List (String × α)), (keysOf (ps.filterMap g)).Sublist (keysOf ps)
  | [] => List.Sublist.slnil
  | kp :: rest => by
    rw [List.filterMap_cons]
    cases h : g kp with
    | none => exact List.Sublist.cons _ (keysOf_filterMap_sublist rest)
    | some y =>
      rw [keysOf, List.map_cons, hg kp y h]
      exact List.Sublist.cons_cons _ (keysOf_filterMap_sublist rest)

theorem lookupS_filterMap : ∀ (ps : List (String × α)), (keysOf ps).Nodup → ∀ (k : String) (p : α), (k, p) ∈ ps →
    lookupS k (ps.filterMap g) = (g (k, p)).map (·.2)
  | [], _, _, _, h => nomatch h
  | kp :: rest, hn, k, p, h => by
    rw [keysOf, List.map_cons, List.nodup_cons] at hn
    rw [List.filterMap_cons]
    rcases List.mem_cons.mp h with h | h
    · subst h
      cases hr : g (k, p) with
      | none =>
        exact (lookupS_eq_none_iff _ _).mpr fun hc => hn.1 ((keysOf_filterMap_sublist hg rest).subset hc)
      | some y =>
        obtain ⟨k', x⟩ := y
        cases hg _ _ hr
        exact (lookupS_cons ..).trans (if_pos rfl)
    · have hne : k ≠ kp.1 := fun e => hn.1 (List.mem_map.mpr ⟨(k, p), h, e⟩)
      have ih := lookupS_filterMap rest hn.2 k p h
      cases hr : g kp with
      | none => exact ih
      | some y =>
        obtain ⟨k', x⟩ := y
        cases hg _ _ hr
        exact ((lookupS_cons ..).trans (if_neg hne)).trans ih

theorem lookupS_filterMap_none (ps : List (String × α)) {k : String} (h : lookupS k ps = none) :
    lookupS k (ps.filterMap g) = none :=
  (lookupS_eq_none_iff _ _).mpr fun hc =>
    (lookupS_eq_none_iff _ _).mp h ((keysOf_filterMap_sublist hg ps).subset hc)

end keyed

theorem keysOf_setAt (name : String) (x : SV) : ∀ (acc : List (String × SV)), keysOf (setAt name x acc) = keysOf acc
  | [] => rfl
  | (n, y) :: r => by
    rw [setAt]
    split
    · rfl
    · rw [keysOf, List.map_cons, ← keysOf, keysOf_setAt name x r]; rfl

theorem lookupS_setAt (name n : String) (x : SV) : ∀ (acc : List (String × SV)),
    lookupS n (setAt name x acc) = if n = name then (lookupS name acc).map (fun _ => x) else lookupS n acc
  | [] => by simp [setAt, lookupS]
  | (n', y) :: r => by
    have ih := lookupS_setAt name n x r
    by_cases h1 : n' = name
    · subst h1
      rw [setAt, if_pos (beq_self_eq_true _), lookupS_cons, lookupS_cons, lookupS_cons, if_pos rfl]
      by_cases h2 : n = n'
      · rw [if_pos h2, if_pos h2]; rfl
      · rw [if_neg h2, if_neg h2, if_neg h2]
    · rw [setAt, if_neg (by simpa using h1), lookupS_cons, ih, lookupS_cons, lookupS_cons,
        if_neg (Ne.symm h1)]
      by_cases h2 : n = n'
      · rw [if_pos h2, if_pos h2, if_neg (h2 ▸ h1)]
      · rw [if_neg h2, if_neg h2]

/-- the field an entry of the converted map goes to, and the value stored there
    (`none`: the assignment fails - no such property / field, unexported field, not convertible) -/
def entrySet (st : StructTy) (props : List (String × SProp)) (k : String) (v : SV) : Option (String × SV) :=
  match fieldFor st k, lookupS k props with
  | some f, some p =>
    if f.exported then (setField f.ty (srcTy p.ty v) v).map (fun x => (f.name, x)) else none
  | _, _ => none

def applyEntries (st : StructTy) (props : List (String × SProp)) :
    List (String × SV) → List (String × SV) → List (String × SV)
  | [], acc => acc
  | (k, v) :: rest, acc =>
    match entrySet st props k v with
    | some (n, x) => applyEntries st props rest (setAt n x acc)
    | none => applyEntries st props rest acc

theorem entrySet_some {st : StructTy} {props : List (String × SProp)} {k : String} {v : SV} {n : String} {x : SV}
    (h : entrySet st props k v = some (n, x)) :
    ∃ f p, fieldFor st k = some f ∧ lookupS k props = some p ∧ n = f.name ∧ f.exported = true ∧
      setField f.ty (srcTy p.ty v) v = some x := by
  unfold entrySet at h
  cases hf : fieldFor st k with
  | none => rw [hf] at h; cases h
  | some f =>
    cases hp : lookupS k props with
    | none => rw [hf, hp] at h; cases h
    | some p =>
      simp only [hf, hp] at h
      cases hex : f.exported with
      | false => rw [hex] at h; cases h
      | true =>
        rw [hex, if_pos rfl] at h
        cases hs : setField f.ty (srcTy p.ty v) v with
        | none => rw [hs] at h; cases h
        | some y => rw [hs] at h; cases h; exact ⟨f, p, rfl, rfl, rfl, hex, hs⟩

/-- one step of the loop of `unserializeToStruct`: the entry is assigned, or the loop ends - with an
    error at the key when the property and its field exist, else with a panic -/
theorem toStructGo_cons (st : StructTy) (props : List (String × SProp)) (k : String) (v : SV)
    (rest acc : List (String × SV)) :
    toStructGo st props ((k, v) :: rest) acc =
      match entrySet st props k v with
      | some nx => toStructGo st props rest (setAt nx.1 nx.2 acc)
      | none => if (fieldFor st k).isSome && (lookupS k props).isSome then .cerrAt [k] else .panic := by
  rw [toStructGo, entrySet]
  cases fieldFor st k with
  | none => rfl
  | some f =>
    cases lookupS k props with
    | none => rfl
    | some p =>
      simp only []
      cases f.exported with
      | false => rfl
      | true => cases setField f.ty (srcTy p.ty v) v <;> rfl

/-- `unserializeToStruct` succeeds exactly when every entry can be assigned, and then performs the
    assignments in order -/
theorem toStructGo_ok_iff {st : StructTy} {props : List (String × SProp)} :
    ∀ {m acc r : List (String × SV)}, toStructGo st props m acc = .ok r ↔
      r = applyEntries st props m acc ∧ ∀ kv, kv ∈ m → (entrySet st props kv.1 kv.2).isSome
  | [], acc, r => by
    rw [toStructGo, applyEntries, Out.ok.injEq, eq_comm]
    exact ⟨fun h => ⟨h, fun _ h => nomatch h⟩, fun h => h.1⟩
  | (k, v) :: rest, acc, r => by
    rw [toStructGo_cons, applyEntries, List.forall_mem_cons]
    cases entrySet st props k v with
    | none =>
      refine ⟨fun h => ?_, fun h => nomatch h.2.1⟩
      simp only [] at h
      split at h <;> cases h
    | some nx => exact toStructGo_ok_iff.trans ⟨fun h => ⟨h.1, rfl, h.2⟩, fun h => ⟨h.1, h.2.2⟩⟩

theorem keysOf_applyEntries (st : StructTy) (props : List (String × SProp)) :
    ∀ (m acc : List (String × SV)), keysOf (applyEntries st props m acc) = keysOf acc
  | [], _ => rfl
  | (k, v) :: rest, acc => by
    rw [applyEntries]
    split
    · rw [keysOf_applyEntries, keysOf_setAt]
    · exact keysOf_applyEntries st props rest acc

/-- the value of the last entry that is assigned to field `n` -/
def lastTarget (st : StructTy) (props : List (String × SProp)) (n : String) : List (String × SV) → Option SV
  | [] => none
  | (k, v) :: rest =>
    match lastTarget st props n rest with
    | some x => some x
    | none =>
      match entrySet st props k v with
      | some (n', x) => if n' = n then some x else none
      | none => none

theorem lookupS_applyEntries (st : StructTy) (props : List (String × SProp)) (n : String) :
    ∀ (m acc : List (String × SV)), lookupS n (applyEntries st props m acc) =
      match lastTarget st props n m with
      | some x => (lookupS n acc).map (fun _ => x)
      | none => lookupS n acc
  | [], acc => rfl
  | (k, v) :: rest, acc => by
    rw [applyEntries, lastTarget]
    cases hes : entrySet st props k v with
    | none =>
      rw [lookupS_applyEntries st props n rest acc]
      cases lastTarget st props n rest <;> rfl
    | some nx =>
      obtain ⟨n', x⟩ := nx
      simp only []
      rw [lookupS_applyEntries st props n rest (setAt n' x acc), lookupS_setAt]
      by_cases h : n = n'
      · subst h
        rw [if_pos rfl, if_pos rfl]
        cases lastTarget st props n rest <;> cases lookupS n acc <;> rfl
      · rw [if_neg h, if_neg (Ne.symm h)]
        cases lastTarget st props n rest <;> rfl

theorem lastTarget_none {st : StructTy} {props : List (String × SProp)} {n : String} :
    ∀ (m : List (String × SV)), (∀ kv, kv ∈ m → ∀ n' x, entrySet st props kv.1 kv.2 = some (n', x) → n' ≠ n) →
      lastTarget st props n m = none
  | [], _ => rfl
  | (k, v) :: rest, h => by
    rw [lastTarget, lastTarget_none rest (fun kv hkv => h kv (List.mem_cons_of_mem _ hkv))]
    cases hes : entrySet st props k v with
    | none => rfl
    | some nx => exact if_neg (h (k, v) (List.mem_cons_self ..) nx.1 nx.2 hes)

structure WFObj (st : StructTy) (props : List (String × SProp)) : Prop where
  names : (st.fields.map (·.name)).Nodup
  keys : (keysOf props).Nodup
  prop : ∀ kp, kp ∈ props → propOK st kp = true
  inj : ∀ a, a ∈ props → ∀ b, b ∈ props → fieldName? st a.1 = fieldName? st b.1 → a.1 = b.1
  defaults : ∀ kp, kp ∈ props → defaultOK kp.2.rules = true
  zeros : ∀ f, f ∈ st.fields → zeroOK f = true

theorem wfObjB_iff (st : StructTy) (props : List (String × SProp)) : wfObjB st props = true ↔ WFObj st props := by
  have hinj : ∀ a b : String × SProp, (fieldName? st a.1 != fieldName? st b.1 || a.1 == b.1) = true ↔
      (fieldName? st a.1 = fieldName? st b.1 → a.1 = b.1) := fun a b => by
    rw [Bool.or_eq_true, bne_iff_ne, beq_iff_eq, Decidable.imp_iff_not_or]
  simp only [wfObjB, Bool.and_eq_true, decide_eq_true_eq, List.all_eq_true, hinj]
  exact ⟨fun ⟨⟨⟨⟨⟨h1, h2⟩, h3⟩, h4⟩, h5⟩, h6⟩ => ⟨h1, h2, h3, h4, h5, h6⟩,
    fun ⟨h1, h2, h3, h4, h5, h6⟩ => ⟨⟨⟨⟨⟨h1, h2⟩, h3⟩, h4⟩, h5⟩, h6⟩⟩

instance (st : StructTy) (props : List (String × SProp)) : Decidable (WFObj st props) :=
  decidable_of_iff _ (wfObjB_iff st props)

theorem propOK_field {st : StructTy} {kp : String × SProp} (h : propOK st kp = true) :
    ∃ f, fieldFor st kp.1 = some f ∧ f.exported = true ∧
      convOK (elemTy f.ty (reflTy kp.2.ty)) (reflTy kp.2.ty) = true ∧
      (reflTy kp.2.ty = .iface → f.ty = .iface) := by
  unfold propOK at h
  cases hf : fieldFor st kp.1 with
  | none => rw [hf] at h; cases h
  | some f =>
    simp only [hf, Bool.and_eq_true, Bool.or_eq_true, bne_iff_ne, ne_eq, beq_iff_eq] at h
    exact ⟨f, rfl, h.1.1, h.1.2, Decidable.imp_iff_not_or.mpr h.2⟩

theorem mem_props_of_lookupS {props : List (String × SProp)} {k : String} {p : SProp} (h : lookupS k props = some p) :
    (k, p) ∈ props := lookupS_mem h

theorem fieldFor_mem {st : StructTy} {k : String} {f : Field} (h : fieldFor st k = some f) : f ∈ st.fields := by
  unfold fieldFor at h
  split at h
  · rename_i g hg
    cases h
    exact (List.mem_filter.mp (hg ▸ List.mem_singleton.mpr rfl : f ∈ st.fields.filter _)).1
  · exact List.mem_of_find?_eq_some h

theorem keysOf_zeroFields (st : StructTy) : keysOf (zeroFields st) = st.fields.map (·.name) := by
  rw [keysOf, zeroFields, List.map_map]; rfl

theorem lookupS_zeroFields {st : StructTy} (hn : (st.fields.map (·.name)).Nodup) {f : Field} (hf : f ∈ st.fields) :
    lookupS f.name (zeroFields st) = some f.zero :=
  lookupS_of_mem_nodup (keysOf_zeroFields st ▸ hn) (List.mem_map.mpr ⟨f, hf, rfl⟩)

theorem field_eq_of_name {st : StructTy} (hn : (st.fields.map (·.name)).Nodup) {f g : Field}
    (hf : f ∈ st.fields) (hg : g ∈ st.fields) (h : f.name = g.name) : f = g := by
  -- both are the entry of that name in the table of fields by name
  have hk : (keysOf (st.fields.map fun f => (f.name, f))).Nodup := by rw [keysOf, List.map_map]; exact hn
  have h1 := lookupS_of_mem_nodup hk (List.mem_map.mpr ⟨f, hf, rfl⟩)
  rw [h, lookupS_of_mem_nodup hk (List.mem_map.mpr ⟨g, hg, rfl⟩)] at h1
  exact (Option.some.inj h1).symm

/-- under injectivity, the last entry assigned to the field of property `k` is the entry of `k` -/
theorem lastTarget_of_inj {st : StructTy} {props : List (String × SProp)}
    (hinj : ∀ a, a ∈ props → ∀ b, b ∈ props → fieldName? st a.1 = fieldName? st b.1 → a.1 = b.1)
    {k : String} {f : Field} (hf : fieldFor st k = some f) (hk : hasKey k props = true) :
    ∀ (m : List (String × SV)), (keysOf m).Nodup →
      lastTarget st props f.name m = (lookupS k m).bind fun v => (entrySet st props k v).map (·.2)
  | [], _ => rfl
  | (k', v') :: rest, hn => by
    rw [keysOf, List.map_cons, List.nodup_cons] at hn
    rw [lastTarget, lookupS_cons, lastTarget_of_inj hinj hf hk rest hn.2]
    by_cases hkk : k = k'
    · subst hkk
      rw [(lookupS_eq_none_iff _ _).mpr hn.1, if_pos rfl]
      simp only [Option.bind_none, Option.bind_some]
      cases hes : entrySet st props k v' with
      | none => rfl
      | some nx =>
        obtain ⟨f', _, hf', _, hn', _⟩ := entrySet_some (n := nx.1) (x := nx.2) hes
        cases hf.symm.trans hf'
        exact if_pos hn'
    · rw [if_neg hkk]
      cases (lookupS k rest).bind fun v => (entrySet st props k v).map (·.2) with
      | some x => rfl
      | none =>
        cases hes : entrySet st props k' v' with
        | none => rfl
        | some nx =>
          obtain ⟨f', p', hf', hp', hn', _⟩ := entrySet_some (n := nx.1) (x := nx.2) hes
          -- another property assigned to the same field would be the same property
          refine if_neg fun hnn => hkk ?_
          obtain ⟨pk, hpk⟩ := Option.isSome_iff_exists.mp hk
          exact hinj (k, pk) (lookupS_mem hpk) (k', p') (lookupS_mem hp') (by
            rw [fieldName?, fieldName?, hf, hf', Option.map_some, Option.map_some, ← hn', hnn])


/-- the treat-empty-as-default test as a Boolean (when the types convert) -/
def emptyB (vty src : GoTy) (x : SV) : Bool :=
  vty != .iface && (if vty.under == .str && src.under.isIntKind then isRune0 x else x.isZero)

theorem emptyLike_eq (vty src : GoTy) (x : SV) :
    emptyLike vty src x = if convOK vty src then .ok (emptyB vty src x) else .panic := by
  unfold emptyLike emptyB
  cases convOK vty src
  · rfl
  · by_cases hi : vty = .iface
    · simp [hi]
    · have hb : (vty == GoTy.iface) = false := by simpa using hi
      have hb' : (vty != GoTy.iface) = true := by simpa using hi
      simp only [hb, hb', Bool.not_true, Bool.false_eq_true, if_false, Bool.true_and, if_true]
      split <;> rfl

/-- the three outcomes of `getFieldReflection` with the treat-empty-as-default test: a panic, "not
    set", or the value the field holds -/
theorem readField_cases (f : Field) (src : GoTy) (dis eid : Bool) (fv : SV) :
    readField f src dis eid fv = .panic ∨ readField f src dis eid fv = .ok none ∨
      (readField f src dis eid fv = .ok (some (fieldValue f.ty src fv)) ∧ fv.isNilPtr = false) := by
  generalize hr : readField f src dis eid fv = r
  unfold readField at hr
  -- the tests of `readField` in their order (`split` on the whole chain is far slower to check)
  by_cases h1 : fv.isNilPtr = true
  · rw [if_pos h1] at hr; exact Or.inr (Or.inl hr.symm)
  rw [if_neg h1] at hr
  by_cases h2 : (!f.exported) = true
  · rw [if_pos h2] at hr; exact Or.inl hr.symm
  rw [if_neg h2] at hr
  by_cases h3 : (fieldValue f.ty src fv).isNilIface = true
  · rw [if_pos h3] at hr; exact Or.inr (Or.inl hr.symm)
  rw [if_neg h3] at hr
  by_cases h4 : (dis && reflIsZero (elemTy f.ty src) (fieldValue f.ty src fv)) = true
  · rw [if_pos h4] at hr; exact Or.inr (Or.inl hr.symm)
  rw [if_neg h4] at hr
  have hn : fv.isNilPtr = false := Bool.not_eq_true _ ▸ h1
  by_cases h5 : eid = true
  · rw [if_pos h5, emptyLike_eq] at hr
    by_cases h6 : convOK (elemTy f.ty src) src = true
    · rw [if_pos h6] at hr
      cases he : emptyB (elemTy f.ty src) src (fieldValue f.ty src fv)
      · rw [he] at hr; exact Or.inr (Or.inr ⟨hr.symm, hn⟩)
      · rw [he] at hr; exact Or.inr (Or.inl hr.symm)
    · rw [if_neg h6] at hr; exact Or.inl hr.symm
  · rw [if_neg h5] at hr; exact Or.inr (Or.inr ⟨hr.symm, hn⟩)

theorem readField_some {f : Field} {src : GoTy} {dis eid : Bool} {fv x : SV}
    (h : readField f src dis eid fv = .ok (some x)) : x = fieldValue f.ty src fv ∧ fv.isNilPtr = false := by
  rcases readField_cases f src dis eid fv with h' | h' | ⟨h', hn⟩
  · rw [h'] at h; cases h
  · rw [h'] at h; cases h
  · rw [h'] at h; cases h; exact ⟨rfl, hn⟩

theorem readField_convOK {f : Field} {src : GoTy} (hexp : f.exported = true)
    (hconv : convOK (elemTy f.ty src) src = true) (dis eid : Bool) {fv : SV} (hnn : fv.isNilPtr = false) :
    readField f src dis eid fv = .ok (
      if (fieldValue f.ty src fv).isNilIface then none
      else if dis && reflIsZero (elemTy f.ty src) (fieldValue f.ty src fv) then none
      else if eid && emptyB (elemTy f.ty src) src (fieldValue f.ty src fv) then none
      else some (fieldValue f.ty src fv)) := by
  unfold readField
  rw [hnn, hexp, emptyLike_eq, hconv]
  generalize (fieldValue f.ty src fv).isNilIface = a
  generalize (dis && reflIsZero (elemTy f.ty src) (fieldValue f.ty src fv)) = b
  generalize emptyB (elemTy f.ty src) src (fieldValue f.ty src fv) = c
  cases a <;> cases b <;> cases eid <;> cases c <;> rfl

def readProp (st : StructTy) (fs : List (String × SV)) (k : String) (p : SProp) : Out (Option SV) :=
  match fieldFor st k with
  | none => .panic
  | some f =>
    match lookupS f.name fs with
    | none => .cerr
    | some fv => readField f (reflTy p.ty) p.disabled p.emptyIsDefault fv

def readOpt (st : StructTy) (fs : List (String × SV)) (kp : String × SProp) : Option (String × SV) :=
  match readProp st fs kp.1 kp.2 with
  | .ok (some x) => some (kp.1, x)
  | _ => none

theorem readOpt_key (st : StructTy) (fs : List (String × SV)) (kp : String × SProp) (y : String × SV)
    (h : readOpt st fs kp = some y) : y.1 = kp.1 := by
  unfold readOpt at h
  split at h
  · cases h; rfl
  · cases h

theorem readOpt_of_ok {st : StructTy} {fs : List (String × SV)} {kp : String × SProp} {o : Option SV}
    (h : readProp st fs kp.1 kp.2 = .ok o) : readOpt st fs kp = o.map fun x => (kp.1, x) := by
  rw [readOpt, h]; cases o <;> rfl

theorem fromStruct_cons (st : StructTy) (k : String) (p : SProp) (rest : List (String × SProp)) (fs : List (String × SV)) :
    fromStruct st ((k, p) :: rest) fs =
      (readProp st fs k p).bind fun o => (fromStruct st rest fs).bind fun m =>
        .ok (match o with | some x => (k, x) :: m | none => m) := by
  rw [fromStruct, readProp]
  cases fieldFor st k with
  | none => rfl
  | some f =>
    simp only []
    cases lookupS f.name fs <;> rfl

theorem fromStruct_ok_iff (st : StructTy) (fs : List (String × SV)) : ∀ (props : List (String × SProp)) (raw : List (String × SV)),
    fromStruct st props fs = .ok raw ↔
      (∀ kp, kp ∈ props → ∃ o, readProp st fs kp.1 kp.2 = .ok o) ∧ raw = props.filterMap (readOpt st fs)
  | [], raw => by
    rw [fromStruct, Out.ok.injEq, eq_comm]
    exact ⟨fun h => ⟨fun _ h => (nomatch h), h⟩, fun h => h.2⟩
  | (k, p) :: rest, raw => by
    rw [fromStruct_cons, List.forall_mem_cons, List.filterMap_cons]
    constructor
    · intro h
      obtain ⟨o, ho, h⟩ := Out.bind_eq_ok h
      obtain ⟨m, hm, h⟩ := Out.bind_eq_ok h
      obtain ⟨h1, rfl⟩ := (fromStruct_ok_iff st fs rest m).mp hm
      cases h
      rw [readOpt_of_ok (kp := (k, p)) ho]
      exact ⟨⟨⟨o, ho⟩, h1⟩, by cases o <;> rfl⟩
    · intro ⟨⟨⟨o, ho⟩, h1⟩, h2⟩
      rw [readOpt_of_ok (kp := (k, p)) ho] at h2
      rw [ho, (fromStruct_ok_iff st fs rest _).mpr ⟨h1, rfl⟩, h2]
      cases o <;> rfl

/-- a property that panics makes `fromStruct` panic, unless an earlier one fails otherwise -/
theorem fromStruct_panic {st : StructTy} {fs : List (String × SV)} : ∀ {props : List (String × SProp)},
    (∀ kp, kp ∈ props → (∃ o, readProp st fs kp.1 kp.2 = .ok o) ∨ readProp st fs kp.1 kp.2 = .panic) →
    (∃ kp, kp ∈ props ∧ readProp st fs kp.1 kp.2 = .panic) → fromStruct st props fs = .panic
  | [], _, ⟨_, h, _⟩ => nomatch h
  | (k, p) :: rest, hall, ⟨kp, hkp, hp⟩ => by
    rw [fromStruct_cons]
    rcases hall (k, p) (List.mem_cons_self ..) with ⟨o, ho⟩ | ho
    · rcases List.mem_cons.mp hkp with rfl | hkp
      · rw [hp] at ho; cases ho
      · rw [ho, fromStruct_panic (fun a ha => hall a (List.mem_cons_of_mem _ ha)) ⟨kp, hkp, hp⟩]; rfl
    · rw [ho]; rfl

theorem keysOf_filterMap_readOpt (st : StructTy) (fs : List (String × SV)) : ∀ (props : List (String × SProp)),
    (keysOf (props.filterMap (readOpt st fs))).Sublist (keysOf props) :=
  keysOf_filterMap_sublist (readOpt_key st fs)

theorem convOK_iface (src : GoTy) : convOK .iface src = true := by
  unfold convOK
  split
  · rfl
  · split <;> simp_all

theorem convOK_refl (t : GoTy) : convOK t t = true := by simp [convOK]

theorem conv_iface (src : GoTy) (v : SV) : conv .iface src v = v := by
  unfold conv
  split <;> rfl

theorem conv_refl (t : GoTy) (v : SV) : conv t t v = v := by simp [conv]

@[simp] theorem isPtr_ptr (e : GoTy) : (GoTy.ptr e).isPtr = true := rfl
@[simp] theorem deref_ptr (e : GoTy) : (GoTy.ptr e).deref = e := rfl
@[simp] theorem isPtr_iface : (GoTy.iface).isPtr = false := rfl

theorem ptr_ne_self {e : GoTy} (h : e.isPtr = false) : GoTy.ptr e ≠ e := by
  intro he
  rw [← he] at h
  cases h

theorem elemTy_of_not_ptr {fty : GoTy} (h : fty.isPtr = false) (src : GoTy) : elemTy fty src = fty := by
  rw [elemTy, h]; rfl

theorem elemTy_ptr {e : GoTy} (h : e.isPtr = false) : elemTy (.ptr e) e = e := by
  rw [elemTy, h]; rfl

theorem elemTy_self (t : GoTy) : elemTy t t = t := by
  unfold elemTy
  cases t.isPtr <;> rfl

theorem srcTy_of_ne_iface {t : STy} (h : reflTy t ≠ .iface) (v : SV) : srcTy t v = reflTy t := by
  unfold srcTy
  simp [h]

theorem conv_isPtrVal (dst src : GoTy) (v : SV) : (conv dst src v).isPtrVal = v.isPtrVal := by
  unfold conv
  split
  · rfl
  · split
    · rfl
    · split <;> rfl

theorem conv_isNilPtr (dst src : GoTy) (v : SV) : (conv dst src v).isNilPtr = v.isNilPtr := by
  unfold conv
  split
  · rfl
  · split
    · rfl
    · split <;> rfl

theorem fieldValue_of_not_ptr {fty src : GoTy} {x : SV}
    (h : x.isPtrVal = false ∨ (fty.isPtr && !src.isPtr) = false) : fieldValue fty src x = x := by
  cases x with
  | ptr e =>
    rcases h with h | h
    · cases h
    · rw [fieldValue, h]; rfl
  | _ => rfl

theorem isNilIface_eq {x : SV} (h : x.isNilIface = true) : x = .val .nil := by
  unfold SV.isNilIface at h
  split at h
  · rfl
  · cases h

/-- the value stored for a property: the entry's value converted to the field's (element) type;
    an interface field takes the value as it is -/
def convBack (f : Field) (p : SProp) (v : SV) : SV :=
  if reflTy p.ty = .iface then v else conv (elemTy f.ty (reflTy p.ty)) (reflTy p.ty) v

/-- the value stored in the field (behind a fresh pointer for a pointer field) -/
def storedC (f : Field) (p : SProp) (v : SV) : SV :=
  if f.ty.isPtr && !(reflTy p.ty).isPtr then .ptr (convBack f p v) else convBack f p v

theorem setField_wf {f : Field} {p : SProp}
    (hconv : convOK (elemTy f.ty (reflTy p.ty)) (reflTy p.ty) = true)
    (hif : reflTy p.ty = .iface → f.ty = .iface) (v : SV) :
    setField f.ty (srcTy p.ty v) v = some (storedC f p v) := by
  by_cases hi : reflTy p.ty = .iface
  · -- an interface field takes the value as it is, whatever its dynamic type
    simp only [setField, storedC, convBack, hif hi, hi, elemTy, isPtr_iface, Bool.false_and, Bool.false_eq_true,
      if_false, convOK_iface, if_true, conv_iface]
  · rw [srcTy_of_ne_iface hi, setField, hconv, if_pos rfl, storedC, convBack, if_neg hi]

theorem storedC_isNilPtr (f : Field) (p : SProp) {v : SV} (hv : v.isNilPtr = false) :
    (storedC f p v).isNilPtr = false := by
  unfold storedC convBack
  split
  · rfl
  · split
    · exact hv
    · rw [conv_isNilPtr, hv]

theorem fieldValue_storedC (f : Field) (p : SProp) (v : SV) :
    fieldValue f.ty (reflTy p.ty) (storedC f p v) = convBack f p v := by
  unfold storedC
  cases hw : f.ty.isPtr && !(reflTy p.ty).isPtr
  · exact fieldValue_of_not_ptr (Or.inr hw)
  · rw [if_pos rfl, fieldValue, hw, if_pos rfl]

/-! ### map -> struct -> map -/

/-- what a property reads back after `toStruct`, for any well-formed pair -/
def readBackC (f : Field) (p : SProp) (o : Option SV) : Option SV :=
  match o with
  | some v =>
    if (convBack f p v).isNilIface then none
    else if p.disabled && reflIsZero (elemTy f.ty (reflTy p.ty)) (convBack f p v) then none
    else if p.emptyIsDefault && emptyB (elemTy f.ty (reflTy p.ty)) (reflTy p.ty) (convBack f p v) then none
    else some (convBack f p v)
  | none =>
    if f.ty.isPtr || f.ty == .iface || p.disabled then none
    else if p.emptyIsDefault && emptyB f.ty (reflTy p.ty) f.zero then none
    else some f.zero

def expectedBackC (st : StructTy) (props : List (String × SProp)) (m : List (String × SV)) : List (String × SV) :=
  props.filterMap fun kp =>
    match fieldFor st kp.1 with
    | some f => (readBackC f kp.2 (lookupS kp.1 m)).map fun x => (kp.1, x)
    | none => none

/-- a value of a converted map as Go produces it (for a property of reflected type `src`): never
    a nil pointer, never the nil interface -/
def shaped (_src : GoTy) (v : SV) : Bool :=
  !v.isNilPtr && !v.isNilIface

theorem shaped_iff {src : GoTy} {v : SV} : shaped src v = true ↔ v.isNilPtr = false ∧ v.isNilIface = false := by
  rw [shaped, Bool.and_eq_true, Bool.not_eq_true', Bool.not_eq_true']

/-- a converted map as `convertData` hands it to `unserializeToStruct`: distinct declared keys,
    values shaped like what the properties' types unserialize to -/
structure ConvertedMap (props : List (String × SProp)) (m : List (String × SV)) : Prop where
  keys : (keysOf m).Nodup
  declared : ∀ kv, kv ∈ m → hasKey kv.1 props = true
  shaped : ∀ kv, kv ∈ m → ∀ p, lookupS kv.1 props = some p → shaped (reflTy p.ty) kv.2 = true

theorem readField_storedC {f : Field} {p : SProp} (hexp : f.exported = true)
    (hconv : convOK (elemTy f.ty (reflTy p.ty)) (reflTy p.ty) = true) {v : SV}
    (hv : shaped (reflTy p.ty) v = true) :
    readField f (reflTy p.ty) p.disabled p.emptyIsDefault (storedC f p v) = .ok (readBackC f p (some v)) := by
  rw [readField_convOK hexp hconv _ _ (storedC_isNilPtr f p (shaped_iff.mp hv).1), fieldValue_storedC]
  rfl

theorem zeroOK_cases {f : Field} (h : zeroOK f = true) :
    (f.ty.isPtr = true ∧ f.zero.isNilPtr = true) ∨
    (f.ty.isPtr = false ∧ f.ty = .iface ∧ f.zero = .val .nil) ∨
    (f.ty.isPtr = false ∧ f.ty ≠ .iface ∧ f.zero.isZero = true ∧ f.zero.isNilPtr = false ∧
      f.zero.isPtrVal = false ∧ f.zero.isNilIface = false) := by
  unfold zeroOK at h
  cases hp : f.ty.isPtr
  · rw [hp, if_neg Bool.false_ne_true] at h
    by_cases hi : f.ty = .iface
    · rw [if_pos (beq_iff_eq.mpr hi)] at h
      exact Or.inr (Or.inl ⟨rfl, hi, isNilIface_eq h⟩)
    · rw [if_neg (fun e => hi (beq_iff_eq.mp e))] at h
      simp only [Bool.and_eq_true, Bool.not_eq_true', and_assoc] at h
      exact Or.inr (Or.inr ⟨rfl, hi, h⟩)
  · rw [hp, if_pos rfl] at h
    exact Or.inl ⟨rfl, h⟩

theorem readField_zeroC {f : Field} {p : SProp} (hexp : f.exported = true)
    (hconv : convOK (elemTy f.ty (reflTy p.ty)) (reflTy p.ty) = true) (hz : zeroOK f = true) :
    readField f (reflTy p.ty) p.disabled p.emptyIsDefault f.zero = .ok (readBackC f p none) := by
  rcases zeroOK_cases hz with ⟨hp, hz⟩ | ⟨hp, hi, hz⟩ | ⟨hp, hi, hz1, hz2, hz3, hz4⟩
  · rw [readField, if_pos hz, readBackC, hp]; rfl
  · rw [readField_convOK hexp hconv _ _ (show f.zero.isNilPtr = false by rw [hz]; rfl), hz, readBackC, hi]
    rfl
  · have hi' : (f.ty == GoTy.iface) = false := beq_eq_false_iff_ne.mpr hi
    have hrz : reflIsZero f.ty f.zero = true := by rw [reflIsZero, hz1, bne, hi']; rfl
    rw [readField_convOK hexp hconv _ _ hz2, fieldValue_of_not_ptr (Or.inl hz3), hz4,
      elemTy_of_not_ptr hp, hrz, readBackC, hp, hi']
    cases p.disabled <;> rfl

theorem entrySet_wf {st : StructTy} {props : List (String × SProp)} (hwf : WFObj st props)
    {k : String} {p : SProp} (hkp : (k, p) ∈ props) {f : Field} (hf : fieldFor st k = some f) (v : SV) :
    entrySet st props k v = some (f.name, storedC f p v) := by
  obtain ⟨f', hf', hexp, hconv, hif⟩ := propOK_field (hwf.prop (k, p) hkp)
  cases hf.symm.trans hf'
  simp only [entrySet, hf, lookupS_of_mem_nodup hwf.keys hkp, hexp, if_true, setField_wf hconv hif v, Option.map_some]

theorem toStruct_wf {st : StructTy} {props : List (String × SProp)} (hwf : WFObj st props)
    {m : List (String × SV)} (hdecl : ∀ kv, kv ∈ m → hasKey kv.1 props = true) :
    toStruct st props m = .ok (applyEntries st props m (zeroFields st)) := by
  refine toStructGo_ok_iff.mpr ⟨rfl, fun kv hkv => ?_⟩
  obtain ⟨p, hp⟩ := Option.isSome_iff_exists.mp (hdecl kv hkv)
  obtain ⟨f, hf, _⟩ := propOK_field (hwf.prop (kv.1, p) (lookupS_mem hp))
  rw [entrySet_wf hwf (lookupS_mem hp) hf]
  rfl

theorem lookupS_appliedC {st : StructTy} {props : List (String × SProp)} (hwf : WFObj st props)
    {m : List (String × SV)} (hkeys : (keysOf m).Nodup)
    {k : String} {p : SProp} (hkp : (k, p) ∈ props) {f : Field} (hf : fieldFor st k = some f) :
    lookupS f.name (applyEntries st props m (zeroFields st)) =
      some (match lookupS k m with
        | some v => storedC f p v
        | none => f.zero) := by
  rw [lookupS_applyEntries, lastTarget_of_inj hwf.inj hf (hasKey_eq_true_iff.mpr ⟨_, hkp⟩) m hkeys,
    lookupS_zeroFields hwf.names (fieldFor_mem hf)]
  cases lookupS k m with
  | none => rfl
  | some v => rw [Option.bind_some, entrySet_wf hwf hkp hf v]; rfl

theorem readProp_appliedC {st : StructTy} {props : List (String × SProp)} (hwf : WFObj st props)
    {m : List (String × SV)} (hm : ConvertedMap props m)
    {k : String} {p : SProp} (hkp : (k, p) ∈ props) {f : Field} (hf : fieldFor st k = some f) :
    readProp st (applyEntries st props m (zeroFields st)) k p = .ok (readBackC f p (lookupS k m)) := by
  obtain ⟨f', hf', hexp, hconv, _⟩ := propOK_field (hwf.prop (k, p) hkp)
  cases hf.symm.trans hf'
  simp only [readProp, hf, lookupS_appliedC hwf hm.keys hkp hf]
  cases hl : lookupS k m with
  | none => exact readField_zeroC hexp hconv (hwf.zeros f (fieldFor_mem hf))
  | some v =>
    exact readField_storedC hexp hconv (hm.shaped (k, v) (lookupS_mem hl) p (lookupS_of_mem_nodup hwf.keys hkp))

/-! ### exact typing: the conversion is the identity -/

theorem exactField_cases {f : Field} {src : GoTy} (h : exactField f src = true) :
    f.ty = src ∨ (f.ty = .ptr src ∧ src.isPtr = false ∧ src ≠ .iface) := by
  simpa only [exactField, Bool.or_eq_true, beq_iff_eq, Bool.and_eq_true, Bool.not_eq_true', bne_iff_ne, ne_eq,
    and_assoc] using h

theorem elemTy_exact {f : Field} {src : GoTy} (h : exactField f src = true) : elemTy f.ty src = src := by
  rcases exactField_cases h with h | ⟨h, hnp, _⟩
  · rw [h, elemTy_self]
  · rw [h, elemTy_ptr hnp]

theorem exact_of_mem {st : StructTy} {props : List (String × SProp)} (hex : exactObjB st props = true)
    {kp : String × SProp} (hkp : kp ∈ props) {f : Field} (hf : fieldFor st kp.1 = some f) :
    exactField f (reflTy kp.2.ty) = true := by
  have := (List.all_eq_true.mp hex) kp hkp
  rwa [hf] at this

theorem convBack_exact {f : Field} {p : SProp} (h : exactField f (reflTy p.ty) = true) (v : SV) :
    convBack f p v = v := by
  unfold convBack
  split
  · rfl
  · rw [elemTy_exact h, conv_refl]

theorem storedC_exact {f : Field} {p : SProp} (h : exactField f (reflTy p.ty) = true) (v : SV) :
    storedC f p v = if f.ty = reflTy p.ty then v else .ptr v := by
  rw [storedC, convBack_exact h]
  rcases exactField_cases h with h | ⟨h, hnp, _⟩
  · rw [if_pos h, h]
    cases (reflTy p.ty).isPtr <;> rfl
  · have hne : f.ty ≠ reflTy p.ty := h ▸ ptr_ne_self hnp
    rw [if_neg hne, h, hnp]
    rfl

theorem emptyB_self (src : GoTy) (x : SV) : emptyB src src x = (src != .iface && x.isZero) := by
  have : (src.under == .str && src.under.isIntKind) = false := by
    cases h : src.under == GoTy.str
    · rfl
    · rw [beq_iff_eq.mp h]; rfl
  rw [emptyB, this]
  rfl

/-- what a property reads back after `toStruct`, given what the converted map held for it:
    a supplied value comes back unless it is the zero value of a treat-empty-as-default (or
    disabled) property; an absent property comes back with the field's zero value unless the field
    is a pointer or an interface or the property is treat-empty-as-default or disabled -/
def readBack (f : Field) (p : SProp) (o : Option SV) : Option SV :=
  match o with
  | some v => if (p.disabled || p.emptyIsDefault) && reflTy p.ty != .iface && v.isZero then none else some v
  | none => if f.ty.isPtr || f.ty == .iface || p.disabled || p.emptyIsDefault then none else some f.zero

/-- the map `fromStruct` reads from the struct built from `m` -/
def expectedBack (st : StructTy) (props : List (String × SProp)) (m : List (String × SV)) : List (String × SV) :=
  props.filterMap fun kp =>
    match fieldFor st kp.1 with
    | some f => (readBack f kp.2 (lookupS kp.1 m)).map fun x => (kp.1, x)
    | none => none

/-- with the same type on both sides the tests on a stored value are tests for its zero value -/
theorem readChain_exact (src : GoTy) (dis eid : Bool) {v : SV} (hv : v.isNilIface = false) :
    (if v.isNilIface then none
      else if dis && reflIsZero src v then none
      else if eid && emptyB src src v then none
      else some v) = if (dis || eid) && src != .iface && v.isZero then none else some v := by
  rw [hv, emptyB_self, reflIsZero]
  generalize (src != GoTy.iface) = c
  cases dis <;> cases eid <;> cases c <;> cases v.isZero <;> rfl

theorem readBackC_exact {f : Field} {p : SProp} (hex : exactField f (reflTy p.ty) = true) (hz : zeroOK f = true) :
    ∀ (o : Option SV), (∀ v, o = some v → v.isNilIface = false) → readBackC f p o = readBack f p o
  | some v, hv => by
    rw [readBackC, convBack_exact hex, elemTy_exact hex]
    exact readChain_exact _ _ _ (hv v rfl)
  | none, _ => by
    rcases zeroOK_cases hz with ⟨hp, _⟩ | ⟨_, hi, _⟩ | ⟨hp, hi, hz1, _⟩
    · rw [readBackC, readBack, hp]; rfl
    · rw [readBackC, readBack, hi]
      cases GoTy.iface.isPtr <;> rfl
    · -- the field is not a pointer: exact typing says it has the property's type
      have hft : f.ty = reflTy p.ty := by
        rcases exactField_cases hex with h | ⟨h, _⟩
        · exact h
        · rw [h] at hp; cases hp
      rw [readBackC, readBack, ← hft, emptyB_self, hz1, hp, beq_eq_false_iff_ne.mpr hi, bne,
        beq_eq_false_iff_ne.mpr hi]
      cases p.disabled <;> cases p.emptyIsDefault <;> rfl

theorem readField_stored {f : Field} {src : GoTy} (hex : exactField f src = true) (hexp : f.exported = true)
    (dis eid : Bool) {v : SV} (hv : shaped src v = true) :
    readField f src dis eid (if f.ty = src then v else .ptr v) =
      .ok (if (dis || eid) && src != .iface && v.isZero then none else some v) := by
  obtain ⟨hv1, hv2⟩ := shaped_iff.mp hv
  have hconv : convOK (elemTy f.ty src) src = true := by rw [elemTy_exact hex, convOK_refl]
  rcases exactField_cases hex with h | ⟨h, hnp, _⟩
  · rw [if_pos h, readField_convOK hexp hconv _ _ hv1, elemTy_exact hex,
      fieldValue_of_not_ptr (Or.inr (by rw [h]; cases src.isPtr <;> rfl)), readChain_exact _ _ _ hv2]
  · rw [if_neg (h ▸ ptr_ne_self hnp), readField_convOK hexp hconv _ _ rfl, elemTy_exact hex,
      show fieldValue f.ty src (.ptr v) = v by rw [fieldValue, h, hnp]; rfl, readChain_exact _ _ _ hv2]

theorem lookupS_applied {st : StructTy} {props : List (String × SProp)} (hwf : WFObj st props)
    (hex : exactObjB st props = true) {m : List (String × SV)} (hm : ConvertedMap props m)
    {k : String} {p : SProp} (hkp : (k, p) ∈ props) {f : Field} (hf : fieldFor st k = some f) :
    lookupS f.name (applyEntries st props m (zeroFields st)) =
      some (match lookupS k m with
        | some v => if f.ty = reflTy p.ty then v else .ptr v
        | none => f.zero) := by
  rw [lookupS_appliedC hwf hm.keys hkp hf]
  cases lookupS k m with
  | none => rfl
  | some v => exact congrArg some (storedC_exact (exact_of_mem hex hkp hf) v)

/-- for an exactly typed pair what is read back needs no mention of `Convert` -/
theorem expectedBackC_exact {st : StructTy} {props : List (String × SProp)} (hwf : WFObj st props)
    (hex : exactObjB st props = true) {m : List (String × SV)} (hm : ConvertedMap props m) :
    expectedBackC st props m = expectedBack st props m := by
  refine filterMap_congr' fun kp hkp => ?_
  cases hf : fieldFor st kp.1 with
  | none => rfl
  | some f =>
    simp only []
    rw [readBackC_exact (exact_of_mem hex hkp hf) (hwf.zeros f (fieldFor_mem hf))]
    exact fun v hv => (shaped_iff.mp (hm.shaped (kp.1, v) (lookupS_mem hv) kp.2
      (lookupS_of_mem_nodup hwf.keys hkp))).2

/-! ### struct -> map -> struct -/

/-- the shape of a field value under exact typing: a field of the property's own type holds a
    pointer only when that type is a pointer type; a pointer field holds nil or a pointer -/
def fieldShaped (f : Field) (src : GoTy) (fv : SV) : Bool :=
  if f.ty == src then (!fv.isPtrVal || src.isPtr) else (fv.isNilPtr || fv.isPtrVal)

/-- a value of the struct type whose unset and unmapped fields hold their zero values - exactly the
    values the map read from it determines -/
structure StructValue (st : StructTy) (props : List (String × SProp)) (fs : List (String × SV)) : Prop where
  names : keysOf fs = st.fields.map (·.name)
  shaped : ∀ kp, kp ∈ props → ∀ f fv, fieldFor st kp.1 = some f → lookupS f.name fs = some fv →
    fieldShaped f (reflTy kp.2.ty) fv = true
  /-- whatever reads as unset is the zero value (a non-nil pointer to the zero value of a
      treat-empty-as-default property, or a negative zero, would be lost) -/
  recoverable : ∀ kp, kp ∈ props → ∀ f fv, fieldFor st kp.1 = some f → lookupS f.name fs = some fv →
    readField f (reflTy kp.2.ty) kp.2.disabled kp.2.emptyIsDefault fv = .ok none → fv = f.zero
  /-- fields that no property is mapped to hold their zero value -/
  unmapped : ∀ f, f ∈ st.fields → (∀ kp, kp ∈ props → fieldName? st kp.1 ≠ some f.name) →
    lookupS f.name fs = some f.zero

theorem stored_eq_of_shaped {f : Field} {src : GoTy} (hex : exactField f src = true) {fv : SV}
    (hs : fieldShaped f src fv = true) (hn : fv.isNilPtr = false) :
    (if f.ty = src then fieldValue f.ty src fv else .ptr (fieldValue f.ty src fv)) = fv := by
  unfold fieldShaped at hs
  rcases exactField_cases hex with h | ⟨h, hnp, _⟩
  · rw [if_pos h, h]
    exact fieldValue_of_not_ptr (Or.inr (by cases src.isPtr <;> rfl))
  · rw [if_neg (h ▸ ptr_ne_self hnp)]
    rw [if_neg (fun e => ptr_ne_self hnp (h ▸ beq_iff_eq.mp e)), hn, Bool.false_or] at hs
    cases fv with
    | ptr e => rw [fieldValue, h, hnp]; rfl
    | _ => cases hs

end SM
end Arca
