import ArcaModel.Lemmas.DescribeEval
/-
  `cborNorm (describe s) = describeR .cbor s`: one CBOR round trip of a description is the
  description in the CBOR representation (C09). `cn_*`: what `cborNorm` makes of one form of
  value; `cnF`: `cborNorm` on the values of a field list.
-/
namespace Arca

def cnF (m : List (String × V)) : List (String × V) := m.map fun kv => (kv.1, cborNorm kv.2)

theorem cnF_nil : cnF [] = [] := rfl
theorem cnF_cons (k : String) (v : V) (m : List (String × V)) : cnF ((k, v) :: m) = (k, cborNorm v) :: cnF m := rfl
theorem cnF_append (a b : List (String × V)) : cnF (a ++ b) = cnF a ++ cnF b := by simp [cnF]
theorem cnF_optF {α} (k : String) (f g : α → V) (o : Option α) (h : ∀ a, cborNorm (f a) = g a) :
    cnF (optF k f o) = optF k g o := by
  cases o <;> simp [optF, cnF, h]

theorem cborNormKV_kvsOf (m : List (String × V)) : cborNormKV (kvsOf m) = kvsOf (cnF m) := by
  induction m with
  | nil => rfl
  | cons p rest ih =>
    obtain ⟨k, v⟩ := p
    simp only [kvsOf, cnF, List.map_cons] at *
    simp [cborNormKV, cborNorm, ih]

theorem cn_obj (m : List (String × V)) : cborNorm (Rep.direct.obj m) = Rep.cbor.obj (cnF m) := by
  show cborNorm (.map .strAny (kvsOf m)) = .map .anyAny (kvsOf (cnF m))
  simp [cborNorm, cborNormKV_kvsOf]

theorem cn_typed (tid : String) (m : List (String × V)) :
    cborNorm (Rep.direct.typed tid m) = Rep.cbor.typed tid (cnF m) := by
  simp only [Rep.typed, cn_obj, cnF_append]
  rfl

theorem cn_kv (kt : KeyTy) (va : Bool) (kvs : List (V × V)) :
    cborNorm (Rep.direct.kv kt va kvs) = Rep.cbor.kv kt va (cborNormKV kvs) := by
  simp [Rep.kv, Rep.direct, Rep.cbor, cborNorm]

theorem cn_int (n : Int) : cborNorm (Rep.direct.int n) = Rep.cbor.int n := by
  simp only [Rep.int, Rep.direct, Rep.cbor, cborNorm]
  split <;> simp_all

theorem cn_str (s : String) : cborNorm (V.str s) = V.str s := by simp [cborNorm]
theorem cn_bool (b : Bool) : cborNorm (V.bool b) = V.bool b := by simp [cborNorm]
theorem cn_f64 (b : Nat) : cborNorm (f64 b) = f64 b := by simp [cborNorm, f64]

theorem cn_strList (ss : List String) : cborNorm (strList ss) = strList ss := by
  simp only [strList, cborNorm]
  congr 1
  induction ss with
  | nil => rfl
  | cons s rest ih => simp [cborNormL, cborNorm, ih]

theorem cn_disp (d : Disp) : cborNorm (descDisp .direct d) = descDisp .cbor d := by
  simp only [descDisp, cn_obj, cnF_append, cnF_optF _ V.str V.str _ cn_str]

theorem cn_unit (u : UnitNames) : cborNorm (descUnit .direct u) = descUnit .cbor u := by
  simp only [descUnit, cn_obj, cnF_cons, cnF_nil, cn_str]

theorem cn_mults : ∀ (ms : List (Int × UnitNames)), cborNormKV (descMults .direct ms) = descMults .cbor ms
  | [] => rfl
  | (m, n) :: rest => by simp [descMults, cborNormKV, cn_int, cn_unit, cn_mults rest]

theorem cn_units (u : Units) : cborNorm (descUnits .direct u) = descUnits .cbor u := by
  simp only [descUnits, cn_obj, cnF_cons, cnF_nil, cn_unit, cn_kv, cn_mults]

theorem cn_intVals : ∀ (vs : List (Int × Disp)), cborNormKV (descIntVals .direct vs) = descIntVals .cbor vs
  | [] => rfl
  | (n, d) :: rest => by simp [descIntVals, cborNormKV, cn_int, cn_disp, cn_intVals rest]

theorem cn_strVals : ∀ (vs : List (String × Disp)), cborNormKV (descStrVals .direct vs) = descStrVals .cbor vs
  | [] => rfl
  | (n, d) :: rest => by simp [descStrVals, cborNormKV, cn_str, cn_disp, cn_strVals rest]

theorem cn_key (k : Key) : cborNorm (k.rep .direct) = k.rep .cbor := by
  cases k <;> simp [Key.rep, cn_int, cn_str]

theorem cn_pat (s : String) : cborNorm (Rep.direct.pat s) = Rep.cbor.pat s := by
  simp [Rep.direct, Rep.cbor, cborNorm]

mutual
theorem cn_tyF : (t : DTy) → cnF (descTyF .direct t) = descTyF .cbor t
  | .int a b u => by
    simp only [descTyF, cnF_append, cnF_optF _ _ _ _ cn_int, cnF_optF _ _ _ _ cn_units]
  | .float a b u => by
    simp only [descTyF, cnF_append, cnF_optF _ _ _ _ cn_f64, cnF_optF _ _ _ _ cn_units]
  | .str a b p => by
    simp only [descTyF, cnF_append, cnF_optF _ _ _ _ cn_int, cnF_optF _ _ _ _ cn_pat]
  | .bool => rfl
  | .pattern => rfl
  | .any => rfl
  | .enumInt vs u => by
    simp only [descTyF, cnF_append, cnF_cons, cnF_nil, cn_kv, cn_intVals, cnF_optF _ _ _ _ cn_units]
  | .enumStr vs => by
    simp only [descTyF, cnF_cons, cnF_nil, cn_kv, cn_strVals]
  | .list item a b => by
    simp only [descTyF, cnF_append, cnF_cons, cnF_nil, cn_typed, cn_tyF item, cnF_optF _ _ _ _ cn_int]
  | .map k v a b => by
    simp only [descTyF, cnF_append, cnF_cons, cnF_nil, cn_typed, cn_tyF k, cn_tyF v, cnF_optF _ _ _ _ cn_int]
  | .obj o => by
    simp only [descTyF, cn_objF o]
  | .oneOf ik d inl ms => by
    simp only [descTyF, cnF_cons, cnF_nil, cn_kv, cn_members ms, cn_str, cn_bool]
  | .ref id ns d => by
    simp only [descTyF, cnF_append, cnF_cons, cnF_nil, cn_str, cnF_optF _ _ _ _ cn_disp]
  | .scope objs root => by
    simp only [descTyF, cnF_cons, cnF_nil, cn_kv, cn_objs objs, cn_str]
termination_by structural t => t
theorem cn_objF : (o : DObj) → cnF (descObjF .direct o) = descObjF .cbor o
  | .mk id unenf props => by
    simp only [descObjF, cnF_cons, cnF_nil, cn_kv, cn_props props, cn_str, cn_bool]
termination_by structural o => o
theorem cn_props : (ps : List (String × DProp)) → cborNormKV (descProps .direct ps) = descProps .cbor ps
  | [] => rfl
  | (n, p) :: rest => by
    simp only [descProps, cborNormKV, cn_str, cn_prop p, cn_props rest]
termination_by structural ps => ps
theorem cn_prop : (p : DProp) → cborNorm (descProp .direct p) = descProp .cbor p
  | .mk ty disp req rif rifn conf dflt ex dis reason => by
    simp only [descProp, cn_obj, cnF_append, cnF_cons, cnF_nil, cn_typed, cn_tyF ty, cn_bool, cn_strList,
      cnF_optF _ _ _ _ cn_disp, cnF_optF _ V.str V.str _ cn_str]
termination_by structural p => p
theorem cn_members : (ms : List (Key × DTy)) → cborNormKV (descMembers .direct ms) = descMembers .cbor ms
  | [] => rfl
  | (k, t) :: rest => by
    simp only [descMembers, cborNormKV, cn_key, cn_typed, cn_tyF t, cn_members rest]
termination_by structural ms => ms
theorem cn_objs : (objs : List (String × DObj)) → cborNormKV (descObjs .direct objs) = descObjs .cbor objs
  | [] => rfl
  | (n, o) :: rest => by
    simp only [descObjs, cborNormKV, cn_str, cn_obj, cn_objF o, cn_objs rest]
termination_by structural objs => objs
end

/-- one CBOR round trip of the description of a scope (or any type) is its description in the
    CBOR representation -/
theorem cborNorm_describe (s : DTy) : cborNorm (describe s) = describeR .cbor s := by
  simp only [describe, describeR, cn_obj, cn_tyF]

theorem cn_mapped {α} (f : Rep → α → V) (h : ∀ a, cborNorm (f .direct a) = f .cbor a) : ∀ (l : List (String × α)),
    cborNormKV (l.map fun (k, a) => (V.str k, f .direct a)) = l.map fun (k, a) => (V.str k, f .cbor a)
  | [] => rfl
  | (k, a) :: rest => by
    simp only [List.map_cons, cborNormKV, cn_str, h, cn_mapped f h rest]

theorem cn_signal (s : DSignal) : cborNorm (descSignal .direct s) = descSignal .cbor s := by
  simp only [descSignal, cn_obj, cnF_append, cnF_cons, cnF_nil, cn_str, cnF_optF _ _ _ _ cn_disp]
  rw [show cborNorm (describeR Rep.direct s.data) = describeR .cbor s.data from cborNorm_describe s.data]

theorem cn_output (o : DOutput) : cborNorm (descOutput .direct o) = descOutput .cbor o := by
  simp only [descOutput, cn_obj, cnF_append, cnF_cons, cnF_nil, cn_bool, cnF_optF _ _ _ _ cn_disp]
  rw [show cborNorm (describeR Rep.direct o.schema) = describeR .cbor o.schema from cborNorm_describe o.schema]

theorem cn_step (s : DStep) : cborNorm (descStep .direct s) = descStep .cbor s := by
  simp only [descStep, cn_obj, cnF_append, cnF_cons, cnF_nil, cn_str, cn_kv, cnF_optF _ _ _ _ cn_disp,
    cn_mapped descOutput cn_output, cn_mapped descSignal cn_signal]
  rw [show cborNorm (describeR Rep.direct s.input) = describeR .cbor s.input from cborNorm_describe s.input]

/-- the same for a whole plugin schema (the form it has inside the ATP hello message once decoded) -/
theorem cborNorm_describeSchema (p : DSchema) : cborNorm (describeSchema p) = describeSchemaR .cbor p := by
  simp only [describeSchema, describeSchemaR, cn_obj, cnF_cons, cnF_nil, cn_kv, cn_mapped descStep cn_step]

end Arca
