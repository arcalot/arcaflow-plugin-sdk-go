import ArcaModel.Props.C03
import ArcaModel.Lemmas.UnitsPlain
import ArcaModel.Lemmas.UnitsFloat
/-
  Round trip lemmas (C01): per schema kind (`rt_int` .. `rt_oneOf_inl`), if Unserialize of the level
  below round-trips (`RT`) then so does this level; `rt_aux'` is the induction on the fuel, by
  cases on `WF1`, carrying `RTAux`. On the way: the mappers produce int64 values, and what the
  any schema's conversion returns (`anyConvert_ok`) is a fixed point of it (`anyConvert_idem`).
-/
namespace Arca

/-- the round-trip property of the recursive call at sub-schema `t`:
    whatever Unserialize accepts validates, serializes, and unserializes back to itself -/
def RT (rec : Rec) (env : Env) (t : Ty) : Prop :=
  ∀ v r, rec .U env t v = .ok r →
    rec .V env t r = done ∧ ∃ w, rec .S env t r = .ok w ∧ rec .U env t w = .ok r

theorem run_ref_ok {x : Ext} {n : Nat} {op : Op} {env : Env} {id : String} {v r : V}
    (h : run x (n + 1) op env (.ref id) v = .ok r) : ∃ o, lookupS id env = some o ∧ run x n op env o v = .ok r := by
  simp only [run] at h
  split at h
  · cases h
  · exact ⟨_, ‹_›, h⟩

theorem run_scope_ok {x : Ext} {n : Nat} {op : Op} {env objs : Env} {root : String} {v r : V}
    (h : run x (n + 1) op env (.scope objs root) v = .ok r) :
    ∃ o, lookupS root objs = some o ∧ run x n op objs o v = .ok r := by
  simp only [run] at h
  split at h
  · cases h
  · exact ⟨_, ‹_›, h⟩

/-! ### integers produced by the mappers are int64 values -/

theorem inInt64_of_guard {v n : Int} (h : (if inInt64 v = true then some v else none) = some n) : inInt64 n = true := by
  split at h
  · cases h; assumption
  · cases h

theorem parseInt10_inInt64 {s : String} {n : Int} (h : parseInt10 s = some n) : inInt64 n = true := by
  unfold parseInt10 at h
  simp only at h
  split at h
  · exact inInt64_of_guard h
  · cases h

theorem unitsParseInt_inInt64 {u : Units} {s : String} {n : Int} (h : u.parseInt s = some n) : inInt64 n = true := by
  obtain ⟨_, _, _, _, _, _, _, _, hin⟩ := parseInt_some h
  exact hin

theorem toInt64Exact_inInt64 {b : Nat} {n : Int} (h : F64.toInt64Exact b = some n) : inInt64 n = true := by
  unfold F64.toInt64Exact at h
  dsimp only at h
  split at h
  · cases h
  · cases h
  · next sgn m e _ =>
    by_cases he : e ≥ 0
    · rw [if_pos he] at h; exact inInt64_of_guard h
    · rw [if_neg he] at h
      split at h
      · exact inInt64_of_guard h
      · cases h
theorem intDenotes_inInt64 {u : Option Units} {v : V} {n : Int} (h : IntDenotes u v n) : inInt64 n = true := by
  cases h with
  | int hn => exact hn
  | float hf => exact toInt64Exact_inInt64 hf
  | strPlain _ hp => exact parseInt10_inInt64 hp
  | strUnits _ hp => exact unitsParseInt_inInt64 hp
  | bool => rename_i b; cases b <;> decide

theorem rt_int (x : Ext) (n : Nat) (env : Env) (min max : Option Int) (u : Option Units) :
    RT (run x (n + 1)) env (.int min max u) := by
  intro v r h
  obtain ⟨k, hd, hb, hr⟩ := (C02_int_unser_iff x n env min max u v r).mp h
  subst hr
  have hk := intDenotes_inInt64 hd
  obtain ⟨hV, hS⟩ := C02_int_native x n env min max u k hk
  refine ⟨hV.mpr hb, .int .int64 k, (hS _).mpr ⟨hb, rfl⟩, ?_⟩
  exact (C02_int_unser_iff x n env min max u _ _).mpr ⟨k, .int hk, hb, rfl⟩

theorem rt_float (x : Ext) (n : Nat) (env : Env) (min max : Option Nat) (u : Option Units) :
    RT (run x (n + 1)) env (.float min max u) := by
  intro v r h
  obtain ⟨b, hd, hb, hr⟩ := (C02_float_unser_iff x n env min max u v r).mp h
  subst hr
  obtain ⟨hV, hS⟩ := C02_float_native x n env min max u b
  refine ⟨hV.mpr hb, .float .f64 b, (hS _).mpr ⟨hb, rfl⟩, ?_⟩
  exact (C02_float_unser_iff x n env min max u _ _).mpr ⟨b, .float, hb, rfl⟩

theorem rt_str (x : Ext) (n : Nat) (env : Env) (min max : Option Int) (pat : Option String) :
    RT (run x (n + 1)) env (.str min max pat) := by
  intro v r h
  obtain ⟨s, hd, hb, hr⟩ := (C02_str_unser_iff x n env min max pat v r).mp h
  subst hr
  obtain ⟨hV, hS⟩ := C02_str_native x n env min max pat s
  refine ⟨hV.mpr hb, .str s, (hS _).mpr ⟨hb, rfl⟩, ?_⟩
  exact (C02_str_unser_iff x n env min max pat _ _).mpr ⟨s, .str, hb, rfl⟩

theorem rt_bool (x : Ext) (n : Nat) (env : Env) : RT (run x (n + 1)) env .bool := by
  intro v r h
  obtain ⟨b, _, hr⟩ := (C02_bool_unser_iff x n env v r).mp h
  subst hr
  refine ⟨by simp [run, runBool, asBool, V.under, Out.bind], .bool b, by simp [run, runBool, asBool, V.under, Out.bind], ?_⟩
  exact (C02_bool_unser_iff x n env _ _).mpr ⟨b, .bool, rfl⟩

theorem rt_pattern (x : Ext) (n : Nat) (env : Env) : RT (run x (n + 1)) env .pattern := by
  intro v r h
  obtain ⟨s, _, hc, hr⟩ := (C02_pattern_unser_iff x n env v r).mp h
  subst hr
  refine ⟨by simp [run, runPattern], .str s, by simp [run, runPattern], ?_⟩
  exact (C02_pattern_unser_iff x n env _ _).mpr ⟨s, .str, hc, rfl⟩

theorem rt_enumInt (x : Ext) (n : Nat) (env : Env) (vals : List Int) (u : Option Units) :
    RT (run x (n + 1)) env (.enumInt vals u) := by
  intro v r h
  obtain ⟨k, hd, hm, hr⟩ := (C02_enumInt_unser_iff x n env vals u v r).mp h
  subst hr
  have hk := intDenotes_inInt64 hd
  have hw := wrapInt64_of_inInt64 hk
  refine ⟨by simp [run, runEnumInt, asInt, V.under, hw, Out.bind, hm], .int .int64 k,
    by simp [run, runEnumInt, asInt, V.under, hw, Out.bind, hm], ?_⟩
  exact (C02_enumInt_unser_iff x n env vals u _ _).mpr ⟨k, .int hk, hm, rfl⟩

theorem rt_enumStr (x : Ext) (n : Nat) (env : Env) (vals : List String) :
    RT (run x (n + 1)) env (.enumStr vals) := by
  intro v r h
  obtain ⟨s, hd, hm, hr⟩ := (C02_enumStr_unser_iff x n env vals v r).mp h
  subst hr
  refine ⟨by simp [run, runEnumStr, asString, V.under, Out.bind, hm], .str s,
    by simp [run, runEnumStr, asString, V.under, Out.bind, hm], ?_⟩
  exact (C02_enumStr_unser_iff x n env vals _ _).mpr ⟨s, .str, hm, rfl⟩

open Out

theorem Forall2.idem {α} {R : α → α → Prop} (hR : ∀ a b, R a b → R b b) {xs ys : List α} (h : Forall2 R xs ys) :
    Forall2 R ys ys := by
  induction h with
  | nil => exact .nil
  | cons hab _ ih => exact .cons (hR _ _ hab) ih

theorem kvBind_ok_iff {a b : Out V} {s : String} {t : V → String} {kv : V × V} :
    ((a.addSeg s).bind fun k' => (b.addSeg (t k')).bind fun x' => .ok (k', x')) = .ok kv ↔
      a = .ok kv.1 ∧ b = .ok kv.2 := by
  constructor
  · intro h
    obtain ⟨k', hk, h⟩ := bind_eq_ok h
    obtain ⟨x', hx, h⟩ := bind_eq_ok h
    cases h
    exact ⟨addSeg_eq_ok.mp hk, addSeg_eq_ok.mp hx⟩
  · rintro ⟨rfl, rfl⟩
    rfl

theorem allKV_any_iff {g : V → Out V} {kvs kvs' : List (V × V)} :
    AllKV (fun k x => ((g k).addSeg ("{" ++ fmtKey k ++ "}")).bind fun k' =>
      ((g x).addSeg ("[" ++ fmtKey k' ++ "]")).bind fun x' => .ok (k', x')) kvs kvs' ↔
    Forall2 (fun kv kv' => g kv.1 = .ok kv'.1 ∧ g kv.2 = .ok kv'.2) kvs kvs' := by
  constructor
  · intro h
    induction h with
    | nil => exact .nil
    | cons hf _ ih => exact .cons (kvBind_ok_iff.mp hf) ih
  · intro h
    induction h with
    | nil => exact .nil
    | @cons a _ _ _ hab _ ih => exact .cons (kvBind_ok_iff.mpr hab) ih

theorem anyConvert_slice {n : Nat} {v : V} {xs ys : List V} (hx : v.sliceElems? = some xs)
    (h : Forall2 (fun e y => anyConvert n e = .ok y) xs ys) : anyConvert (n + 1) v = .ok (.list ys) := by
  have hys : forIdx (fun i x => (anyConvert n x).addSeg ("[" ++ toString i ++ "]")) 0 xs = .ok ys :=
    forIdx_ok_iff.mpr (allIdx_addSeg_iff.mpr h)
  cases v <;> cases hx <;> simp only [anyConvert, V.under, hys, ok_bind]

theorem anyConvert_map {n : Nat} {sh : MapShape} {kvs kvs' : List (V × V)}
    (h : Forall2 (fun kv kv' => anyConvert n kv.1 = .ok kv'.1 ∧ anyConvert n kv.2 = .ok kv'.2) kvs kvs')
    (hd : dupKey kvs' = false) : anyConvert (n + 1) (.map sh kvs) = .ok (.map .anyAny kvs') := by
  simp only [anyConvert, V.under, forKV_ok_iff.mpr (allKV_any_iff.mpr h), ok_bind, hd, Bool.false_eq_true, if_false]

/-- What the any schema's conversion returns, by the kind of the input (a defined type counts by
    its underlying kind, but only an `int64` or `float64` underneath is accepted as it is). -/
theorem anyConvert_ok {n : Nat} {v r : V} (h : anyConvert (n + 1) v = .ok r) :
    (∃ k i, v.under = .int k i ∧ (k = .int64 ∨ inInt64 i = true) ∧ r = .int .int64 i) ∨
    (∃ k b, v.under = .float k b ∧ r = .float .f64 b) ∨
    (∃ s, v.under = .str s ∧ r = .str s) ∨ (∃ b, v.under = .bool b ∧ r = .bool b) ∨
    (∃ xs ys, v.under.sliceElems? = some xs ∧ Forall2 (fun e y => anyConvert n e = .ok y) xs ys ∧ r = .list ys) ∨
    (∃ sh kvs kvs', v.under = .map sh kvs ∧
      Forall2 (fun kv kv' => anyConvert n kv.1 = .ok kv'.1 ∧ anyConvert n kv.2 = .ok kv'.2) kvs kvs' ∧
      dupKey kvs' = false ∧ r = .map .anyAny kvs') := by
  have hlist : ∀ {xs : List V}, v.under.sliceElems? = some xs →
      (forIdx (fun i x => (anyConvert n x).addSeg ("[" ++ toString i ++ "]")) 0 xs).bind (fun ys => .ok (.list ys)) = .ok r →
      ∃ xs ys, v.under.sliceElems? = some xs ∧ Forall2 (fun e y => anyConvert n e = .ok y) xs ys ∧ r = .list ys := by
    intro xs hxs h
    obtain ⟨ys, h1, h2⟩ := bind_eq_ok h
    cases h2
    exact ⟨xs, ys, hxs, allIdx_addSeg_iff.mp (forIdx_ok_iff.mp h1), rfl⟩
  unfold anyConvert at h
  split at h
  · next k i hu =>
    refine .inl ⟨k, i, hu, ?_⟩
    split at h
    · next hk => cases h; exact ⟨.inl (by simpa using hk), rfl⟩
    · split at h
      · cases h
      · next hnn =>
        have hv : v = .int k i := by cases v <;> first | exact hu | exact (hnn _ rfl).elim
        subst hv
        obtain ⟨m, h1, h2⟩ := bind_eq_ok h
        cases h2
        simp only [intInputMapper] at h1
        split at h1
        · cases h1; exact ⟨.inr ‹_›, rfl⟩
        · cases h1
  · next k b hu =>
    refine .inr (.inl ⟨k, b, hu, ?_⟩)
    split at h
    · cases h; rfl
    · split at h <;> cases h
      rfl
  · next s hu => cases h; exact .inr (.inr (.inl ⟨s, hu, rfl⟩))
  · next b hu => cases h; exact .inr (.inr (.inr (.inl ⟨b, hu, rfl⟩)))
  · next xs hu => exact .inr (.inr (.inr (.inr (.inl (hlist (by rw [hu]; rfl) h)))))
  · next b hu => exact .inr (.inr (.inr (.inr (.inl (hlist (by rw [hu]; rfl) h)))))
  · next sh kvs hu =>
    obtain ⟨kvs', h1, h2⟩ := bind_eq_ok h
    split at h2
    · cases h2
    · next hd =>
      cases h2
      exact .inr (.inr (.inr (.inr (.inr ⟨sh, kvs, kvs', hu, allKV_any_iff.mp (forKV_ok_iff.mp h1), by simpa using hd, rfl⟩))))
  · cases h

theorem anyConvert_idem : ∀ (n : Nat) (v r : V), anyConvert n v = .ok r → anyConvert n r = .ok r
  | 0, _, _, h => by simp [anyConvert] at h
  | n + 1, v, r, h => by
    have ih := anyConvert_idem n
    rcases anyConvert_ok h with ⟨_, _, _, _, rfl⟩ | ⟨_, _, _, rfl⟩ | ⟨_, _, rfl⟩ | ⟨_, _, rfl⟩ | ⟨_, ys, _, hall, rfl⟩ |
      ⟨_, _, kvs', _, hall, hd, rfl⟩
    · simp [anyConvert, V.under]
    · simp [anyConvert, V.under]
    · simp [anyConvert, V.under]
    · simp [anyConvert, V.under]
    · exact anyConvert_slice (v := .list ys) rfl (hall.idem ih)
    · exact anyConvert_map (hall.idem fun _ _ hab => ⟨ih _ _ hab.1, ih _ _ hab.2⟩) hd

theorem rt_any (x : Ext) (n : Nat) (env : Env) : RT (run x (n + 1)) env .any := by
  intro v r h
  simp only [run, runAny] at h ⊢
  have hr := anyConvert_idem _ _ _ h
  exact ⟨by simp [hr, Out.bind], r, hr, hr⟩

theorem forall2_rt_split {rec : Rec} {env : Env} {item : Ty} (hi : RT rec env item) {xs ys : List V}
    (h : Forall2 (fun e y => rec .U env item e = .ok y) xs ys) :
    Forall2 (fun y u => rec .V env item y = .ok u) ys (ys.map fun _ => unitV) ∧
    ∃ ws, Forall2 (fun y w => rec .S env item y = .ok w) ys ws ∧ Forall2 (fun w y => rec .U env item w = .ok y) ws ys := by
  induction h with
  | nil => exact ⟨.nil, [], .nil, .nil⟩
  | cons hab _ ih =>
    obtain ⟨hv, w, hs, hu⟩ := hi _ _ hab
    obtain ⟨ihv, ws, ihs, ihu⟩ := ih
    exact ⟨.cons hv ihv, w :: ws, .cons hs ihs, .cons hu ihu⟩

theorem rt_list (x : Ext) (n : Nat) (env : Env) (item : Ty) (mn mx : Option Int) (hi : RT (run x n) env item) :
    RT (run x (n + 1)) env (.list item mn mx) := by
  intro v r h
  obtain ⟨xs, ys, _, hl, hall, hr⟩ := (C02_list_unser_iff x n env item mn mx v r).mp h
  subst hr
  obtain ⟨hv, ws, hs, hu⟩ := forall2_rt_split hi hall
  have hlen : ys.length = xs.length := hall.length_eq.symm
  have hl' : LenOK mn mx ys.length := by rw [hlen]; exact hl
  have hlw : LenOK mn mx ws.length := by rw [← hs.length_eq]; exact hl'
  have hV := forIdx_ok_iff.mpr (allIdx_addSeg_iff (n := 0) |>.mpr hv)
  have hS := forIdx_ok_iff.mpr (allIdx_addSeg_iff (n := 0) |>.mpr hs)
  refine ⟨?_, .list ws, ?_, ?_⟩
  · simp only [run, runList, V.sliceElems?, (checkLen_ok_iff _ _ _).mpr hl', Out.bind, hV]
  · simp only [run, runList, V.sliceElems?, (checkLen_ok_iff _ _ _).mpr hl', Out.bind, hV, hS]
  · exact (C02_list_unser_iff x n env item mn mx _ _).mpr ⟨ws, ys, rfl, hlw, hu, rfl⟩

theorem forall2_rt_split_kv {rec : Rec} {env : Env} {kt vt : Ty} (hk : RT rec env kt) (hv : RT rec env vt)
    {kvs es : List (V × V)}
    (h : Forall2 (fun (kv kv' : V × V) => rec .U env kt kv.1 = .ok kv'.1 ∧ rec .U env vt kv.2 = .ok kv'.2) kvs es) :
    Forall2 (fun (kv kv' : V × V) => rec .V env kt kv.1 = .ok kv'.1 ∧ rec .V env vt kv.2 = .ok kv'.2) es (es.map fun (_ : V × V) => ((unitV, unitV) : V × V)) ∧
    ∃ ws, Forall2 (fun (kv kv' : V × V) => rec .S env kt kv.1 = .ok kv'.1 ∧ rec .S env vt kv.2 = .ok kv'.2) es ws ∧
      Forall2 (fun (kv kv' : V × V) => rec .U env kt kv.1 = .ok kv'.1 ∧ rec .U env vt kv.2 = .ok kv'.2) ws es := by
  induction h with
  | nil => exact ⟨.nil, [], .nil, .nil⟩
  | cons hab _ ih =>
    obtain ⟨hkv, wk, hks, hku⟩ := hk _ _ hab.1
    obtain ⟨hvv, wv, hvs, hvu⟩ := hv _ _ hab.2
    obtain ⟨ihv, ws, ihs, ihu⟩ := ih
    exact ⟨.cons ⟨hkv, hvv⟩ ihv, (wk, wv) :: ws, .cons ⟨hks, hvs⟩ ihs, .cons ⟨hku, hvu⟩ ihu⟩

theorem rt_map (x : Ext) (n : Nat) (env : Env) (kt vt : Ty) (mn mx : Option Int)
    (hk : RT (run x n) env kt) (hv : RT (run x n) env vt) :
    RT (run x (n + 1)) env (.map kt vt mn mx) := by
  intro v r h
  obtain ⟨sh, kvs, es, _, hl, hall, hd, hr⟩ := (C02_map_unser_iff x n env kt vt mn mx v r).mp h
  subst hr
  obtain ⟨hvv, ws, hs, hu⟩ := forall2_rt_split_kv hk hv hall
  have hlen : es.length = kvs.length := hall.length_eq.symm
  have hl' : LenOK mn mx es.length := by rw [hlen]; exact hl
  have hlw : LenOK mn mx ws.length := by rw [← hs.length_eq]; exact hl'
  have hV := forKV_ok_iff.mpr (allKV_entry_iff.mpr hvv)
  have hS := forKV_ok_iff.mpr (allKV_entry_iff.mpr hs)
  refine ⟨?_, .map .anyAny ws, ?_, ?_⟩
  · simp only [run, runMap, V.mapEntries?, (checkLen_ok_iff _ _ _).mpr hl', Out.bind, hV]
  · simp only [run, runMap, V.mapEntries?, (checkLen_ok_iff _ _ _).mpr hl', Out.bind, hV, hS]
  · exact (C02_map_unser_iff x n env kt vt mn mx _ _).mpr ⟨.anyAny, ws, es, rfl, hlw, hu, hd, rfl⟩
def EntriesOK (rec : Rec) (env : Env) (props : List (String × PropT)) (m : List (String × V)) : Prop :=
  ∀ kv, kv ∈ m → ∃ p d, lookupS kv.1 props = some p ∧ p.disabled = false ∧ rec .U env p.ty d = .ok kv.2

theorem entriesOK_of_allSV {rec : Rec} {env : Env} {props : List (String × PropT)} {m m' : List (String × V)}
    (h : AllSV (objEntryU rec env props) m m') : EntriesOK rec env props m' := by
  intro kv hkv
  obtain ⟨d, _, hf⟩ := h.of_mem_right kv hkv
  obtain ⟨p, hp, hd, hu⟩ := objEntryU_ok_iff.mp hf
  exact ⟨p, d, hp, hd, hu⟩

theorem allSV_objEntryU_declared {rec : Rec} {env : Env} {props : List (String × PropT)} {m m' : List (String × V)}
    (h : AllSV (objEntryU rec env props) m m') : ∀ kv, kv ∈ m → hasKey kv.1 props = true := by
  intro kv hkv
  obtain ⟨_, hf⟩ := h.of_mem_left kv hkv
  obtain ⟨p, hp, _⟩ := objEntryU_ok_iff.mp hf
  simp only [hasKey, hp, Option.isSome_some]

theorem entries_rt {rec : Rec} {env : Env} {props : List (String × PropT)}
    (hrt : ∀ np, np ∈ props → RT rec env np.2.ty) :
    ∀ {m' : List (String × V)}, EntriesOK rec env props m' →
      AllSV (objEntry rec .V env props) m' (m'.map fun kv => (kv.1, unitV)) ∧
      ∃ m'', AllSV (objEntry rec .S env props) m' m'' ∧ AllSV (objEntryU rec env props) m'' m' := by
  intro m'
  induction m' with
  | nil => intro _; exact ⟨.nil, [], .nil, .nil⟩
  | cons kv rest ih =>
    intro hok
    obtain ⟨k, e⟩ := kv
    obtain ⟨p, d, hp, hdis, hu⟩ := hok (k, e) (by simp)
    obtain ⟨hv, w, hs, hu'⟩ := hrt (k, p) (lookupS_mem hp) d e hu
    obtain ⟨ihv, m'', ihs, ihu⟩ := ih (fun kv hkv => hok kv (List.mem_cons_of_mem _ hkv))
    refine ⟨.cons ?_ ihv, (k, w) :: m'', .cons ?_ ihs, .cons ?_ ihu⟩
    · exact objEntry_ok_iff.mpr ⟨p, hp, hv⟩
    · exact objEntry_ok_iff.mpr ⟨p, hp, hs⟩
    · exact objEntryU_ok_iff.mpr ⟨p, hp, hdis, hu'⟩

theorem applyDefaults_id : ∀ (props : List (String × PropT)) (m : List (String × V)),
    (∀ np, np ∈ props → np.2.defaultV.isSome = true → hasKey np.1 m = true) → applyDefaults props m = .ok m
  | [], m, _ => by simp [applyDefaults]
  | (id, p) :: rest, m, h => by
    have hr := applyDefaults_id rest m (fun np hnp => h np (List.mem_cons_of_mem _ hnp))
    simp only [applyDefaults]
    split
    · exact hr
    · rename_i hk
      split
      · exact hr
      · rename_i hd
        have := h (id, p) List.mem_cons_self (by simp [hd])
        exact absurd this hk
      · rename_i d hd
        have := h (id, p) List.mem_cons_self (by simp [hd])
        exact absurd this hk

/-- `objRaw` accepts a lone value as the single property of a one-property object, and a
    string-keyed map of declared properties, whose entries - the supplied ones and the defaults
    of the absent ones - are unserialized by their properties' types. -/
theorem objRaw_ok_iff {rec : Rec} {env : Env} {props : List (String × PropT)} {v : V} {m' : List (String × V)} :
    objRaw rec env props v = .ok m' ↔
      (v.mapEntries? = none ∧ ∃ name p r, props = [(name, p)] ∧ p.disabled = false ∧
        rec .U env p.ty v = .ok r ∧ m' = [(name, r)]) ∨
      (∃ sh kvs skvs m, v = .map sh kvs ∧ strKeys? kvs = some skvs ∧
        (skvs.any fun kv => !hasKey kv.1 props) = false ∧ applyDefaults props skvs = .ok m ∧
        AllSV (objEntryU rec env props) m m') := by
  constructor
  · intro h
    unfold objRaw at h
    split at h
    · next hv =>
      split at h
      · next name p =>
        split at h
        · cases h
        · next hdis =>
          obtain ⟨r, h1, h2⟩ := bind_eq_ok h
          cases h2
          exact .inl ⟨hv, name, p, r, rfl, Bool.not_eq_true _ ▸ hdis, rewrapP_eq_ok.mp h1, rfl⟩
      · cases h
    · next sh kvs hv =>
      split at h
      · cases h
      · next skvs hs =>
        split at h
        · cases h
        · next hany =>
          obtain ⟨m, h1, h2⟩ := bind_eq_ok h
          exact .inr ⟨sh, kvs, skvs, m, mapEntries_eq hv, hs, Bool.not_eq_true _ ▸ hany, h1, forSV_ok_iff.mp h2⟩
  · rintro (⟨hv, name, p, r, rfl, hdis, hr, rfl⟩ | ⟨sh, kvs, skvs, m, rfl, hs, hany, hd, hall⟩)
    · simp only [objRaw, hv, hdis, Bool.false_eq_true, if_false, hr, rewrapP, ok_bind]
    · simp only [objRaw, V.mapEntries?, hs, hany, Bool.false_eq_true, if_false, hd, ok_bind, forSV_ok_iff.mpr hall]

theorem objRaw_spec {rec : Rec} {env : Env} {props : List (String × PropT)} {v : V} {m' : List (String × V)}
    (h : objRaw rec env props v = .ok m') :
    EntriesOK rec env props m' ∧ (∀ np, np ∈ props → np.2.defaultV.isSome = true → hasKey np.1 m' = true) := by
  rcases objRaw_ok_iff.mp h with ⟨_, name, p, r, rfl, hdis, hr, rfl⟩ | ⟨sh, kvs, skvs, m, rfl, _, _, hd, hall⟩
  · refine ⟨fun kv hkv => ?_, fun np hnp _ => ?_⟩
    · cases List.mem_singleton.mp hkv
      exact ⟨p, v, by simp [lookupS], hdis, hr⟩
    · cases List.mem_singleton.mp hnp
      simp [hasKey, lookupS]
  · refine ⟨entriesOK_of_allSV hall, fun np hnp hdv => ?_⟩
    rw [hasKey_eq_of_keys (allSV_keys hall)]
    exact (C03_default_keys props skvs m np.1 hd).mpr (Or.inr ⟨np.2, hnp, hdv⟩)

theorem run_obj_U_ok {x : Ext} {n : Nat} {env : Env} {id : String} {props : List (String × PropT)} {v r : V}
    (h : run x (n + 1) .U env (.obj id props) v = .ok r) :
    ∃ m', objRaw (run x n) env props v = .ok m' ∧ interdeps props (fun k => hasKey k m') = .ok () ∧ r = toStrAny m' := by
  simp only [run, runObj] at h
  obtain ⟨m', h1, h2⟩ := bind_eq_ok h
  obtain ⟨_, h3, h4⟩ := bind_eq_ok h2
  cases h4
  exact ⟨m', h1, h3, rfl⟩

theorem rt_obj (x : Ext) (n : Nat) (env : Env) (id : String) (props : List (String × PropT))
    (hrt : ∀ np, np ∈ props → RT (run x n) env np.2.ty) : RT (run x (n + 1)) env (.obj id props) := by
  intro v r h
  obtain ⟨m', h1, h3, rfl⟩ := run_obj_U_ok h
  obtain ⟨hok, hdef⟩ := objRaw_spec h1
  obtain ⟨hV, m'', hS, hU⟩ := entries_rt hrt hok
  have hkeys : ∀ k, hasKey k m'' = hasKey k m' := fun k => hasKey_eq_of_keys (allSV_keys hU).symm k
  have hi'' : interdeps props (fun k => hasKey k m'') = .ok () := by
    have : (fun k => hasKey k m'') = (fun k => hasKey k m') := funext hkeys
    rw [this]; exact h3
  refine ⟨?_, toStrAny m'', ?_, ?_⟩
  · simp only [run, runObj, toStrAny, MapShape.strAny, strKeys_toStrAny, h3, Out.bind, forSV_ok_iff.mpr hV]
    simp [done]
  · simp only [run, runObj, toStrAny, MapShape.strAny, strKeys_toStrAny, h3, Out.bind, forSV_ok_iff.mpr hS]
    simp
  · have hdecl : (m''.any fun kv => !hasKey kv.1 props) = false := by
      cases hh : m''.any fun kv => !hasKey kv.1 props with
      | false => rfl
      | true =>
        obtain ⟨kv, hkv, hk⟩ := List.any_eq_true.mp hh
        rw [allSV_objEntryU_declared hU kv hkv] at hk
        simp at hk
    have hdef'' : applyDefaults props m'' = .ok m'' :=
      applyDefaults_id props m'' (fun np hnp hd => by rw [hkeys]; exact hdef np hnp hd)
    simp only [run, runObj, objRaw, toStrAny, MapShape.strAny, V.mapEntries?, strKeys_toStrAny, hdecl,
      Bool.false_eq_true, if_false, hdef'', Out.bind, forSV_ok_iff.mpr hU, h3]

/-- what the one-of level needs to know about a member: its Unserialize results are property maps
    without the discriminator key, and its Serialize keeps the key set -/
def MemberOK (rec : Rec) (env : Env) (t : Ty) (disc : String) : Prop :=
  (∀ v r, rec .U env t v = .ok r → ∃ rm, r = toStrAny rm ∧ hasKey disc rm = false) ∧
  (∀ rm w, rec .S env t (toStrAny rm) = .ok w → ∃ wm, w = toStrAny wm ∧ ∀ k, hasKey k wm = hasKey k rm)

theorem discDenotes_toV {x : Ext} {intKey : Bool} {d : V} {key : Key} (h : DiscDenotes x intKey d key) :
    DiscDenotes x intKey key.toV key := by
  unfold DiscDenotes at h ⊢
  by_cases hik : intKey = true
  · simp only [hik, if_true] at h ⊢
    obtain ⟨n, hn, hk⟩ := h
    subst hk
    exact ⟨n, .int (intDenotes_inInt64 hn), rfl⟩
  · simp only [hik, if_false, Bool.false_eq_true] at h ⊢
    obtain ⟨s, _, hk⟩ := h
    subst hk
    exact ⟨s, .str, rfl⟩

theorem oneOfSelect_key {rec : Rec} {x : Ext} {env : Env} {ik : Bool} {disc : String} {inl : Bool}
    {members : List (Key × Ty)} {d : V} {key : Key} {mt : Ty} {R : List (String × V)}
    (hkey : DiscDenotes x ik d key) (hmt : lookupK key members = some mt) (hl : lookupS disc R = some key.toV) :
    oneOfSelect rec env ik disc inl members false R = .ok (key, mt, if inl then R else eraseKey disc R) := by
  unfold DiscDenotes at hkey
  by_cases hik : ik = true
  · simp only [hik, if_true] at hkey
    obtain ⟨k, _, rfl⟩ := hkey
    simp only [oneOfSelect, hl, Key.toV, hik, if_true, hmt, Bool.false_eq_true, if_false]
  · simp only [hik, if_false, Bool.false_eq_true] at hkey
    obtain ⟨k, _, rfl⟩ := hkey
    simp only [oneOfSelect, hl, Key.toV, hik, if_false, Bool.false_eq_true, hmt]

/-- The one-of level of the round trip. `R` is the unserialized property map, `clone` what the
    member sees of it and made of its input, `wm` what the member serializes `clone` to and `W` the
    one-of's wire form. The two placements of the discriminator differ only in how `R`/`clone` and
    `W`/`wm` are related, which is what the hypotheses on them say. -/
theorem rt_oneOf_core (x : Ext) (n : Nat) (env : Env) (ik : Bool) (disc : String) (inl : Bool)
    (members : List (Key × Ty)) {d : V} {key : Key} {mt : Ty} {R clone W wm : List (String × V)}
    (hkey : DiscDenotes x ik d key) (hmt : lookupK key members = some mt)
    (hR : lookupS disc R = some key.toV) (hRc : (if inl then R else eraseKey disc R) = clone)
    (hcR : setKey disc key.toV clone = R)
    (hW : lookupS disc W = some key.toV) (hWw : (if inl then W else eraseKey disc W) = wm)
    (hwW : (if hasKey disc wm then wm else wm ++ [(disc, key.toV)]) = W)
    (hV : run x n .V env mt (toStrAny clone) = done) (hS : run x n .S env mt (toStrAny clone) = .ok (toStrAny wm))
    (hU : run x n .U env mt (toStrAny wm) = .ok (toStrAny clone)) :
    run x (n + 1) .V env (.oneOf ik disc inl members) (toStrAny R) = done ∧
    run x (n + 1) .S env (.oneOf ik disc inl members) (toStrAny R) = .ok (toStrAny W) ∧
    run x (n + 1) .U env (.oneOf ik disc inl members) (toStrAny W) = .ok (toStrAny R) := by
  have hsel := oneOfSelect_key (rec := run x n) (env := env) (inl := inl) hkey hmt hR
  rw [hRc] at hsel
  refine ⟨?_, ?_, ?_⟩
  · simp only [run, runOneOf, toStrAny, MapShape.strAny, strKeys_toStrAny, hsel, Out.bind]
    simp only [toStrAny, MapShape.strAny] at hV
    rw [hV]; rfl
  · simp only [run, runOneOf, toStrAny, MapShape.strAny, strKeys_toStrAny, hsel, Out.bind]
    simp only [toStrAny, MapShape.strAny] at hS
    rw [hS]
    simp only [strKeys_toStrAny, hwW]
  · simp only [run, runOneOf]
    refine oneOfUnser_ok_iff.mpr ⟨key, W, mt, toStrAny clone, .mk (Or.inr rfl) (lookup_find_disc disc _ W hW)
      (discDenotes_toV hkey) (strKeys_toStrAny W) hmt, ?_, ?_⟩
    · rw [hWw]; exact hU
    · rw [attachDisc_toStrAny, hcR]

theorem rt_oneOf (x : Ext) (n : Nat) (env : Env) (intKey : Bool) (disc : String) (members : List (Key × Ty))
    (hrt : ∀ m, m ∈ members → RT (run x n) env m.2)
    (hmem : ∀ m, m ∈ members → MemberOK (run x n) env m.2 disc) :
    RT (run x (n + 1)) env (.oneOf intKey disc false members) := by
  intro v r h
  simp only [run, runOneOf] at h
  obtain ⟨key, m, mt, mr, ⟨_, _, hkey, _, hmt⟩, hmr, hr⟩ := oneOfUnser_ok_iff.mp h
  have hmm : (key, mt) ∈ members := lookupK_mem hmt
  obtain ⟨hU, hS⟩ := hmem _ hmm
  obtain ⟨rm, rfl, hnod⟩ := hU _ _ hmr
  obtain ⟨hV, w, hSm, hUw⟩ := hrt _ hmm _ _ hmr
  obtain ⟨wm, rfl, hwk⟩ := hS _ _ hSm
  have hnodw : hasKey disc wm = false := by rw [hwk]; exact hnod
  -- the result is the member's map with the converted discriminator attached at the end
  rw [attachDisc_toStrAny, setKey_absent _ _ _ hnod] at hr
  cases hr
  obtain ⟨h1, h2, h3⟩ := rt_oneOf_core x n env intKey disc false members hkey hmt
    (lookupS_append_absent _ _ _ hnod) (eraseKey_append_self _ _ _ hnod) (setKey_absent _ _ _ hnod)
    (lookupS_append_absent _ _ _ hnodw) (eraseKey_append_self _ _ _ hnodw) (by simp only [hnodw, Bool.false_eq_true, if_false])
    hV hSm hUw
  exact ⟨h1, _, h2, h3⟩

/-! ### one-of (discriminator inlined)

With `inlined = true` the member object receives the WHOLE map, discriminator included, so the
member must declare the discriminator as one of its own properties (otherwise it rejects the map
for the undeclared key). Unserialize then overwrites the member's own conversion of that property
with the one-of's conversion of the key (`setKey disc key.toV`); the round trip works because for a
property whose Go kind is the kind of the keys both conversions coincide. -/

/-- Does the type of a member's discriminator property have the Go kind of the one-of's keys?
    This is the check of `validateSubtypeDiscriminatorInlineFields`
    (`property.ReflectedType().Kind() == reflect.TypeOf(key).Kind()`): kind `string` is reflected by
    string and string-enum schemas, kind `int64` by int and int-enum schemas (with or without units),
    by nothing else. -/
def discTyOK (intKey : Bool) : Ty → Bool
  | .str _ _ _ => !intKey
  | .enumStr _ => !intKey
  | .int _ _ _ => intKey
  | .enumInt _ _ => intKey
  | _ => false

def declaresTyped (env : Env) (intKey : Bool) (disc : String) : Ty → Prop
  | .obj _ props => ∃ p, lookupS disc props = some p ∧ discTyOK intKey p.ty = true
  | .ref id => ∃ oid ps p, lookupS id env = some (.obj oid ps) ∧ lookupS disc ps = some p ∧ discTyOK intKey p.ty = true
  | .scope objs root =>
    ∃ oid ps p, lookupS root objs = some (.obj oid ps) ∧ lookupS disc ps = some p ∧ discTyOK intKey p.ty = true
  | _ => False

/-- what the inlined one-of level needs to know about a member: its Unserialize results are
    property maps; it converts the discriminator property to exactly the value the one-of's own
    key conversion yields; its Serialize keeps the key set and the discriminator value -/
def MemberInl (rec : Rec) (x : Ext) (env : Env) (t : Ty) (intKey : Bool) (disc : String) : Prop :=
  (∀ v r, rec .U env t v = .ok r → ∃ rm, r = toStrAny rm) ∧
  (∀ m rm d key, rec .U env t (toStrAny m) = .ok (toStrAny rm) → lookupS disc m = some d →
    DiscDenotes x intKey d key → lookupS disc rm = some key.toV) ∧
  (∀ rm w, rec .S env t (toStrAny rm) = .ok w → ∃ wm, w = toStrAny wm ∧ (∀ k, hasKey k wm = hasKey k rm) ∧
    (∀ d key, DiscDenotes x intKey d key → lookupS disc rm = some key.toV → lookupS disc wm = some key.toV))

theorem strDenotes_fun {x : Ext} {d : V} {s s' : String} (h : StrDenotes x d s) (h' : StrDenotes x d s') : s = s' := by
  have h1 := (stringInputMapper_ok_iff x d s).mpr h
  have h2 := (stringInputMapper_ok_iff x d s').mpr h'
  rw [h1] at h2
  exact Out.ok.inj h2

theorem intDenotes_plain_eq {u : Option Units} {d : V} {k n : Int} (h1 : IntDenotes u d k) (h2 : IntDenotes none d n) :
    k = n := by
  cases h1 with
  | int _ => cases h2; rfl
  | float hf =>
    cases h2 with
    | float hf' => rw [hf] at hf'; exact Option.some.inj hf'
  | strPlain _ hp =>
    cases h2 with
    | strPlain _ hp' => rw [hp] at hp'; exact Option.some.inj hp'
    | strUnits hu _ => cases hu
  | strUnits _ hp =>
    cases h2 with
    | strPlain _ hp' => exact UnitsPlain.unitsParseInt_plain _ _ _ _ hp' hp
    | strUnits hu _ => cases hu
  | bool => cases h2; rfl

/-- Unserialize of a discriminator property of the key kind yields the one-of's converted key -/
theorem discProp_unser (x : Ext) (n : Nat) (env : Env) (ik : Bool) (T : Ty) (hT : discTyOK ik T = true)
    (d d' : V) (key : Key) (hk : DiscDenotes x ik d key) (h : run x n .U env T d = .ok d') : d' = key.toV := by
  cases n with
  | zero => simp [run] at h
  | succ n =>
    unfold DiscDenotes at hk
    cases T <;> simp only [discTyOK, Bool.not_eq_true', Bool.false_eq_true] at hT
    · -- int
      subst hT
      simp only [if_true] at hk
      obtain ⟨k, hk1, rfl⟩ := hk
      obtain ⟨k', hk', _, rfl⟩ := (C02_int_unser_iff x n env _ _ _ d d').mp h
      rw [intDenotes_plain_eq hk' hk1]; rfl
    · -- str
      subst hT
      simp only [Bool.false_eq_true, if_false] at hk
      obtain ⟨s, hs, rfl⟩ := hk
      obtain ⟨s', hs', _, rfl⟩ := (C02_str_unser_iff x n env _ _ _ d d').mp h
      rw [strDenotes_fun hs' hs]; rfl
    · -- enumInt
      subst hT
      simp only [if_true] at hk
      obtain ⟨k, hk1, rfl⟩ := hk
      obtain ⟨k', hk', _, rfl⟩ := (C02_enumInt_unser_iff x n env _ _ d d').mp h
      rw [intDenotes_plain_eq hk' hk1]; rfl
    · -- enumStr
      subst hT
      simp only [Bool.false_eq_true, if_false] at hk
      obtain ⟨s, hs, rfl⟩ := hk
      obtain ⟨s', hs', _, rfl⟩ := (C02_enumStr_unser_iff x n env _ d d').mp h
      rw [strDenotes_fun hs' hs]; rfl

/-- Serialize of a discriminator property of the key kind is the identity on a converted key -/
theorem discProp_ser (x : Ext) (n : Nat) (env : Env) (ik : Bool) (T : Ty) (hT : discTyOK ik T = true)
    (d e' : V) (key : Key) (hk : DiscDenotes x ik d key) (h : run x n .S env T key.toV = .ok e') : e' = key.toV := by
  cases n with
  | zero => simp [run] at h
  | succ n =>
    unfold DiscDenotes at hk
    cases T <;> simp only [discTyOK, Bool.not_eq_true', Bool.false_eq_true] at hT
    · -- int
      subst hT
      simp only [if_true] at hk
      obtain ⟨k, hk1, rfl⟩ := hk
      exact (((C02_int_native x n env _ _ _ k (intDenotes_inInt64 hk1)).2 e').mp h).2
    · -- str
      subst hT
      simp only [Bool.false_eq_true, if_false] at hk
      obtain ⟨s, _, rfl⟩ := hk
      exact (((C02_str_native x n env _ _ _ s).2 e').mp h).2
    · -- enumInt
      subst hT
      simp only [if_true] at hk
      obtain ⟨k, hk1, rfl⟩ := hk
      have hw := wrapInt64_of_inInt64 (intDenotes_inInt64 hk1)
      simp only [run, runEnumInt, Key.toV, asInt, V.under, hw, Out.bind] at h
      split at h
      · simp at h; exact h.symm
      · simp [cerr] at h
    · -- enumStr
      subst hT
      simp only [Bool.false_eq_true, if_false] at hk
      obtain ⟨s, _, rfl⟩ := hk
      simp only [run, runEnumStr, Key.toV, asString, V.under, Out.bind] at h
      split at h
      · simp at h; exact h.symm
      · simp [cerr] at h

theorem allSV_lookup {f : String → V → Out V} {m m' : List (String × V)} (h : AllSV f m m') {k : String} {d : V}
    (hl : lookupS k m = some d) : ∃ d', lookupS k m' = some d' ∧ f k d = .ok d' := by
  induction h with
  | nil => simp [lookupS] at hl
  | @cons k0 v v' rest rest' hf _ ih =>
    simp only [lookupS] at hl ⊢
    split at hl
    · rename_i hk
      have : k = k0 := by simpa using hk
      subst this
      simp at hl; subst hl
      exact ⟨v', by simp, hf⟩
    · rename_i hk
      simp only [hk, if_false, Bool.false_eq_true]
      exact ih hl

theorem memberInl_obj (x : Ext) (n : Nat) (env : Env) (id : String) (props : List (String × PropT)) (ik : Bool)
    (disc : String) (p : PropT) (hp : lookupS disc props = some p) (hT : discTyOK ik p.ty = true) :
    MemberInl (run x (n + 1)) x env (.obj id props) ik disc := by
  refine ⟨?_, ?_, ?_⟩
  · intro v r h
    obtain ⟨m', _, _, rfl⟩ := run_obj_U_ok h
    exact ⟨m', rfl⟩
  · intro m rm d key h hl hk
    obtain ⟨skvs, m1, m', hs, _, hdef, hfor, _, hr⟩ := (C03_obj_unser_iff x n env id props _ _ _).mp h
    rw [strKeys_toStrAny] at hs
    cases hs
    have := toStrAny_inj hr
    subst this
    have hl1 := C03_default_keeps_supplied props _ m1 disc d hdef hl
    obtain ⟨d', hl', hf⟩ := allSV_lookup (forSV_ok_iff.mp hfor) hl1
    obtain ⟨p', hp', _, hu⟩ := objEntryU_ok_iff.mp hf
    cases hp.symm.trans hp'
    rw [discProp_unser x n env ik p.ty hT d d' key hk hu] at hl'
    exact hl'
  · intro rm w h
    simp only [run, runObj, toStrAny, MapShape.strAny, strKeys_toStrAny] at h
    obtain ⟨_, _, h2⟩ := bind_eq_ok h
    obtain ⟨wm, h3, h4⟩ := bind_eq_ok h2
    simp at h4
    have hall := forSV_ok_iff.mp h3
    refine ⟨wm, by simp [toStrAny, MapShape.strAny, h4], fun k => hasKey_eq_of_keys (allSV_keys hall) k, ?_⟩
    intro d key hk hl
    obtain ⟨e', hl', hf⟩ := allSV_lookup hall hl
    obtain ⟨p', hp', hs⟩ := objEntry_ok_iff.mp hf
    cases hp.symm.trans hp'
    rw [discProp_ser x n env ik p.ty hT d e' key hk hs] at hl'
    exact hl'

theorem discDenotes_fun {x : Ext} {ik : Bool} {d : V} {k k' : Key} (h : DiscDenotes x ik d k) (h' : DiscDenotes x ik d k') :
    k = k' :=
  discDenotes_det h h'

theorem rt_oneOf_inl (x : Ext) (n : Nat) (env : Env) (intKey : Bool) (disc : String) (members : List (Key × Ty))
    (hrt : ∀ m, m ∈ members → RT (run x n) env m.2)
    (hmem : ∀ m, m ∈ members → MemberInl (run x n) x env m.2 intKey disc) :
    RT (run x (n + 1)) env (.oneOf intKey disc true members) := by
  intro v r h
  simp only [run, runOneOf] at h
  obtain ⟨key, m, mt, mr, ⟨_, hfind, hkey, hm, hmt⟩, hmr, hr⟩ := oneOfUnser_ok_iff.mp h
  simp only [if_true] at hmr
  have hmm : (key, mt) ∈ members := lookupK_mem hmt
  obtain ⟨hU, hD, hS⟩ := hmem _ hmm
  obtain ⟨rm, rfl⟩ := hU _ _ hmr
  -- the member already converted the discriminator to the one-of's key, so attaching it changes nothing
  have hlk : lookupS disc rm = some key.toV := hD m rm _ key hmr (find_lookup_disc disc _ m _ _ hm hfind) hkey
  rw [attachDisc_toStrAny, setKey_same _ _ _ hlk] at hr
  cases hr
  obtain ⟨hV, w, hSm, hUw⟩ := hrt _ hmm _ _ hmr
  obtain ⟨wm, rfl, _, hwd⟩ := hS _ _ hSm
  have hlw : lookupS disc wm = some key.toV := hwd _ key hkey hlk
  obtain ⟨h1, h2, h3⟩ := rt_oneOf_core x n env intKey disc true members hkey hmt hlk (if_pos rfl)
    (setKey_same _ _ _ hlk) hlw (if_pos rfl) (by simp only [hasKey, hlw, Option.isSome_some, if_true]) hV hSm hUw
  exact ⟨h1, _, h2, h3⟩
def declares (env : Env) (disc : String) : Ty → Prop
  | .obj _ props => hasKey disc props = true
  | .ref id => ∃ oid ps, lookupS id env = some (.obj oid ps) ∧ hasKey disc ps = true
  | .scope objs root => ∃ oid ps, lookupS root objs = some (.obj oid ps) ∧ hasKey disc ps = true
  | _ => False

/-- Schemas covered by the round-trip theorem: as `WF` (minus the condition on defaults, which the
    round trip does not need), plus, for one-ofs, exactly what `ApplyNamespace`
    (`validateSubtypeDiscriminatorInlineFields`) checks and panics on otherwise:

    * `oneOf` (discriminator NOT inlined): every member is object-like and does NOT declare the
      discriminator property;
    * `oneOfInl` (discriminator inlined): every member is object-like and DECLARES the
      discriminator property, with a type of the one-of's key kind (`declaresTyped`, `discTyOK`:
      a string-keyed one-of needs a string or string-enum property, an int-keyed one-of an int or
      int-enum property - units allowed).

    Nothing else is required of an inlined discriminator property: it may be optional or required,
    carry a default, bounds, a pattern, enum values excluding some keys, conflict / required-if
    rules. (Where such a declaration excludes a key the member rejects the input at Unserialize, so
    there is nothing to round-trip; a default never applies because the one-of itself rejects a
    map without the discriminator.) -/
inductive WF1 : Env → Ty → Prop
  | int {env a b u} : WF1 env (.int a b u)
  | float {env a b u} : WF1 env (.float a b u)
  | str {env a b p} : WF1 env (.str a b p)
  | bool {env} : WF1 env .bool
  | pattern {env} : WF1 env .pattern
  | enumInt {env vs u} : WF1 env (.enumInt vs u)
  | enumStr {env vs} : WF1 env (.enumStr vs)
  | any {env} : WF1 env .any
  | list {env item a b} : WF1 env item → WF1 env (.list item a b)
  | map {env k v a b} : WF1 env k → WF1 env v → WF1 env (.map k v a b)
  | obj {env id props} : (∀ np, np ∈ props → WF1 env np.2.ty) → WF1 env (.obj id props)
  | oneOf {env ik d members} :
      (∀ m, m ∈ members → WF1 env m.2) → (∀ m, m ∈ members → ObjLike env m.2) →
      (∀ m, m ∈ members → ¬ declares env d m.2) → WF1 env (.oneOf ik d false members)
  | oneOfInl {env ik d members} :
      (∀ m, m ∈ members → WF1 env m.2) → (∀ m, m ∈ members → declaresTyped env ik d m.2) →
      WF1 env (.oneOf ik d true members)
  | ref {env id o} : lookupS id env = some o → WF1 env (.ref id)
  | scope {env objs root o} :
      lookupS root objs = some o → (∀ p, p ∈ objs → WF1 objs p.2) → WF1 env (.scope objs root)

def EnvWF1 (env : Env) : Prop := ∀ p, p ∈ env → WF1 env p.2

theorem declaresTyped_objLike {env : Env} {ik : Bool} {disc : String} {t : Ty} (h : declaresTyped env ik disc t) :
    ObjLike env t := by
  cases t <;> simp only [declaresTyped] at h <;> simp only [ObjLike]
  · obtain ⟨oid, ps, _, hl, _⟩ := h; exact ⟨oid, ps, hl⟩
  · obtain ⟨oid, ps, _, hl, _⟩ := h; exact ⟨oid, ps, hl⟩

theorem memberOK_obj (x : Ext) (n : Nat) (env : Env) (id : String) (props : List (String × PropT)) (disc : String)
    (hnd : ¬ hasKey disc props = true) : MemberOK (run x (n + 1)) env (.obj id props) disc := by
  constructor
  · intro v r h
    obtain ⟨m', h1, _, rfl⟩ := run_obj_U_ok h
    refine ⟨m', rfl, ?_⟩
    obtain ⟨hok, _⟩ := objRaw_spec h1
    cases hk : hasKey disc m' with
    | false => rfl
    | true =>
      obtain ⟨e, he⟩ := hasKey_eq_true_iff.mp hk
      obtain ⟨p, _, hp, _, _⟩ := hok _ he
      exact absurd (by simp [hasKey, hp]) hnd
  · intro rm w h
    simp only [run, runObj, toStrAny, MapShape.strAny, strKeys_toStrAny] at h
    obtain ⟨_, _, h2⟩ := bind_eq_ok h
    obtain ⟨wm, h3, h4⟩ := bind_eq_ok h2
    simp at h4
    exact ⟨wm, by simp [toStrAny, MapShape.strAny, h4], fun k => hasKey_eq_of_keys (allSV_keys (forSV_ok_iff.mp h3)) k⟩

/-- the three facts the induction carries: the round trip itself, and what a one-of one level up
    needs from this schema as a member (non-inlined / inlined) -/
def RTAux (x : Ext) (n : Nat) (env : Env) (t : Ty) : Prop :=
  RT (run x n) env t ∧
  (ObjLike env t → ∀ disc, ¬ declares env disc t → MemberOK (run x n) env t disc) ∧
  (∀ ik disc, declaresTyped env ik disc t → MemberInl (run x n) x env t ik disc)

theorem rtAux_leaf {x : Ext} {n : Nat} {env : Env} {t : Ty} (h : RT (run x n) env t)
    (hno : ¬ ObjLike env t) : RTAux x n env t :=
  ⟨h, fun ho => absurd ho hno, fun _ _ hd => absurd (declaresTyped_objLike hd) hno⟩

/-- A reference or scope runs its target with one unit of fuel less; it is object-like, and
    declares a property, exactly when the target does - so it inherits the three facts. -/
theorem rtAux_step {x : Ext} {n : Nat} {env env' : Env} {t o : Ty}
    (hrun : ∀ op v, run x (n + 1) op env t v = run x n op env' o v)
    (hobj : ObjLike env t → ObjLike env' o ∧ ∀ disc, declares env' disc o → declares env disc t)
    (htyped : ∀ ik disc, declaresTyped env ik disc t → declaresTyped env' ik disc o)
    (h : RTAux x n env' o) : RTAux x (n + 1) env t := by
  obtain ⟨hrt, hmo, hmi⟩ := h
  refine ⟨?_, fun ho disc hnd => ?_, fun ik disc hd => ?_⟩
  · simpa only [RT, hrun] using hrt
  · simpa only [MemberOK, hrun] using hmo (hobj ho).1 disc (fun hd => hnd ((hobj ho).2 disc hd))
  · simpa only [MemberInl, hrun] using hmi ik disc (htyped ik disc hd)

theorem rt_aux' (x : Ext) : ∀ (n : Nat) (env : Env) (t : Ty), EnvWF1 env → WF1 env t → RTAux x n env t
  | 0, env, t, _, _ => by
    exact ⟨fun v r h => (nomatch h), fun _ disc _ => ⟨fun v r h => (nomatch h), fun rm w h => (nomatch h)⟩,
      fun _ _ _ => ⟨fun v r h => (nomatch h), fun m rm d key h => (nomatch h), fun rm w h => (nomatch h)⟩⟩
  | n + 1, env, t, henv, hwf => by
    have ih := rt_aux' x n
    cases hwf with
    -- `id`: on a kind other than object, reference and scope `ObjLike env t` unfolds to `False`
    | int => exact rtAux_leaf (rt_int x n env _ _ _) id
    | float => exact rtAux_leaf (rt_float x n env _ _ _) id
    | str => exact rtAux_leaf (rt_str x n env _ _ _) id
    | bool => exact rtAux_leaf (rt_bool x n env) id
    | pattern => exact rtAux_leaf (rt_pattern x n env) id
    | enumInt => exact rtAux_leaf (rt_enumInt x n env _ _) id
    | enumStr => exact rtAux_leaf (rt_enumStr x n env _) id
    | any => exact rtAux_leaf (rt_any x n env) id
    | list hi => exact rtAux_leaf (rt_list x n env _ _ _ (ih env _ henv hi).1) id
    | map hk hv => exact rtAux_leaf (rt_map x n env _ _ _ _ (ih env _ henv hk).1 (ih env _ henv hv).1) id
    | obj hp =>
      refine ⟨rt_obj x n env _ _ (fun np hnp => (ih env _ henv (hp np hnp)).1), fun _ disc hnd => ?_, fun ik disc hd => ?_⟩
      · exact memberOK_obj x n env _ _ disc hnd
      · obtain ⟨p, hp', hT⟩ := hd
        exact memberInl_obj x n env _ _ ik disc p hp' hT
    | oneOf hm ho hd =>
      exact rtAux_leaf (rt_oneOf x n env _ _ _ (fun m hmm => (ih env _ henv (hm m hmm)).1)
        (fun m hmm => (ih env _ henv (hm m hmm)).2.1 (ho m hmm) _ (hd m hmm))) id
    | oneOfInl hm hd =>
      exact rtAux_leaf (rt_oneOf_inl x n env _ _ _ (fun m hmm => (ih env _ henv (hm m hmm)).1)
        (fun m hmm => (ih env _ henv (hm m hmm)).2.2 _ _ (hd m hmm))) id
    | ref hl =>
      refine rtAux_step (fun op v => by simp only [run, hl]) ?_ ?_ (ih env _ henv (henv _ (lookupS_mem hl)))
      · rintro ⟨oid, ps, hl'⟩
        cases hl.symm.trans hl'
        exact ⟨trivial, fun disc hd => ⟨oid, ps, hl, hd⟩⟩
      · rintro ik disc ⟨oid, ps, p, hl', hp, hT⟩
        cases hl.symm.trans hl'
        exact ⟨p, hp, hT⟩
    | scope hl hobjs =>
      refine rtAux_step (fun op v => by simp only [run, hl]) ?_ ?_ (ih _ _ hobjs (hobjs _ (lookupS_mem hl)))
      · rintro ⟨oid, ps, hl'⟩
        cases hl.symm.trans hl'
        exact ⟨trivial, fun disc hd => ⟨oid, ps, hl, hd⟩⟩
      · rintro ik disc ⟨oid, ps, p, hl', hp, hT⟩
        cases hl.symm.trans hl'
        exact ⟨p, hp, hT⟩

/-- the round trip together with the member facts of the non-inlined one-of only -/
theorem rt_aux (x : Ext) (n : Nat) (env : Env) (t : Ty) (henv : EnvWF1 env) (hwf : WF1 env t) :
    RT (run x n) env t ∧ (ObjLike env t → ∀ disc, ¬ declares env disc t → MemberOK (run x n) env t disc) :=
  ⟨(rt_aux' x n env t henv hwf).1, (rt_aux' x n env t henv hwf).2.1⟩

end Arca
