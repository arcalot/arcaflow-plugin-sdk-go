import ArcaModel.Lemmas.Out
import ArcaModel.Lemmas.Depth
import ArcaModel.Model.WF
/-
  Where an operation can get stuck (panic, or exhaust its budget).

  Scalar kinds never do. The any-schema only runs out of budget, and not when the budget exceeds
  the depth of the value. A recursive kind is stuck only where one of its recursive calls is, or -
  panics only - where a default does not decode or a one-of member serializes to something that is
  not a `map[string]any`. One lemma per kind, about the kind's own function with the recursive call
  `rec` as a variable; the hypotheses speak only about the values the kind really hands to `rec`
  (the elements / entries of the given value, the declared defaults, the value itself for the
  single-property shorthand, the re-packed entries for a one-of member) and the operations it
  invokes there.
-/
namespace Arca
open Out

variable {s : Stuck}

@[simp] theorem avoids_intInputMapper (u : Option Units) (v : V) : Avoids s (intInputMapper u v) := by
  unfold intInputMapper; (repeat' split) <;> simp

@[simp] theorem avoids_stringInputMapper (x : Ext) (v : V) : Avoids s (stringInputMapper x v) := by
  unfold stringInputMapper; split <;> simp

@[simp] theorem avoids_boolInputMapper (v : V) : Avoids s (boolInputMapper v) := by
  unfold boolInputMapper; (repeat' split) <;> simp

@[simp] theorem avoids_floatInputMapper (x : Ext) (u : Option Units) (v : V) : Avoids s (floatInputMapper x u v) := by
  unfold floatInputMapper; (repeat' split) <;> simp

@[simp] theorem avoids_asInt (v : V) : Avoids s (asInt v) := by unfold asInt; split <;> simp
@[simp] theorem avoids_asFloat (v : V) : Avoids s (asFloat v) := by unfold asFloat; split <;> simp
@[simp] theorem avoids_asString (v : V) : Avoids s (asString v) := by unfold asString; split <;> simp
@[simp] theorem avoids_asBool (v : V) : Avoids s (asBool v) := by unfold asBool; split <;> simp

@[simp] theorem avoids_checkInt (a b : Option Int) (n : Int) : Avoids s (checkInt a b n) := by
  unfold checkInt; (repeat' split) <;> simp
@[simp] theorem avoids_checkLen (a b : Option Int) (n : Nat) : Avoids s (checkLen a b n) := by
  unfold checkLen; (repeat' split) <;> simp
@[simp] theorem avoids_checkFloat (a b : Option Nat) (n : Nat) : Avoids s (checkFloat a b n) := by
  unfold checkFloat; (repeat' split) <;> simp
@[simp] theorem avoids_checkStr (x : Ext) (a b : Option Int) (p : Option String) (t : String) :
    Avoids s (checkStr x a b p t) := by
  unfold checkStr
  have := avoids_checkLen (s := s) a b t.utf8ByteSize
  (repeat' split) <;> simp_all

@[simp] theorem avoids_done : Avoids s done := avoids_ok s _

@[simp] theorem avoids_runInt (op : Op) (a b : Option Int) (u : Option Units) (v : V) : Avoids s (runInt op a b u v) := by
  unfold runInt; cases op <;> simp

@[simp] theorem avoids_runFloat (x : Ext) (op : Op) (a b : Option Nat) (u : Option Units) (v : V) :
    Avoids s (runFloat x op a b u v) := by
  unfold runFloat; cases op <;> simp

@[simp] theorem avoids_runStr (x : Ext) (op : Op) (a b : Option Int) (p : Option String) (v : V) :
    Avoids s (runStr x op a b p v) := by
  unfold runStr; cases op <;> simp
  split <;> simp

@[simp] theorem avoids_runBool (op : Op) (v : V) : Avoids s (runBool op v) := by
  unfold runBool; cases op <;> simp

@[simp] theorem avoids_runPattern (x : Ext) (op : Op) (v : V) : Avoids s (runPattern x op v) := by
  unfold runPattern; cases op <;> simp <;> split <;> simp

@[simp] theorem avoids_runEnumInt (op : Op) (vals : List Int) (u : Option Units) (v : V) :
    Avoids s (runEnumInt op vals u v) := by
  unfold runEnumInt; cases op <;> simp

@[simp] theorem avoids_runEnumStr (x : Ext) (op : Op) (vals : List String) (v : V) : Avoids s (runEnumStr x op vals v) := by
  unfold runEnumStr; cases op <;> simp

theorem avoids_anyConvert : ∀ (n : Nat) (v : V), (s = .fuel → v.depth < n) → Avoids s (anyConvert n v)
  | 0, v, h => by
    cases s
    · simp [anyConvert]
    · exact absurd (h rfl) (Nat.not_lt_zero _)
  | n + 1, v, h => by
    have ih := avoids_anyConvert n
    have hu := depth_under v
    unfold anyConvert
    -- `v.under` is an int, a float, a string, a bool, a list, bytes, a map, or none of these
    split
    · (repeat' split) <;> simp
    · (repeat' split) <;> simp
    · simp
    · simp
    · rename_i xs hxs
      rw [hxs, V.depth] at hu
      exact avoids_bind (avoids_forIdx _ _ fun i e he => avoids_addSeg _ (ih e fun hs => by
        have := depthList_mem he; have := h hs; omega)) fun _ _ => avoids_ok s _
    · rename_i b hb
      rw [hb, V.depth] at hu
      refine avoids_bind (avoids_forIdx _ _ fun i e he => avoids_addSeg _ (ih e fun hs => ?_)) fun _ _ => avoids_ok s _
      obtain ⟨k, _, rfl⟩ := List.mem_map.mp he
      have := h hs
      simp only [V.depth]; omega
    · rename_i sh kvs hkvs
      rw [hkvs, V.depth] at hu
      refine avoids_bind (avoids_forKV _ fun k e he => ?_) fun _ _ => by simp
      have hd : s = .fuel → k.depth < n ∧ e.depth < n := fun hs => by
        have := depthKVs_mem he; have := h hs; omega
      exact avoids_bind (avoids_addSeg _ (ih k fun hs => (hd hs).1)) fun _ _ =>
        avoids_bind (avoids_addSeg _ (ih e fun hs => (hd hs).2)) fun _ _ => avoids_ok s _
    · simp

theorem avoids_anyCompat : ∀ (n : Nat) (v : V), (s = .fuel → v.depth < n) → Avoids s (anyCompat n v)
  | 0, v, h => by
    cases s
    · simp [anyCompat]
    · exact absurd (h rfl) (Nat.not_lt_zero _)
  | n + 1, v, h => by
    have ih := avoids_anyCompat n
    -- the values of a map lie one level down
    have hkv : ∀ {sh kvs}, v = .map sh kvs → ∀ k e, (k, e) ∈ kvs → Avoids s (rewrapC (anyCompat n e)) :=
      fun hv k e he => avoids_rewrapC (ih e fun hs => by
        have := h hs; rw [hv, V.depth] at this; have := depthKVs_mem he; omega)
    unfold anyCompat
    -- `v` is a `map[string]any`, a `map[int64]any`, a `map[any]any`, a list, or anything else
    -- (which goes to `anyConvert`)
    split
    · exact avoids_bind (avoids_forKV _ fun k e he => avoids_bind (hkv rfl k e he) fun _ _ => avoids_ok s _)
        fun _ _ => avoids_done
    · exact avoids_bind (avoids_forKV _ fun k e he => avoids_bind (hkv rfl k e he) fun _ _ => avoids_ok s _)
        fun _ _ => avoids_done
    · refine avoids_bind (avoids_forKV _ fun k e he => ?_) fun _ _ => avoids_done
      have := hkv rfl k e he
      (repeat' split) <;> simp [this]
    · refine avoids_bind (avoids_forIdx _ _ fun _ e he => avoids_rewrapC (ih e fun hs => ?_)) fun _ _ => ?_
      · have := h hs; rw [V.depth] at this; have := depthList_mem he; omega
      · (repeat' split) <;> simp
    · exact avoids_bind (avoids_anyConvert _ _ h) fun _ _ => avoids_done

theorem avoids_runAny (op : Op) (n : Nat) (v : V) (h : s = .fuel → v.depth < n) : Avoids s (runAny op n v) := by
  unfold runAny
  cases op <;> simp [avoids_anyConvert _ _ h, avoids_anyCompat _ _ h]

/-- `op.invokes op'`: `op` on a schema may run `op'` on a sub-schema. Serialize validates first;
    data-mode compatibility of a non-map value with an object falls back to Unserialize. -/
def Op.invokes : Op → Op → Prop
  | .U, op' => op' = .U
  | .V, op' => op' = .V
  | .S, op' => op' = .V ∨ op' = .S
  | .C, op' => op' = .C ∨ op' = .U

theorem avoids_runList {rec : Rec} {op : Op} {env : Env} {item : Ty} {v : V}
    (h : ∀ xs, v.sliceElems? = some xs → ∀ e, e ∈ xs → ∀ op', op.invokes op' → Avoids s (rec op' env item e))
    (a b : Option Int) : Avoids s (runList rec op env item a b v) := by
  unfold runList
  split
  · simp
  · rename_i xs hxs
    have hi : ∀ op', op.invokes op' → Avoids s (forIdx (fun i e => (rec op' env item e).addSeg (idxSeg i)) 0 xs) :=
      fun op' ho => avoids_forIdx _ _ fun i e he => avoids_addSeg _ (h xs hxs e he op' ho)
    cases op <;> simp only
    · simp [hi .U rfl]
    · simp [hi .V rfl]
    · simp [hi .V (.inl rfl), hi .S (.inr rfl)]
    · simp [hi .C (.inl rfl)]

theorem avoids_runMap {rec : Rec} {op : Op} {env : Env} {kt vt : Ty} {v : V}
    (h : ∀ sh kvs, v.mapEntries? = some (sh, kvs) → ∀ k e, (k, e) ∈ kvs → ∀ op', op.invokes op' →
      Avoids s (rec op' env kt k) ∧ Avoids s (rec op' env vt e))
    (a b : Option Int) : Avoids s (runMap rec op env kt vt a b v) := by
  unfold runMap
  split
  · simp
  · rename_i sh kvs hkvs
    have hkv : ∀ op', op.invokes op' → Avoids s (forKV (entryKV rec op' env kt vt) kvs) :=
      fun op' ho => avoids_forKV _ fun k e he => by
        have := h sh kvs hkvs k e he op' ho
        simp [entryKV, this]
    cases op <;> simp only
    · simp [hkv .U rfl]
    · simp [hkv .V rfl]
    · simp [hkv .V (.inl rfl), hkv .S (.inr rfl)]
    · simp [hkv .C (.inl rfl)]

@[simp] theorem avoids_interdeps (props : List (String × PropT)) (isSet : String → Bool) :
    Avoids s (interdeps props isSet) := by
  unfold interdeps
  induction props with
  | nil => simp [interdeps.go]
  | cons p rest ih => simp [interdeps.go, ih]

/-- the only way `applyDefaults` is stuck: a default that does not decode makes it panic -/
theorem avoids_applyDefaults : ∀ (props : List (String × PropT)) (m : List (String × V)),
    (s = .panic → ∀ np, np ∈ props → np.2.defaultV ≠ some none) → Avoids s (applyDefaults props m)
  | [], m, _ => avoids_ok s _
  | (id, p) :: rest, m, h => by
    have ih := fun m => avoids_applyDefaults rest m fun hs np hnp => h hs np (List.mem_cons_of_mem _ hnp)
    simp only [applyDefaults]
    split
    · exact ih m
    · split
      · exact ih m
      · rename_i hd
        cases s
        · exact absurd hd (h rfl (id, p) (List.mem_cons_self ..))
        · simp
      · exact ih _

theorem applyDefaults_mem : ∀ {props : List (String × PropT)} {m m' : List (String × V)},
    applyDefaults props m = .ok m' → ∀ {k : String} {e : V}, (k, e) ∈ m' →
      (k, e) ∈ m ∨ ∃ np, np ∈ props ∧ np.1 = k ∧ np.2.defaultV = some (some e)
  | [], m, m', h, k, e, he => by cases h; exact Or.inl he
  | (id, p) :: rest, m, m', h, k, e, he => by
    simp only [applyDefaults] at h
    have lift : ((k, e) ∈ m ∨ ∃ np, np ∈ rest ∧ np.1 = k ∧ np.2.defaultV = some (some e)) →
        ((k, e) ∈ m ∨ ∃ np, np ∈ (id, p) :: rest ∧ np.1 = k ∧ np.2.defaultV = some (some e)) :=
      Or.imp_right fun ⟨np, hnp, hk, hd⟩ => ⟨np, List.mem_cons_of_mem _ hnp, hk, hd⟩
    split at h
    · exact lift (applyDefaults_mem h he)
    · split at h
      · exact lift (applyDefaults_mem h he)
      · cases h
      · rename_i d hd
        rcases applyDefaults_mem h he with h' | h'
        · rcases List.mem_append.mp h' with h'' | h''
          · exact Or.inl h''
          · cases List.mem_singleton.mp h''
            exact Or.inr ⟨(id, p), List.mem_cons_self .., rfl, hd⟩
        · exact lift (Or.inr h')

theorem avoids_objEntryU {rec : Rec} {env : Env} {props : List (String × PropT)} {k : String} {d : V}
    (h : ∀ np, np ∈ props → np.1 = k → Avoids s (rec .U env np.2.ty d)) : Avoids s (objEntryU rec env props k d) := by
  unfold objEntryU
  split
  · simp
  · rename_i p hp
    simp [h (k, p) (lookupS_mem hp) rfl]

/-- Unserialize of an object up to the interdependency check. `single`: the single-property
    shorthand hands the value itself to the property's type; `entries`: the entries of a map value;
    `defaults`: the default of a property is fed to the type found under its name. -/
theorem avoids_objRaw {rec : Rec} {env : Env} {props : List (String × PropT)} {v : V}
    (hdef : s = .panic → ∀ np, np ∈ props → np.2.defaultV ≠ some none)
    (single : ∀ name p, props = [(name, p)] → v.mapEntries? = none → p.disabled = false → Avoids s (rec .U env p.ty v))
    (entries : ∀ sh kvs, v.mapEntries? = some (sh, kvs) → ∀ k e, (k, e) ∈ kvs →
      ∀ np, np ∈ props → Avoids s (rec .U env np.2.ty e))
    (defaults : ∀ np, np ∈ props → ∀ np', np' ∈ props → np'.1 = np.1 → ∀ dv, np'.2.defaultV = some (some dv) →
      Avoids s (rec .U env np.2.ty dv)) : Avoids s (objRaw rec env props v) := by
  unfold objRaw
  split
  · rename_i hnone
    split
    · rename_i name p
      split
      · simp
      · rename_i hdis
        simp [single name p rfl hnone (by simpa using hdis)]
    · simp
  · rename_i sh kvs hkvs
    split
    · simp
    · rename_i skvs hs
      split
      · simp
      · refine avoids_bind (avoids_applyDefaults _ _ hdef) fun m hm =>
          avoids_forSV _ fun k e he => avoids_objEntryU fun np hnp hk => ?_
        rcases applyDefaults_mem hm he with h' | ⟨np', hnp', hk', hd⟩
        · exact entries sh kvs hkvs _ e (strKeys_mem hs h') np hnp
        · exact defaults np hnp np' hnp' (hk'.trans hk.symm) e hd

theorem avoids_objCompatMap {rec : Rec} {env : Env} {props : List (String × PropT)} {m : List (String × V)}
    (h : ∀ k e, (k, e) ∈ m → ∀ np, np ∈ props → Avoids s (rec .C env np.2.ty e)) :
    Avoids s (objCompatMap rec env props m) := by
  unfold objCompatMap
  refine avoids_bind (avoids_forSV _ fun k e he => ?_) fun _ _ => avoids_ite_of (avoids_cerr s) avoids_done
  split
  · exact avoids_cerr s
  · rename_i p hp
    exact avoids_addSeg _ (avoids_bind (avoids_rewrapC (h k e he (k, p) (lookupS_mem hp))) fun _ _ =>
      avoids_ite_of (avoids_cerr s) avoids_done)

/-- `self`: data-mode compatibility of a value that is not a `map[string]any` unserializes it with
    the same object. -/
theorem avoids_runObj {rec : Rec} {op : Op} {env : Env} {id : String} {props : List (String × PropT)} {v : V}
    (raw : op = .U → Avoids s (objRaw rec env props v))
    (entries : ∀ sh kvs, v.mapEntries? = some (sh, kvs) → ∀ k e, (k, e) ∈ kvs →
      ∀ np, np ∈ props → ∀ op', op.invokes op' → Avoids s (rec op' env np.2.ty e))
    (self : op = .C → Avoids s (rec .U env (.obj id props) v)) : Avoids s (runObj rec op env id props v) := by
  unfold runObj
  -- the Validate/Serialize branch of `runObj` (Model/Ops.lean) at `op'`, written out so that
  -- `split` can work on it
  have hVS : ∀ (op' : Op), op.invokes op' → Avoids s (match v with
      | .map ⟨.string, true⟩ kvs =>
        match strKeys? kvs with
        | none => .cerr
        | some m =>
          (interdeps props (fun k => hasKey k m)).bind fun _ =>
            (forSV (objEntry rec op' env props) m).bind fun m' =>
              if op' == .V then done else .ok (toStrAny m')
      | _ => .cerr) := by
    intro op' ho
    split
    · rename_i kvs
      split
      · simp
      · rename_i m hm
        refine avoids_bind (avoids_interdeps _ _) fun _ _ => avoids_bind (avoids_forSV _ fun k e he => ?_) fun _ _ => by simp
        unfold objEntry
        split
        · simp
        · rename_i p hp
          exact avoids_addSeg _
            (entries _ kvs (mapEntries_strAny kvs) _ e (strKeys_mem hm he) (k, p) (lookupS_mem hp) op' ho)
    · simp
  cases op <;> simp only
  · simp [raw rfl]
  · exact hVS .V rfl
  · exact hVS .S (.inr rfl)
  · split
    · rename_i kvs
      split
      · simp
      · rename_i m hm
        exact avoids_objCompatMap fun k e he np hnp =>
          entries _ kvs (mapEntries_strAny kvs) _ e (strKeys_mem hm he) np hnp .C (.inl rfl)
    · simp [self rfl]

theorem oneOfSelect_ok {rec : Rec} {env : Env} {intKey : Bool} {disc : String} {inlined : Bool}
    {members : List (Key × Ty)} {compat : Bool} {m : List (String × V)} {sel : Key × Ty × List (String × V)}
    (h : oneOfSelect rec env intKey disc inlined members compat m = .ok sel) :
    (sel.1, sel.2.1) ∈ members ∧ sel.2.2 = oneOfClone inlined disc m := by
  unfold oneOfSelect at h
  simp only at h
  split at h
  · cases h
  · split at h
    · cases h
    · rename_i key _ _ mt hmt
      have hsel : sel = (key, mt, oneOfClone inlined disc m) := by
        split at h
        · obtain ⟨_, _, h⟩ := bind_eq_ok h
          exact (Out.ok.inj h).symm
        · exact (Out.ok.inj h).symm
      subst hsel
      exact ⟨lookupK_mem hmt, rfl⟩

theorem avoids_oneOfSelect {rec : Rec} {env : Env} {intKey : Bool} {disc : String} {inlined : Bool}
    {members : List (Key × Ty)} {m : List (String × V)} {compat : Bool}
    (h : compat = true → ∀ mem, mem ∈ members → Avoids s (rec .C env mem.2 (toStrAny (oneOfClone inlined disc m)))) :
    Avoids s (oneOfSelect rec env intKey disc inlined members compat m) := by
  unfold oneOfSelect
  simp only
  split
  · simp
  · split
    · simp
    · rename_i key _ _ mt hmt
      split
      · rename_i hc
        exact avoids_bind (avoids_rewrapC (h hc (key, mt) (lookupK_mem hmt))) fun _ _ => avoids_ok s _
      · simp

theorem avoids_oneOfUnser {rec : Rec} {x : Ext} {env : Env} {intKey : Bool} {disc : String} {inlined : Bool}
    {members : List (Key × Ty)} {v : V}
    (h : ∀ sh kvs m, v.mapEntries? = some (sh, kvs) → strKeys? kvs = some m →
      ∀ mem, mem ∈ members → Avoids s (rec .U env mem.2 (toStrAny (oneOfClone inlined disc m)))) :
    Avoids s (oneOfUnser rec x env intKey disc inlined members v) := by
  unfold oneOfUnser
  -- every `split` but the last has a side that rejects the input (`.plain`, `.cerr`); only the
  -- innermost branch calls `rec`
  split
  · simp
  · split
    · simp
    · rename_i sh kvs hkvs
      split
      · simp
      · split
        · simp
        · simp only
          refine avoids_bind (by split <;> simp) fun key _ => ?_
          split
          · simp
          · rename_i m hm
            split
            · simp
            · rename_i mt hmt
              refine avoids_bind (h sh kvs m hkvs hm (key, mt) (lookupK_mem hmt)) fun r _ => ?_
              (repeat' split) <;> simp

/-- `hS`: Serialize asserts without a check that the member's result is a `map[string]any`. -/
theorem avoids_runOneOf {rec : Rec} {x : Ext} {op : Op} {env : Env} {intKey : Bool} {disc : String} {inlined : Bool}
    {members : List (Key × Ty)} {v : V}
    (h : ∀ sh kvs m, v.mapEntries? = some (sh, kvs) → strKeys? kvs = some m →
      ∀ mem, mem ∈ members → ∀ op', op.invokes op' → Avoids s (rec op' env mem.2 (toStrAny (oneOfClone inlined disc m))))
    (hS : s = .panic → ∀ mem, mem ∈ members → ∀ w r, rec .S env mem.2 w = .ok r → ∃ m, r = toStrAny m) :
    Avoids s (runOneOf rec x op env intKey disc inlined members v) := by
  unfold runOneOf
  cases op <;> simp only
  · exact avoids_oneOfUnser fun sh kvs m hkvs hm mem hmem => h sh kvs m hkvs hm mem hmem .U rfl
  · split
    · rename_i kvs
      split
      · simp
      · rename_i m hm
        refine avoids_bind (avoids_oneOfSelect (by simp)) fun sel hs => ?_
        obtain ⟨hmem, hcl⟩ := oneOfSelect_ok hs
        simp [hcl, h _ kvs m (mapEntries_strAny kvs) hm _ hmem .V rfl]
    · simp
  · split
    · rename_i kvs
      split
      · simp
      · rename_i m hm
        refine avoids_bind (avoids_oneOfSelect (by simp)) fun sel hs => ?_
        obtain ⟨hmem, hcl⟩ := oneOfSelect_ok hs
        refine avoids_bind (hcl ▸ h _ kvs m (mapEntries_strAny kvs) hm _ hmem .S (.inr rfl)) fun r hr => ?_
        cases s
        · obtain ⟨rm, rfl⟩ := hS rfl _ hmem _ _ hr
          simp [toStrAny, MapShape.strAny, strKeys_toStrAny]
        · (repeat' split) <;> simp
    · simp
  · split
    · rename_i kvs
      split
      · simp
      · rename_i m hm
        exact avoids_bind (avoids_oneOfSelect fun _ mem hmem =>
          h _ kvs m (mapEntries_strAny kvs) hm mem hmem .C (.inl rfl)) fun _ _ => avoids_done
    · simp

end Arca
