import ArcaModel.Lemmas.StructRoundTripColl
import ArcaModel.Lemmas.StructOneOf
/-
  The round trip through Go structs over whole trees (`C01_struct_end_to_end_partial`,
  Props/StructRoundTrip.lean): induction over the budget (`rt_all2`); without
  treat-empty-as-default the identification is equality (`noEmptyB`, `Eqv_eq`); soundness of the
  executable check (`rtOKB_sound`).
-/
namespace Arca
namespace SM

/-- The hypotheses of the end-to-end round trip, with a budget bound `d` (every budget from `d` on
    works): leaves satisfy C01's `WF1`; struct-mapped objects are well-formed, exactly
    typed, round-trip-faithful pairs (`rtPropB`); scopes, slices and maps of such trees, the map keys
    being `WF1` leaves; one-ofs over struct-mapped objects (see the two clauses). -/
inductive RTOK : Nat → STy → Prop
  | leaf {d t} : WF1 [] t → RTOK d (.leaf t)
  | scope {d t} : RTOK d t → RTOK (d + 1) (.scope t)
  | list {d item a b} : RTOK d item → RTOK (d + 1) (.list item a b)
  | map {d k v a b} : WF1 [] k → RTOK d v → RTOK (d + 1) (.map k v a b)
  /-- a one-of with a SEPARATE discriminator: the members are struct-mapped objects that do not
      declare the discriminator, of pairwise distinct struct types -/
  | oneOf {d ik disc members} : (∀ m, m ∈ members → RTOK d m.2) → (∀ m, m ∈ members → ObjLikeS m.2) →
      (∀ m, m ∈ members → NoDisc disc m.2) → (members.map fun m => reflTy m.2).Nodup →
      RTOK (d + 1) (.oneOf ik disc false members)
  /-- a one-of with an INLINED discriminator: the members are struct-mapped objects that declare
      the discriminator as a leaf of the key kind (with or without treat-empty-as-default), of
      pairwise distinct struct types -/
  | oneOfInl {d ik disc members} : (∀ m, m ∈ members → RTOK d m.2) → (∀ m, m ∈ members → ObjLikeS m.2) →
      (∀ m, m ∈ members → InlDisc ik disc m.2) → (members.map fun m => reflTy m.2).Nodup →
      RTOK (d + 1) (.oneOf ik disc true members)
  -- budget: the property types run two levels below their object and need a budget of at least 2,
  -- because the zero value of a plain field is run through the property's leaf (`zeroFine_srun`
  -- is stated at `n + 2`); hence `d + 2` / `d + 3` here and `srun x (n + 2)` in `rt_obj`, `entry_ok`
  | obj {d id st ptrT props} : WFObj st props → exactObjB st props = true →
      (∀ kp, kp ∈ props → rtPropB st props kp = true) → (∀ kp, kp ∈ props → RTOK (d + 2) kp.2.ty) →
      RTOK (d + 3) (.obj id st ptrT props)

/-- for a schema that is no plain leaf, `RTAt` is the round trip as the lemmas of the single cases state it -/
theorem rtAt_of_not_plainLeaf {rec : SRec} {t : STy} (hpl : plainLeaf t = false)
    (h : ∀ v s, rec .U t v = .ok s → rec .V t s = .ok (.val unitV) ∧
      ∃ w s', rec .S t s = .ok (.val w) ∧ rec .U t (.val w) = .ok s' ∧ Eqv t s s' ∧
        rec .S t s' = .ok (.val w) ∧ rec .V t s' = .ok (.val unitV)) : RTAt rec t := by
  intro v s hU
  obtain ⟨hV, w, s', hS, hU2, hE, hS2, hV2⟩ := h v s hU
  exact ⟨hV, w, s', hS, hU2, hE, hS2, hV2, fun hp => by rw [hpl] at hp; cases hp⟩

theorem rt_leaf (x : Ext) (f : Nat) (t : Ty) (hwf : WF1 [] t) : RTAt (srun x (f + 1)) (.leaf t) := by
  intro v s hU
  obtain ⟨v0, r, _, hr, rfl⟩ := runLeaf_ok_iff.mp hU
  obtain ⟨hV, w, hS, hU2⟩ := C01_roundtrip_closed_partial x f t v0 r hwf hr
  have h : ∀ op v r, run x f op.toOp [] t v = .ok r → srun x (f + 1) op (.leaf t) (.val v) = .ok (.val r) :=
    fun op v r h => (runLeaf_ok_iff (s := .val v)).mpr ⟨v, r, rfl, h, rfl⟩
  exact ⟨h .V _ _ hV, w, .val r, h .S _ _ hS, h .U _ _ hU2, .refl, h .S _ _ hS, h .V _ _ hV, fun _ => rfl⟩

/-- the round trip of every tree within the hypotheses, together with the inlined-member form of
    it (`RTInl`) for the trees that may be members of an inlined one-of -/
theorem rt_all2 (x : Ext) : ∀ (fuel d : Nat) (t : STy), RTOK d t → d ≤ fuel →
    RTAt (srun x fuel) t ∧ ∀ ik disc, InlDisc ik disc t → RTInl (srun x fuel) x ik disc t
  | 0, _, _, _, _ => ⟨by intro v s hU; simp [srun] at hU, by intro _ _ _ mIn s d key hU; simp [srun] at hU⟩
  | f + 1, d, t, hok, hd => by
    cases hok with
    | leaf h => exact ⟨rt_leaf x f _ h, fun _ _ hin => nomatch hin⟩
    | @scope d' t' h =>
      have ih := rt_all2 x f d' t' h (by omega)
      refine ⟨fun v s hU => ?_, fun ik disc hin => by cases hin with | scope h' => exact rt_scope_inl (ih.2 ik disc h')⟩
      obtain ⟨hV, w, s', hS, hU2, hE, hS2, hV2, _⟩ := ih.1 v s hU
      exact ⟨hV, w, s', hS, hU2, .scope hE, hS2, hV2, fun h => nomatch h⟩
    | @list d' item a b h =>
      exact ⟨rtAt_of_not_plainLeaf rfl (rt_list a b (rt_all2 x f d' item h (by omega)).1), fun _ _ hin => nomatch hin⟩
    | @map d' k vt a b hk h =>
      exact ⟨rtAt_of_not_plainLeaf rfl (rt_map x f a b hk (rt_all2 x f d' vt h (by omega)).1), fun _ _ hin => nomatch hin⟩
    | @oneOf d' ik disc members hm ho hno hnd =>
      refine ⟨rtAt_of_not_plainLeaf rfl (rt_oneOfS x ik disc (fun m hmm => (rt_all2 x f d' m.2 (hm m hmm) (by omega)).1)
        (fun m hmm v r hr => srun_U_objLike x f m.2 v r (ho m hmm) hr) (fun m hmm s r hr => ?_) hnd),
        fun _ _ hin => nomatch hin⟩
      obtain ⟨rm, rfl⟩ := srun_S_objLike x f m.2 s r (ho m hmm) hr
      exact ⟨rm, rfl, srun_S_noDisc x disc f m.2 s rm (hno m hmm) hr⟩
    | @oneOfInl d' ik disc members hm ho hin hnd =>
      exact ⟨rtAt_of_not_plainLeaf rfl (rt_oneOfS_inl x ik disc
        (fun m hmm => (rt_all2 x f d' m.2 (hm m hmm) (by omega)).2 ik disc (hin m hmm))
        (fun m hmm v r hr => srun_U_objLike x f m.2 v r (ho m hmm) hr) hnd), fun _ _ hin => nomatch hin⟩
    | @obj d' id st ptrT props hw hex hrt hp =>
      obtain ⟨n, rfl⟩ : ∃ n, f = n + 2 := ⟨f - 2, by omega⟩
      have ih : ∀ kp, kp ∈ props → RTAt (srun x (n + 2)) kp.2.ty :=
        fun kp hkp => (rt_all2 x (n + 2) (d' + 2) kp.2.ty (hp kp hkp) (by omega)).1
      refine ⟨rtAt_of_not_plainLeaf rfl fun v s hU => ?_, fun ik disc hin => by
        cases hin with
        | obj hpd hty hT => exact rt_obj_inl x n ik disc id ptrT hw hex hrt ih hpd hty hT⟩
      obtain ⟨hV, w, s', hS, hU2, hE, hS2⟩ := rt_obj x n id ptrT hw hex hrt ih v s hU
      exact ⟨hV, w, s', hS, hU2, hE, hS2, (rt_obj x n id ptrT hw hex hrt ih (.val w) s' hU2).1⟩

theorem rt_all (x : Ext) (fuel d : Nat) (t : STy) (hok : RTOK d t) (hd : d ≤ fuel) : RTAt (srun x fuel) t :=
  (rt_all2 x fuel d t hok hd).1

/-- no property of the tree is treat-empty-as-default -/
def noEmptyB : Nat → STy → Bool
  | 0, _ => false
  | _ + 1, .leaf _ => true
  | n + 1, .list item _ _ => noEmptyB n item
  | n + 1, .map _ v _ _ => noEmptyB n v
  | n + 1, .scope t => noEmptyB n t
  | n + 1, .obj _ _ _ props => props.all fun kp => !kp.2.emptyIsDefault && noEmptyB n kp.2.ty
  | n + 1, .oneOf _ _ _ members => members.all fun m => noEmptyB n m.2

theorem EqvList_eq {t : STy} (ih : ∀ x x', Eqv t x x' → x = x') : ∀ (xs xs' : List SV), EqvList t xs xs' → xs = xs'
  | _, _, .nil => rfl
  | _, _, .cons h hr => by rw [ih _ _ h, EqvList_eq ih _ _ hr]

theorem EqvKVs_eq {t : STy} (ih : ∀ x x', Eqv t x x' → x = x') : ∀ (a b : List (V × SV)), EqvKVs t a b → a = b
  | _, _, .nil => rfl
  | _, _, .cons h hr => by rw [ih _ _ h, EqvKVs_eq ih _ _ hr]

/-- without treat-empty-as-default properties the identification is equality -/
theorem Eqv_eq : ∀ (n d : Nat) (t : STy) (s s' : SV), noEmptyB n t = true → RTOK d t → Eqv t s s' → s = s'
  | 0, _, _, _, _, h, _, _ => by simp [noEmptyB] at h
  | n + 1, d, t, s, s', hne, hok, hE => by
    cases hE with
    | refl => rfl
    | scope hE' =>
      cases hok with
      | scope hok' => exact Eqv_eq n _ _ _ _ (by simpa [noEmptyB] using hne) hok' hE'
    | list hL =>
      cases hok with
      | list hok' =>
        rw [EqvList_eq (fun x x' h => Eqv_eq n _ _ x x' (by simpa [noEmptyB] using hne) hok' h) _ _ hL]
    | map hM =>
      cases hok with
      | map _ hok' =>
        rw [EqvKVs_eq (fun x x' h => Eqv_eq n _ _ x x' (by simpa [noEmptyB] using hne) hok' h) _ _ hM]
    | oneOf hkm hE' =>
      rename_i km
      cases hok with
      | oneOf hp _ _ _ =>
        simp only [noEmptyB, List.all_eq_true] at hne
        exact Eqv_eq n _ _ _ _ (hne km hkm) (hp km hkm) hE'
      | oneOfInl hp _ _ _ =>
        simp only [noEmptyB, List.all_eq_true] at hne
        exact Eqv_eq n _ _ _ _ (hne km hkm) (hp km hkm) hE'
    | obj hnames hkeys hun hmap =>
      rename_i id st ptrT props fs fs'
      cases hok with
      | obj hw hex hrt hp =>
        simp only [noEmptyB, List.all_eq_true, Bool.and_eq_true, Bool.not_eq_true'] at hne
        congr 1
        apply assoc_ext hkeys (by rw [hnames]; exact hw.names)
        intro k
        by_cases hmapped : ∃ kp, kp ∈ props ∧ fieldName? st kp.1 = some k
        · obtain ⟨kp, hkp, hfn⟩ := hmapped
          obtain ⟨f, hf, _⟩ := propOK_field (hw.prop kp hkp)
          have hk : k = f.name := by simpa [fieldName?, hf] using hfn.symm
          subst hk
          have hk := hasKey_eq_of_keys hkeys f.name
          cases h1 : lookupS f.name fs <;> cases h2 : lookupS f.name fs' <;> simp only [hasKey, h1, h2] at hk
          · rfl
          · cases hk
          · cases hk
          · rename_i fv fv'
            cases hmap kp hkp f fv fv' hf h1 h2 with
            | absent he _ => rw [(hne kp hkp).1] at he; cases he
            | same => rfl
            | val hE' => rw [Eqv_eq n _ _ _ _ (hne kp hkp).2 (hp kp hkp) hE']
            | ptr hE' => rw [Eqv_eq n _ _ _ _ (hne kp hkp).2 (hp kp hkp) hE']
        · exact hun k (fun kp hkp hc => hmapped ⟨kp, hkp, hc⟩)

theorem rtOKB_sound : ∀ (n : Nat) (t : STy), rtOKB n t = true → RTOK (n + 2) t
  | 0, _, h => by simp [rtOKB] at h
  | n + 1, t, h => by
    cases t with
    | leaf t =>
      simp only [rtOKB] at h
      exact .leaf (wf1B_sound _ _ _ h)
    | list item a b => exact .list (rtOKB_sound n item (by simpa [rtOKB] using h))
    | map k v a b =>
      simp only [rtOKB, Bool.and_eq_true] at h
      exact .map (wf1B_sound _ _ _ h.1) (rtOKB_sound n v h.2)
    | scope t => exact .scope (rtOKB_sound n t (by simpa [rtOKB] using h))
    | oneOf ik d inl members =>
      simp only [rtOKB, Bool.and_eq_true, List.all_eq_true, decide_eq_true_eq, and_assoc, imp_and, forall_and] at h
      obtain ⟨hok, hobj, hdisc, _, hnd⟩ := h
      cases inl with
      | false =>
        exact .oneOf (fun m hmm => rtOKB_sound n m.2 (hok m hmm)) (fun m hmm => objLikeS_sound n m.2 (hobj m hmm))
          (fun m hmm => noDisc_of_discOK n ik d m.2 (hobj m hmm) (hdisc m hmm)) hnd
      | true =>
        exact .oneOfInl (fun m hmm => rtOKB_sound n m.2 (hok m hmm)) (fun m hmm => objLikeS_sound n m.2 (hobj m hmm))
          (fun m hmm => inlDisc_of_discOK n ik d m.2 (hobj m hmm) (hdisc m hmm)) hnd
    | obj id st ptrT props =>
      simp only [rtOKB, rtObjB, Bool.and_eq_true, List.all_eq_true] at h
      obtain ⟨⟨⟨hwf, hex⟩, hrt⟩, hty⟩ := h
      exact .obj ((wfObjB_iff st props).mp hwf) hex hrt (fun kp hkp => rtOKB_sound n kp.2.ty (hty kp hkp))

end SM
end Arca
