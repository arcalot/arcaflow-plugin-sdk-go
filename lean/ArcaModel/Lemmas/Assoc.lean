import ArcaModel.Model.Ops
/-
  Association lists standing for Go maps with string (or `Key`) keys: `lookupS`, `lookupK`,
  `hasKey`, `eraseKey`, `setKey`, and the passage between a `map[string]any` value and its
  string-keyed list (`strKeys?`, `toStrAny`).

  `lookupS` and `lookupK` agree with `List.lookup` (`lookupS_eq_lookup`, `lookupK_eq_lookup`), so
  the lemmas of core apply; what core lacks is stated once for `List.lookup` over a lawful key type.
-/
namespace Arca

section lookup
variable {κ α} [BEq κ] [LawfulBEq κ]

theorem lookup_none_iff {k : κ} : ∀ {m : List (κ × α)}, m.lookup k = none ↔ k ∉ m.map Prod.fst
  | [] => by simp
  | (k', a) :: rest => by
    rw [List.lookup_cons, List.map_cons, List.mem_cons, not_or, ← lookup_none_iff (m := rest)]
    cases hk : k == k'
    · exact ⟨fun h => ⟨ne_of_beq_false hk, h⟩, fun h => h.2⟩
    · exact ⟨fun h => (nomatch h), fun h => absurd (eq_of_beq hk) h.1⟩

theorem mem_of_lookup {k : κ} {a : α} {m : List (κ × α)} (h : m.lookup k = some a) : (k, a) ∈ m := by
  obtain ⟨l1, l2, rfl, _⟩ := List.lookup_eq_some_iff.mp h
  exact List.mem_append_right _ (List.mem_cons_self ..)

theorem lookup_of_mem {k : κ} {a : α} : ∀ {m : List (κ × α)}, (m.map Prod.fst).Nodup → (k, a) ∈ m →
    m.lookup k = some a
  | (k', a') :: rest, hnd, h => by
    rw [List.map_cons, List.nodup_cons] at hnd
    rw [List.lookup_cons]
    cases h with
    | head => rw [beq_self_eq_true]
    | tail _ hm =>
      have hne : (k == k') = false := beq_false_of_ne fun e => hnd.1 (e ▸ List.mem_map.mpr ⟨_, hm, rfl⟩)
      rw [hne]
      exact lookup_of_mem hnd.2 hm

end lookup

theorem lookupS_eq_lookup {α} (k : String) : ∀ (m : List (String × α)), lookupS k m = m.lookup k
  | [] => rfl
  | (k', v) :: rest => by
    rw [lookupS, List.lookup_cons, lookupS_eq_lookup k rest]
    cases k == k' <;> rfl

theorem lookupK_eq_lookup {α} (k : Key) : ∀ (m : List (Key × α)), lookupK k m = m.lookup k
  | [] => rfl
  | (k', v) :: rest => by
    rw [lookupK, List.lookup_cons, lookupK_eq_lookup k rest]
    cases k == k' <;> rfl

theorem lookupS_nil {α} (k : String) : lookupS k ([] : List (String × α)) = none := rfl

theorem lookupS_cons {α} (k k' : String) (v : α) (m : List (String × α)) :
    lookupS k ((k', v) :: m) = if k = k' then some v else lookupS k m := by
  simp only [lookupS, beq_iff_eq]

theorem lookupS_mem {α} {k : String} {m : List (String × α)} {v : α} (h : lookupS k m = some v) : (k, v) ∈ m :=
  mem_of_lookup (lookupS_eq_lookup k m ▸ h)

theorem lookupK_mem {α} {k : Key} {m : List (Key × α)} {v : α} (h : lookupK k m = some v) : (k, v) ∈ m :=
  mem_of_lookup (lookupK_eq_lookup k m ▸ h)

theorem lookupS_none_iff {α} (k : String) (m : List (String × α)) : lookupS k m = none ↔ k ∉ m.map Prod.fst :=
  lookupS_eq_lookup k m ▸ lookup_none_iff

theorem lookupS_of_mem {α} {k : String} {a : α} {m : List (String × α)} (hnd : (m.map Prod.fst).Nodup)
    (h : (k, a) ∈ m) : lookupS k m = some a :=
  lookupS_eq_lookup k m ▸ lookup_of_mem hnd h

theorem lookupK_of_mem {α} {k : Key} {a : α} {m : List (Key × α)} (hnd : (m.map Prod.fst).Nodup)
    (h : (k, a) ∈ m) : lookupK k m = some a :=
  lookupK_eq_lookup k m ▸ lookup_of_mem hnd h

theorem lookupS_append {α} (k : String) (a b : List (String × α)) :
    lookupS k (a ++ b) = (lookupS k a).or (lookupS k b) := by
  simp only [lookupS_eq_lookup, List.lookup_append]

theorem lookupS_append_of_some {α} {k : String} {m : List (String × α)} {v : α} (h : lookupS k m = some v)
    (tl : List (String × α)) : lookupS k (m ++ tl) = some v := by
  rw [lookupS_append, h]; rfl

theorem hasKey_cons {α} (k k' : String) (v : α) (m : List (String × α)) :
    hasKey k ((k', v) :: m) = (k == k' || hasKey k m) := by
  simp only [hasKey, lookupS]
  cases k == k' <;> rfl

theorem hasKey_append {α} (k : String) (a b : List (String × α)) : hasKey k (a ++ b) = (hasKey k a || hasKey k b) := by
  simp only [hasKey, lookupS_append, Option.isSome_or]

theorem hasKey_iff_mem {α} (k : String) (m : List (String × α)) : hasKey k m = true ↔ k ∈ m.map Prod.fst := by
  rw [hasKey, Option.isSome_iff_ne_none, Ne, lookupS_none_iff, Decidable.not_not]

theorem hasKey_eq_true_iff {α} {k : String} {m : List (String × α)} : hasKey k m = true ↔ ∃ v, (k, v) ∈ m := by
  rw [hasKey_iff_mem, List.mem_map]
  exact ⟨fun ⟨⟨_, v⟩, h, e⟩ => ⟨v, e ▸ h⟩, fun ⟨v, h⟩ => ⟨(k, v), h, rfl⟩⟩

theorem hasKey_eq_false_iff {α} {k : String} {m : List (String × α)} : hasKey k m = false ↔ lookupS k m = none := by
  rw [hasKey, Option.isSome_eq_false_iff, Option.isNone_iff_eq_none]

theorem hasKey_eq_of_keys {α β} {m : List (String × α)} {m' : List (String × β)}
    (h : m'.map Prod.fst = m.map Prod.fst) (k : String) : hasKey k m' = hasKey k m :=
  Bool.eq_iff_iff.mpr (by rw [hasKey_iff_mem, hasKey_iff_mem, h])

theorem hasKey_eq_any {α} (k : String) (m : List (String × α)) : hasKey k m = m.any (fun kv => k == kv.1) := by
  induction m with
  | nil => rfl
  | cons p rest ih => rw [hasKey_cons, List.any_cons, ih]

theorem eraseKey_eq_filter {α} (k : String) (m : List (String × α)) :
    eraseKey k m = m.filter (fun kv => !(k == kv.1)) := by
  induction m with
  | nil => rfl
  | cons p rest ih =>
    obtain ⟨k', v⟩ := p
    simp only [eraseKey, List.filter_cons]
    cases hk : (k == k') <;> simp [ih]

theorem mem_eraseKey {α} {k : String} {m : List (String × α)} {kv : String × α} :
    kv ∈ eraseKey k m ↔ kv ∈ m ∧ kv.1 ≠ k := by
  rw [eraseKey_eq_filter, List.mem_filter, Bool.not_eq_true', beq_eq_false_iff_ne, ne_comm]

theorem eraseKey_keys_nodup {α} {m : List (String × α)} (hnd : (m.map Prod.fst).Nodup) (k : String) :
    ((eraseKey k m).map Prod.fst).Nodup := by
  rw [eraseKey_eq_filter]
  exact hnd.sublist ((List.filter_sublist ..).map _)

theorem eraseKey_of_not_mem {α} {k : String} : ∀ {m : List (String × α)}, k ∉ m.map Prod.fst → eraseKey k m = m
  | [], _ => rfl
  | (k', v) :: rest, h => by
    simp only [List.map_cons, List.mem_cons, not_or] at h
    have hne : (k == k') = false := by simpa using h.1
    simp only [eraseKey, hne, Bool.false_eq_true, if_false, eraseKey_of_not_mem h.2]

theorem lookupS_setKey {α} (k k' : String) (v : α) : ∀ (d : List (String × α)),
    lookupS k (setKey k' v d) = if k = k' then some v else lookupS k d
  | [] => lookupS_cons ..
  | (k'', v'') :: rest => by
    rw [setKey]
    by_cases h : k' = k''
    · subst h
      rw [if_pos (beq_self_eq_true _), lookupS_cons, lookupS_cons]
      by_cases hk : k = k'
      · rw [if_pos hk, if_pos hk]
      · rw [if_neg hk, if_neg hk, if_neg hk]
    · rw [if_neg (by simpa using h), lookupS_cons, lookupS_setKey k k' v rest, lookupS_cons]
      by_cases hk : k = k''
      · rw [if_pos hk, if_pos hk, if_neg (hk ▸ Ne.symm h)]
      · rw [if_neg hk, if_neg hk]

theorem setKey_same {α} (k : String) (v : α) : ∀ (m : List (String × α)), lookupS k m = some v → setKey k v m = m
  | [], h => by cases h
  | (k', v') :: rest, h => by
    simp only [lookupS] at h
    simp only [setKey]
    split at h
    · rename_i hk
      cases h
      rw [if_pos hk, beq_iff_eq.mp hk]
    · rename_i hk
      simp only [hk, Bool.false_eq_true, if_false, setKey_same k v rest h]

theorem setKey_perm {α} (k : String) (v : α) : ∀ {m : List (String × α)}, (m.map Prod.fst).Nodup →
    (setKey k v m).Perm ((k, v) :: eraseKey k m)
  | [], _ => by simp [setKey, eraseKey]
  | (k', v') :: rest, hnd => by
    simp only [List.map_cons, List.nodup_cons] at hnd
    simp only [setKey, eraseKey]
    cases hk : (k == k') with
    | true =>
      have : k = k' := by simpa using hk
      subst this
      simp only [if_true]
      rw [eraseKey_of_not_mem hnd.1]
    | false =>
      simp only [Bool.false_eq_true, if_false]
      exact ((setKey_perm k v hnd.2).cons _).trans (List.Perm.swap ..)

theorem setKey_keys_nodup {α} {m : List (String × α)} (hnd : (m.map Prod.fst).Nodup) (k : String) (v : α) :
    ((setKey k v m).map Prod.fst).Nodup := by
  refine ((setKey_perm k v hnd).map Prod.fst).nodup_iff.mpr ?_
  rw [List.map_cons, List.nodup_cons]
  exact ⟨fun hm => let ⟨_, hkv, e⟩ := List.mem_map.mp hm; (mem_eraseKey.mp hkv).2 e, eraseKey_keys_nodup hnd k⟩

theorem setKey_absent {α} (k : String) (v : α) (m : List (String × α)) (h : hasKey k m = false) :
    setKey k v m = m ++ [(k, v)] := by
  induction m with
  | nil => rfl
  | cons p rest ih =>
    obtain ⟨k', v'⟩ := p
    simp only [hasKey_cons, Bool.or_eq_false_iff] at h
    simp only [setKey, h.1, Bool.false_eq_true, if_false, List.cons_append, ih h.2]

theorem eraseKey_append_self {α} (k : String) (v : α) (m : List (String × α)) (h : hasKey k m = false) :
    eraseKey k (m ++ [(k, v)]) = m := by
  induction m with
  | nil => simp [eraseKey]
  | cons p rest ih =>
    obtain ⟨k', v'⟩ := p
    simp only [hasKey_cons, Bool.or_eq_false_iff] at h
    simp only [List.cons_append, eraseKey, h.1, Bool.false_eq_true, if_false, ih h.2]

theorem lookupS_append_absent {α} (k : String) (v : α) (m : List (String × α)) (h : hasKey k m = false) :
    lookupS k (m ++ [(k, v)]) = some v := by
  rw [lookupS_append, hasKey_eq_false_iff.mp h, lookupS_cons, if_pos rfl]; rfl

theorem mapEntries_eq {v : V} {sh : MapShape} {kvs : List (V × V)} (h : v.mapEntries? = some (sh, kvs)) :
    v = .map sh kvs := by
  cases v <;> cases h; rfl

theorem strKeys_mem : ∀ {kvs : List (V × V)} {m : List (String × V)}, strKeys? kvs = some m →
    ∀ {k : String} {e : V}, (k, e) ∈ m → (V.str k, e) ∈ kvs
  | [], m, h, k, e, he => by cases h; cases he
  | (kk, vv) :: rest, m, h, k, e, he => by
    cases kk with
    | str s =>
      obtain ⟨m', hm', rfl⟩ := Option.map_eq_some_iff.mp h
      rcases List.mem_cons.mp he with he | he
      · cases he; exact List.mem_cons_self ..
      · exact List.mem_cons_of_mem _ (strKeys_mem hm' he)
    | _ => simp [strKeys?] at h

theorem strKeys_toStrAny (m : List (String × V)) :
    strKeys? (m.map fun (kv : String × V) => (V.str kv.1, kv.2)) = some m := by
  induction m with
  | nil => rfl
  | cons p rest ih => simp [strKeys?, ih]

theorem toStrAny_inj {a b : List (String × V)} (h : toStrAny a = toStrAny b) : a = b :=
  Option.some.inj ((strKeys_toStrAny a).symm.trans ((V.map.inj h).2 ▸ strKeys_toStrAny b))

/-- `MapIndex(name)` on the entries is the lookup in the string-keyed view -/
theorem find_isDiscKey (disc : String) : ∀ {kvs : List (V × V)} {m : List (String × V)}, strKeys? kvs = some m →
    kvs.find? (isDiscKey disc) = (lookupS disc m).map (fun d => (V.str disc, d))
  | [], m, h => by simp only [strKeys?, Option.some.injEq] at h; subst h; rfl
  | (k, v) :: rest, m, h => by
    cases k <;> simp only [strKeys?, Option.map_eq_some_iff, reduceCtorEq] at h
    obtain ⟨m0, h0, rfl⟩ := h
    rename_i s
    simp only [List.find?_cons, isDiscKey, lookupS]
    by_cases hs : s = disc
    · subst hs; simp
    · have h1 : (s == disc) = false := by simpa using hs
      have h2 : (disc == s) = false := by simpa using (fun e => hs e.symm)
      simp only [h1, h2, Bool.false_eq_true, if_false]
      exact find_isDiscKey disc h0

theorem lookup_find_disc (disc : String) (d : V) (m : List (String × V)) (h : lookupS disc m = some d) :
    (m.map fun (kv : String × V) => (V.str kv.1, kv.2)).find? (isDiscKey disc) = some (V.str disc, d) := by
  rw [find_isDiscKey disc (strKeys_toStrAny m), h]
  rfl

theorem find_lookup_disc (disc : String) (kvs : List (V × V)) (m : List (String × V)) (dk d : V)
    (hs : strKeys? kvs = some m) (hf : kvs.find? (isDiscKey disc) = some (dk, d)) : lookupS disc m = some d := by
  rw [find_isDiscKey disc hs] at hf
  cases hl : lookupS disc m <;> rw [hl] at hf <;> cases hf
  rfl

theorem find_disc_append (disc : String) (d : V) (m : List (String × V)) (h : hasKey disc m = false) :
    ((m ++ [(disc, d)]).map fun (kv : String × V) => (V.str kv.1, kv.2)).find? (isDiscKey disc) = some (V.str disc, d) :=
  lookup_find_disc disc d _ (lookupS_append_absent disc d m h)

theorem dupKey_go_iff (kvs : List (V × V)) : ∀ (seen : List Key), seen.Nodup →
    (dupKey.go kvs seen = false ↔ ((kvs.filterMap fun kv => kv.1.key?).reverse ++ seen).Nodup) := by
  induction kvs with
  | nil => intro seen hs; simp [dupKey.go, hs]
  | cons kv rest ih =>
    obtain ⟨k, v⟩ := kv
    intro seen hs
    simp only [dupKey.go]
    cases hk : k.key? with
    | none =>
      simp only [List.filterMap_cons, hk]
      exact ih seen hs
    | some key =>
      simp only [List.filterMap_cons, hk, List.reverse_cons, List.append_assoc, List.singleton_append]
      by_cases hc : seen.contains key = true
      · simp only [hc, if_true]
        constructor
        · intro h; exact absurd h (by simp)
        · intro hnd
          exfalso
          have hmem : key ∈ seen := by simpa using hc
          have := (List.nodup_append.mp hnd).2.1
          exact (List.nodup_cons.mp this).1 hmem
      · have hnm : key ∉ seen := by simpa using hc
        have hc' : seen.contains key = false := by simpa using hc
        simp only [hc', Bool.false_eq_true, if_false]
        exact ih (key :: seen) (List.nodup_cons.mpr ⟨hnm, hs⟩)

theorem dupKey_false_iff (kvs : List (V × V)) :
    dupKey kvs = false ↔ (kvs.filterMap fun kv => kv.1.key?).Nodup := by
  unfold dupKey
  rw [dupKey_go_iff kvs [] List.nodup_nil]
  simp only [List.append_nil]
  exact (List.reverse_perm _).nodup_iff

end Arca
