import ArcaModel.Lemmas.Traverse
/-
  Equality of Go values up to the order of map entries AT EVERY DEPTH (`V.PermEq`), and the
  machinery to transport it through the schema operations (C12, deep order independence).

  A Go map is modelled as an association list whose order stands for Go's randomised iteration
  order. `v ≈ v'` (`V.PermEq v v'`) says: `v'` is `v` with the entries of every map, at every
  depth, visited in some other order. Lists keep their order; scalars, `bytes`, `named` wrappers are
  structural.
-/
namespace Arca

theorem Forall2.imp_mem {α β} {R S : α → β → Prop} {as : List α} {bs : List β}
    (h : Forall2 R as bs) (hi : ∀ a b, a ∈ as → R a b → S a b) : Forall2 S as bs := by
  induction h with
  | nil => exact .nil
  | cons hab _ ih =>
    exact .cons (hi _ _ (List.mem_cons_self ..) hab) (ih fun a b ha => hi a b (List.mem_cons_of_mem _ ha))

theorem Forall2.flipR {α β} {R : α → β → Prop} {S : β → α → Prop} {as : List α} {bs : List β}
    (h : Forall2 R as bs) (hi : ∀ a b, R a b → S b a) : Forall2 S bs as := by
  induction h with
  | nil => exact .nil
  | cons hab _ ih => exact .cons (hi _ _ hab) ih

theorem Forall2.comp {α β γ} {R : α → β → Prop} {S : β → γ → Prop} {T : α → γ → Prop}
    {as : List α} {bs : List β} {cs : List γ}
    (h1 : Forall2 R as bs) (h2 : Forall2 S bs cs) (hi : ∀ a b c, R a b → S b c → T a c) : Forall2 T as cs := by
  induction h1 generalizing cs with
  | nil => cases h2; exact .nil
  | cons hab _ ih =>
    cases h2 with
    | cons hbc hrest => exact .cons (hi _ _ _ hab hbc) (ih hrest)

theorem Forall2.append_inv {α β} {R : α → β → Prop} : ∀ {as1 as2 : List α} {bs : List β},
    Forall2 R (as1 ++ as2) bs → ∃ bs1 bs2, bs = bs1 ++ bs2 ∧ Forall2 R as1 bs1 ∧ Forall2 R as2 bs2
  | [], _, bs, h => ⟨[], bs, rfl, .nil, h⟩
  | a :: as1, as2, bs, h => by
    cases h with
    | cons hab hrest =>
      obtain ⟨b1, b2, rfl, h1, h2⟩ := Forall2.append_inv hrest
      exact ⟨_ :: b1, b2, rfl, .cons hab h1, h2⟩

theorem Forall2.permL {α β} {R : α → β → Prop} {as as' : List α} {bs : List β}
    (h : Forall2 R as bs) (hp : as.Perm as') : ∃ bs', Forall2 R as' bs' ∧ bs.Perm bs' := by
  induction hp generalizing bs with
  | nil => cases h; exact ⟨[], .nil, .nil⟩
  | cons a _ ih =>
    cases h with
    | cons hab hrest =>
      obtain ⟨bs', h1, h2⟩ := ih hrest
      exact ⟨_ :: bs', .cons hab h1, .cons _ h2⟩
  | swap a a' l =>
    cases h with
    | cons h1 hrest =>
      cases hrest with
      | cons h2 hrest' => exact ⟨_ :: _ :: _, .cons h2 (.cons h1 hrest'), .swap _ _ _⟩
  | trans _ _ ih1 ih2 =>
    obtain ⟨bs1, h1, p1⟩ := ih1 h
    obtain ⟨bs2, h2, p2⟩ := ih2 h1
    exact ⟨bs2, h2, p1.trans p2⟩

theorem Forall2.permR {α β} {R : α → β → Prop} {as : List α} {bs bs' : List β}
    (h : Forall2 R as bs) (hp : bs.Perm bs') : ∃ as', as.Perm as' ∧ Forall2 R as' bs' := by
  have h' : Forall2 (fun b a => R a b) bs as := h.flipR (fun _ _ x => x)
  obtain ⟨as', h1, h2⟩ := h'.permL hp
  exact ⟨as', h2, h1.flipR (fun _ _ x => x)⟩

theorem Forall2.filterMap_eq {α β γ} {R : α → β → Prop} {f : α → Option γ} {g : β → Option γ}
    {as : List α} {bs : List β} (h : Forall2 R as bs) (hfg : ∀ a b, R a b → f a = g b) :
    as.filterMap f = bs.filterMap g := by
  induction h with
  | nil => rfl
  | cons hab _ ih => simp only [List.filterMap_cons, hfg _ _ hab, ih]

theorem Forall2.any_eq {α β} {R : α → β → Prop} {p : α → Bool} {q : β → Bool}
    {as : List α} {bs : List β} (h : Forall2 R as bs) (hpq : ∀ a b, R a b → p a = q b) :
    as.any p = bs.any q := by
  induction h with
  | nil => rfl
  | cons hab _ ih => simp only [List.any_cons, hpq _ _ hab, ih]

def PermRel {α β} (R : α → β → Prop) (as : List α) (bs : List β) : Prop :=
  ∃ mid, Forall2 R as mid ∧ mid.Perm bs

theorem PermRel.nil {α β} {R : α → β → Prop} : PermRel R ([] : List α) ([] : List β) := ⟨[], .nil, .nil⟩

theorem PermRel.of_forall2 {α β} {R : α → β → Prop} {as : List α} {bs : List β} (h : Forall2 R as bs) :
    PermRel R as bs := ⟨bs, h, .refl _⟩

theorem PermRel.refl {α} {R : α → α → Prop} (h : ∀ a, R a a) (as : List α) : PermRel R as as :=
  .of_forall2 (Forall2.refl h as)

theorem PermRel.of_perm {α} {R : α → α → Prop} (h : ∀ a, R a a) {as bs : List α} (hp : as.Perm bs) :
    PermRel R as bs := ⟨as, Forall2.refl h as, hp⟩

theorem PermRel.imp_mem {α β} {R S : α → β → Prop} {as : List α} {bs : List β}
    (h : PermRel R as bs) (hi : ∀ a b, a ∈ as → R a b → S a b) : PermRel S as bs := by
  obtain ⟨mid, h1, h2⟩ := h
  exact ⟨mid, h1.imp_mem hi, h2⟩

theorem PermRel.permR {α β} {R : α → β → Prop} {as : List α} {bs bs' : List β}
    (h : PermRel R as bs) (hp : bs.Perm bs') : PermRel R as bs' := by
  obtain ⟨mid, h1, h2⟩ := h
  exact ⟨mid, h1, h2.trans hp⟩

theorem PermRel.permL {α β} {R : α → β → Prop} {as as' : List α} {bs : List β}
    (h : PermRel R as bs) (hp : as.Perm as') : PermRel R as' bs := by
  obtain ⟨mid, h1, h2⟩ := h
  obtain ⟨mid', h3, h4⟩ := h1.permL hp
  exact ⟨mid', h3, h4.symm.trans h2⟩

theorem PermRel.flip {α β} {R : α → β → Prop} {S : β → α → Prop} {as : List α} {bs : List β}
    (h : PermRel R as bs) (hi : ∀ a b, R a b → S b a) : PermRel S bs as := by
  obtain ⟨mid, h1, h2⟩ := h
  obtain ⟨as', h3, h4⟩ := h1.permR h2
  exact ⟨as', h4.flipR hi, h3.symm⟩

theorem PermRel.comp {α β γ} {R : α → β → Prop} {S : β → γ → Prop} {T : α → γ → Prop}
    {as : List α} {bs : List β} {cs : List γ}
    (h1 : PermRel R as bs) (h2 : PermRel S bs cs) (hi : ∀ a b c, R a b → S b c → T a c) : PermRel T as cs := by
  obtain ⟨m1, f1, p1⟩ := h1
  obtain ⟨m2, f2, p2⟩ := h2
  obtain ⟨m2', f3, p3⟩ := f2.permL p1.symm
  exact ⟨m2', f1.comp f3 hi, p3.symm.trans p2⟩

theorem PermRel.cons {α β} {R : α → β → Prop} {a : α} {b : β} {as : List α} {bs : List β}
    (hab : R a b) (h : PermRel R as bs) : PermRel R (a :: as) (b :: bs) := by
  obtain ⟨mid, h1, h2⟩ := h
  exact ⟨b :: mid, .cons hab h1, .cons _ h2⟩

theorem PermRel.append {α β} {R : α → β → Prop} {as1 as2 : List α} {bs1 bs2 : List β}
    (h1 : PermRel R as1 bs1) (h2 : PermRel R as2 bs2) : PermRel R (as1 ++ as2) (bs1 ++ bs2) := by
  obtain ⟨m1, f1, p1⟩ := h1
  obtain ⟨m2, f2, p2⟩ := h2
  exact ⟨m1 ++ m2, f1.append f2, p1.append p2⟩

theorem PermRel.cons_middle {α β} {R : α → β → Prop} {a : α} {b : β} {as : List α} {pre post : List β}
    (hab : R a b) (h : PermRel R as (pre ++ post)) : PermRel R (a :: as) (pre ++ b :: post) :=
  (PermRel.cons hab h).permR List.perm_middle.symm

/-- induction on the left list: its head is related to an element somewhere in the right list -/
theorem PermRel.ind {α β} {R : α → β → Prop} {motive : List α → List β → Prop} (nil : motive [] [])
    (cons : ∀ {a b as pre post}, R a b → PermRel R as (pre ++ post) → motive as (pre ++ post) →
      motive (a :: as) (pre ++ b :: post)) : ∀ {as bs}, PermRel R as bs → motive as bs
  | [], _, ⟨_, .nil, p⟩ => by rw [p.symm.eq_nil]; exact nil
  | a :: as, bs, ⟨_, .cons hab hrest, p⟩ => by
    obtain ⟨pre, post, rfl⟩ := List.append_of_mem (p.mem_iff.mp (List.mem_cons_self ..))
    have h : PermRel R as (pre ++ post) := ⟨_, hrest, (p.trans List.perm_middle).cons_inv⟩
    exact cons hab h (PermRel.ind nil cons h)

theorem PermRel.length_eq {α β} {R : α → β → Prop} {as : List α} {bs : List β} (h : PermRel R as bs) :
    as.length = bs.length := by
  obtain ⟨mid, h1, h2⟩ := h
  rw [h1.length_eq, h2.length_eq]

theorem PermRel.filterMap_perm {α β γ} {R : α → β → Prop} {f : α → Option γ} {g : β → Option γ}
    {as : List α} {bs : List β} (h : PermRel R as bs) (hfg : ∀ a b, R a b → f a = g b) :
    (as.filterMap f).Perm (bs.filterMap g) := by
  obtain ⟨mid, h1, h2⟩ := h
  rw [h1.filterMap_eq hfg]
  exact h2.filterMap g

theorem PermRel.any_eq {α β} {R : α → β → Prop} {p : α → Bool} {q : β → Bool}
    {as : List α} {bs : List β} (h : PermRel R as bs) (hpq : ∀ a b, R a b → p a = q b) :
    as.any p = bs.any q := by
  obtain ⟨mid, h1, h2⟩ := h
  rw [h1.any_eq hpq, h2.any_eq]

theorem Forall2.mem_left {α β} {R : α → β → Prop} {as : List α} {bs : List β} (h : Forall2 R as bs) {a : α}
    (ha : a ∈ as) : ∃ b, b ∈ bs ∧ R a b := by
  induction h with
  | nil => cases ha
  | @cons a' b' _ _ hab _ ih =>
    cases ha with
    | head => exact ⟨b', List.mem_cons_self .., hab⟩
    | tail _ hm => obtain ⟨b, hb, hr⟩ := ih hm; exact ⟨b, List.mem_cons_of_mem _ hb, hr⟩

theorem PermRel.mem_left {α β} {R : α → β → Prop} {as : List α} {bs : List β} (h : PermRel R as bs) {a : α}
    (ha : a ∈ as) : ∃ b, b ∈ bs ∧ R a b := by
  obtain ⟨mid, h1, h2⟩ := h
  obtain ⟨b, hb, hr⟩ := h1.mem_left ha
  exact ⟨b, h2.mem_iff.mp hb, hr⟩

theorem Forall2.map_eq {α β γ} {R : α → β → Prop} {f : α → γ} {g : β → γ}
    {as : List α} {bs : List β} (h : Forall2 R as bs) (hfg : ∀ a b, R a b → f a = g b) :
    as.map f = bs.map g := by
  induction h with
  | nil => rfl
  | cons hab _ ih => simp only [List.map_cons, hfg _ _ hab, ih]

theorem PermRel.map_perm {α β γ} {R : α → β → Prop} {f : α → γ} {g : β → γ}
    {as : List α} {bs : List β} (h : PermRel R as bs) (hfg : ∀ a b, R a b → f a = g b) :
    (as.map f).Perm (bs.map g) := by
  obtain ⟨mid, h1, h2⟩ := h
  rw [h1.map_eq hfg]
  exact h2.map g

theorem Forall2.filter {α β} {R : α → β → Prop} {p : α → Bool} {q : β → Bool}
    {as : List α} {bs : List β} (h : Forall2 R as bs) (hpq : ∀ a b, R a b → p a = q b) :
    Forall2 R (as.filter p) (bs.filter q) := by
  induction h with
  | nil => exact .nil
  | @cons a b _ _ hab _ ih =>
    simp only [List.filter_cons, hpq _ _ hab]
    cases q b
    · exact ih
    · exact .cons hab ih

theorem PermRel.filter {α β} {R : α → β → Prop} {p : α → Bool} {q : β → Bool}
    {as : List α} {bs : List β} (h : PermRel R as bs) (hpq : ∀ a b, R a b → p a = q b) :
    PermRel R (as.filter p) (bs.filter q) := by
  obtain ⟨mid, h1, h2⟩ := h
  exact ⟨mid.filter q, h1.filter hpq, h2.filter q⟩

theorem PermRel.map {α β γ δ} {R : α → β → Prop} {S : γ → δ → Prop} {f : α → γ} {g : β → δ}
    {as : List α} {bs : List β} (h : PermRel R as bs) (hfg : ∀ a b, R a b → S (f a) (g b)) :
    PermRel S (as.map f) (bs.map g) := by
  obtain ⟨mid, h1, h2⟩ := h
  refine ⟨mid.map g, ?_, h2.map g⟩
  clear h2
  induction h1 with
  | nil => exact .nil
  | cons hab _ ih => exact .cons (hfg _ _ hab) ih

def ORel {α β} (R : α → β → Prop) : Option α → Option β → Prop
  | some a, some b => R a b
  | none, none => True
  | _, _ => False

@[simp] theorem ORel.none_none {α β} {R : α → β → Prop} : ORel R (none : Option α) (none : Option β) := trivial

theorem ORel.cases {α β} {R : α → β → Prop} : ∀ {a : Option α} {b : Option β}, ORel R a b →
    (a = none ∧ b = none) ∨ ∃ x y, a = some x ∧ b = some y ∧ R x y
  | some x, some y, h => .inr ⟨x, y, rfl, rfl, h⟩
  | none, none, _ => .inl ⟨rfl, rfl⟩
  | some _, none, h => h.elim
  | none, some _, h => h.elim

theorem ORel.rfl' {α} {R : α → α → Prop} (hr : ∀ a, R a a) : ∀ (a : Option α), ORel R a a
  | some a => hr a
  | none => trivial

theorem ORel.isSome_eq {α β} {R : α → β → Prop} {a : Option α} {b : Option β} (h : ORel R a b) :
    a.isSome = b.isSome := by
  rcases h.cases with ⟨rfl, rfl⟩ | ⟨_, _, rfl, rfl, _⟩ <;> rfl

theorem ORel.eq {α} : ∀ {a b : Option α}, ORel Eq a b → a = b
  | some _, some _, h => congrArg some h
  | none, none, _ => rfl
  | some _, none, h => h.elim
  | none, some _, h => h.elim

/-! ### lookups in association lists with distinct keys do not depend on the order -/

section lookup
variable {κ α β} [BEq κ] [LawfulBEq κ]

theorem lookup_permRel {S : α → β → Prop} {m : List (κ × α)} {m' : List (κ × β)}
    (h : PermRel (fun a b => a.1 = b.1 ∧ S a.2 b.2) m m') (hnd : (m.map Prod.fst).Nodup) (k : κ) :
    ORel S (m.lookup k) (m'.lookup k) := by
  have hkeys : (m.map Prod.fst).Perm (m'.map Prod.fst) := h.map_perm fun _ _ hab => hab.1
  cases h1 : m.lookup k with
  | none =>
    rw [lookup_none_iff.mpr fun hm => lookup_none_iff.mp h1 (hkeys.mem_iff.mpr hm)]
    trivial
  | some a =>
    obtain ⟨⟨_, b⟩, hb, ⟨⟩, hv⟩ := h.mem_left (mem_of_lookup h1)
    rw [lookup_of_mem (hkeys.nodup_iff.mp hnd) hb]
    exact hv

end lookup

theorem lookupS_permRel {α β} {S : α → β → Prop} {m : List (String × α)} {m' : List (String × β)}
    (h : PermRel (fun a b => a.1 = b.1 ∧ S a.2 b.2) m m') (hnd : (m.map Prod.fst).Nodup) (k : String) :
    ORel S (lookupS k m) (lookupS k m') := by
  rw [lookupS_eq_lookup, lookupS_eq_lookup]
  exact lookup_permRel h hnd k

theorem lookupK_permRel {α β} {S : α → β → Prop} {m : List (Key × α)} {m' : List (Key × β)}
    (h : PermRel (fun a b => a.1 = b.1 ∧ S a.2 b.2) m m') (hnd : (m.map Prod.fst).Nodup) (k : Key) :
    ORel S (lookupK k m) (lookupK k m') := by
  rw [lookupK_eq_lookup, lookupK_eq_lookup]
  exact lookup_permRel h hnd k

/-- `V.PermEq v w`: `v` and `w` are the same Go value up to the order of map entries at every depth.
    The list-level companions are encoded in the `.list` / `.map` wrappers (`listCons`, `mapCons`);
    `mapCons` says that the first entry of the left map occurs, up to `PermEq`, somewhere in the
    right map, and the remaining entries are related. See `V.permEq_list_iff`, `V.permEq_map_iff`
    for the companions as `Forall2` / `PermRel`. -/
inductive V.PermEq : V → V → Prop
  | nil : V.PermEq .nil .nil
  | bool (b : Bool) : V.PermEq (.bool b) (.bool b)
  | int (k : IKind) (n : Int) : V.PermEq (.int k n) (.int k n)
  | float (k : FKind) (b : Nat) : V.PermEq (.float k b) (.float k b)
  | str (s : String) : V.PermEq (.str s) (.str s)
  | bytes (b : List Nat) : V.PermEq (.bytes b) (.bytes b)
  | regex (s : String) : V.PermEq (.regex s) (.regex s)
  | opaque : V.PermEq .opaque .opaque
  | named {v w : V} : V.PermEq v w → V.PermEq (.named v) (.named w)
  | listNil : V.PermEq (.list []) (.list [])
  | listCons {x y : V} {xs ys : List V} :
      V.PermEq x y → V.PermEq (.list xs) (.list ys) → V.PermEq (.list (x :: xs)) (.list (y :: ys))
  | mapNil (sh : MapShape) : V.PermEq (.map sh []) (.map sh [])
  | mapCons {sh : MapShape} {k v k' v' : V} {rest pre post : List (V × V)} :
      V.PermEq k k' → V.PermEq v v' → V.PermEq (.map sh rest) (.map sh (pre ++ post)) →
      V.PermEq (.map sh ((k, v) :: rest)) (.map sh (pre ++ (k', v') :: post))

@[inherit_doc] infix:50 " ≈ᵥ " => V.PermEq

def EntryEq (a b : V × V) : Prop := a.1 ≈ᵥ b.1 ∧ a.2 ≈ᵥ b.2

abbrev MapEq (kvs kvs' : List (V × V)) : Prop := PermRel EntryEq kvs kvs'

abbrev ListEq (xs ys : List V) : Prop := Forall2 V.PermEq xs ys

theorem V.permEq_list_of {xs ys : List V} (h : ListEq xs ys) : V.list xs ≈ᵥ V.list ys := by
  induction h with
  | nil => exact .listNil
  | cons hab _ ih => exact .listCons hab ih

theorem V.permEq_map_of {sh : MapShape} {kvs kvs' : List (V × V)} (h : MapEq kvs kvs') :
    V.map sh kvs ≈ᵥ V.map sh kvs' :=
  PermRel.ind (motive := fun a b => V.map sh a ≈ᵥ V.map sh b) (.mapNil sh)
    (fun hab _ ih => .mapCons hab.1 hab.2 ih) h

/-- by the recursor of `V`: the nested lists have motives of their own (related element by element) -/
theorem V.PermEq.refl : ∀ (v : V), v ≈ᵥ v :=
  V.rec (motive_1 := fun v => v ≈ᵥ v) (motive_2 := fun xs => ListEq xs xs)
    (motive_3 := fun kvs => Forall2 EntryEq kvs kvs) (motive_4 := fun kv => EntryEq kv kv)
    .nil .bool .int .float .str .bytes (fun _ ih => V.permEq_list_of ih)
    (fun _ _ ih => V.permEq_map_of (.of_forall2 ih)) (fun _ ih => .named ih) .regex .opaque
    .nil (fun _ _ h t => .cons h t) .nil (fun _ _ h t => .cons h t) (fun _ _ hk hv => ⟨hk, hv⟩)

theorem ListEq.refl (xs : List V) : ListEq xs xs := Forall2.refl V.PermEq.refl xs
theorem EntryEq.refl (a : V × V) : EntryEq a a := ⟨.refl _, .refl _⟩
theorem MapEq.refl (kvs : List (V × V)) : MapEq kvs kvs := PermRel.refl EntryEq.refl kvs
theorem MapEq.of_perm {kvs kvs' : List (V × V)} (h : kvs.Perm kvs') : MapEq kvs kvs' := PermRel.of_perm EntryEq.refl h

theorem V.PermEq.sliceElems {v w : V} (h : v ≈ᵥ w) : ORel ListEq v.sliceElems? w.sliceElems? := by
  induction h with
  | bytes b => exact ListEq.refl _
  | listNil => exact .nil
  | listCons hxy _ _ ih => exact .cons hxy ih
  | _ => trivial

theorem V.PermEq.mapEntries {v w : V} (h : v ≈ᵥ w) :
    ORel (fun a b => a.1 = b.1 ∧ MapEq a.2 b.2) v.mapEntries? w.mapEntries? := by
  induction h with
  | mapNil sh => exact ⟨rfl, .nil⟩
  | mapCons hk hv _ _ _ ih => exact ⟨rfl, .cons_middle ⟨hk, hv⟩ ih.2⟩
  | _ => trivial

theorem V.permEq_list_iff {xs ys : List V} : V.list xs ≈ᵥ V.list ys ↔ ListEq xs ys :=
  ⟨fun h => h.sliceElems, V.permEq_list_of⟩

theorem V.permEq_map_iff {sh sh' : MapShape} {kvs kvs' : List (V × V)} :
    V.map sh kvs ≈ᵥ V.map sh' kvs' ↔ sh = sh' ∧ MapEq kvs kvs' :=
  ⟨fun h => h.mapEntries, fun ⟨e, h⟩ => e ▸ V.permEq_map_of h⟩

theorem V.permEq_list_inv {xs : List V} {w : V} (h : V.list xs ≈ᵥ w) : ∃ ys, w = .list ys ∧ ListEq xs ys := by
  cases h with
  | listNil => exact ⟨[], rfl, .nil⟩
  | listCons a b => exact ⟨_, rfl, .cons a (V.permEq_list_iff.mp b)⟩

theorem V.permEq_map_inv {sh : MapShape} {kvs : List (V × V)} {w : V} (h : V.map sh kvs ≈ᵥ w) :
    ∃ kvs', w = .map sh kvs' ∧ MapEq kvs kvs' := by
  cases w with
  | map sh' kvs' => obtain ⟨rfl, hm⟩ := V.permEq_map_iff.mp h; exact ⟨_, rfl, hm⟩
  | _ => exact h.mapEntries.elim

theorem V.permEq_of_perm {sh : MapShape} {kvs kvs' : List (V × V)} (h : kvs.Perm kvs') :
    V.map sh kvs ≈ᵥ V.map sh kvs' := V.permEq_map_of (MapEq.of_perm h)

theorem V.PermEq.symm {v w : V} (h : v ≈ᵥ w) : w ≈ᵥ v := by
  induction h with
  | named _ ih => exact .named ih
  | listCons _ _ ih1 ih2 => exact .listCons ih1 ih2
  | @mapCons sh k v k' v' rest pre post _ _ _ ihk ihv ihr =>
    -- `pre ++ post` relates to `rest`; re-insert the entry on both sides
    obtain ⟨mid, f, p⟩ := (V.permEq_map_iff.mp ihr).2
    obtain ⟨m1, m2, rfl, f1, f2⟩ := f.append_inv
    exact V.permEq_map_of ⟨m1 ++ (k, v) :: m2, f1.append (.cons ⟨ihk, ihv⟩ f2),
      List.perm_middle.trans (p.cons _)⟩
  | _ => constructor

theorem V.PermEq.trans {u v w : V} (h1 : u ≈ᵥ v) (h2 : v ≈ᵥ w) : u ≈ᵥ w := by
  induction h1 generalizing w with
  | named _ ih =>
    cases h2 with
    | named h2' => exact .named (ih h2')
  | listCons _ _ ih1 ih2 =>
    cases h2 with
    | listCons a b => exact .listCons (ih1 a) (ih2 b)
  | @mapCons sh k v k' v' rest pre post _ _ _ ihk ihv ihr =>
    obtain ⟨cs, rfl, mid, f, p⟩ := V.permEq_map_inv h2
    obtain ⟨m1, _, rfl, f1, f2'⟩ := f.append_inv
    cases f2' with
    | cons hab f2 =>
      obtain ⟨mid', f', p'⟩ := (V.permEq_map_iff.mp (ihr (V.permEq_map_of (.of_forall2 (f1.append f2))))).2
      exact V.permEq_map_of ⟨_ :: mid', .cons ⟨ihk hab.1, ihv hab.2⟩ f',
        ((p'.cons _).trans List.perm_middle.symm).trans p⟩
  | _ => exact h2

theorem EntryEq.symm {a b : V × V} (h : EntryEq a b) : EntryEq b a := ⟨h.1.symm, h.2.symm⟩
theorem EntryEq.trans {a b c : V × V} (h1 : EntryEq a b) (h2 : EntryEq b c) : EntryEq a c :=
  ⟨h1.1.trans h2.1, h1.2.trans h2.2⟩
theorem MapEq.symm {a b : List (V × V)} (h : MapEq a b) : MapEq b a := PermRel.flip h (fun _ _ => EntryEq.symm)
theorem MapEq.trans {a b c : List (V × V)} (h1 : MapEq a b) (h2 : MapEq b c) : MapEq a c :=
  PermRel.comp h1 h2 (fun _ _ _ => EntryEq.trans)

/-! ### outcomes related up to a relation on the results

`Out.Rel R o o'`: both calls succeed with `R`-related results, or neither succeeds. (WHICH failure
is reported - error, panic, budget - is not compared here: a traversal stops at the first entry
that fails, and which one is first depends on the order.) -/

def Out.Rel {α β} (R : α → β → Prop) : Out α → Out β → Prop
  | .ok a, .ok b => R a b
  | .ok _, _ => False
  | _, .ok _ => False
  | _, _ => True

namespace Out.Rel
variable {α β γ δ : Type} {R : α → β → Prop}

@[simp] theorem ok_ok {a : α} {b : β} : Out.Rel R (.ok a) (.ok b) ↔ R a b := Iff.rfl
@[simp] theorem err_err {e e' : Err} : Out.Rel R (.err e : Out α) (.err e' : Out β) := trivial
@[simp] theorem panic_panic : Out.Rel R (.panic : Out α) (.panic : Out β) := trivial
@[simp] theorem fuel_fuel : Out.Rel R (.fuel : Out α) (.fuel : Out β) := trivial
@[simp] theorem cerr_cerr : Out.Rel R (Out.cerr : Out α) (Out.cerr : Out β) := trivial
@[simp] theorem plain_plain : Out.Rel R (Out.plain : Out α) (Out.plain : Out β) := trivial

theorem of_eq {R : α → α → Prop} (hr : ∀ a, R a a) {o o' : Out α} (h : o = o') : Out.Rel R o o' := by
  subst h; cases o <;> simp [hr]

theorem rfl' {R : α → α → Prop} (hr : ∀ a, R a a) (o : Out α) : Out.Rel R o o := of_eq hr rfl

theorem of_ok {o : Out α} {o' : Out β} (h1 : ∀ a, o = .ok a → ∃ b, o' = .ok b ∧ R a b)
    (h2 : ∀ b, o' = .ok b → ∃ a, o = .ok a) : Out.Rel R o o' := by
  cases o with
  | ok a => obtain ⟨b, rfl, hab⟩ := h1 a rfl; exact hab
  | _ =>
    cases o' with
    | ok b => obtain ⟨a, ha⟩ := h2 b rfl; cases ha
    | _ => trivial

theorem ok_left {o : Out α} {o' : Out β} (h : Out.Rel R o o') {a : α} (ha : o = .ok a) : ∃ b, o' = .ok b ∧ R a b := by
  subst ha; cases o' <;> simp_all [Out.Rel]

theorem ok_right {o : Out α} {o' : Out β} (h : Out.Rel R o o') {b : β} (hb : o' = .ok b) : ∃ a, o = .ok a ∧ R a b := by
  subst hb; cases o <;> simp_all [Out.Rel]

theorem imp {S : α → β → Prop} {o : Out α} {o' : Out β} (h : Out.Rel R o o') (hi : ∀ a b, R a b → S a b) :
    Out.Rel S o o' :=
  of_ok (fun _ ha => (h.ok_left ha).imp fun _ hb => ⟨hb.1, hi _ _ hb.2⟩) (fun _ hb => (h.ok_right hb).imp fun _ ha => ha.1)

theorem flip {S : β → α → Prop} {o : Out α} {o' : Out β} (h : Out.Rel R o o') (hi : ∀ a b, R a b → S b a) :
    Out.Rel S o' o :=
  of_ok (fun _ hb => (h.ok_right hb).imp fun _ ha => ⟨ha.1, hi _ _ ha.2⟩) (fun _ ha => (h.ok_left ha).imp fun _ hb => hb.1)

theorem comp {S : β → γ → Prop} {T : α → γ → Prop} {o1 : Out α} {o2 : Out β} {o3 : Out γ}
    (h1 : Out.Rel R o1 o2) (h2 : Out.Rel S o2 o3) (hi : ∀ a b c, R a b → S b c → T a c) : Out.Rel T o1 o3 := by
  refine of_ok (fun a ha => ?_) (fun c hc => ?_)
  · obtain ⟨b, hb, hab⟩ := h1.ok_left ha
    obtain ⟨c, hc, hbc⟩ := h2.ok_left hb
    exact ⟨c, hc, hi a b c hab hbc⟩
  · obtain ⟨b, hb, _⟩ := h2.ok_right hc
    obtain ⟨a, ha, _⟩ := h1.ok_right hb
    exact ⟨a, ha⟩

theorem bind' {S : γ → δ → Prop} {o : Out α} {o' : Out β} {f : α → Out γ} {g : β → Out δ} (h : Out.Rel R o o')
    (hfg : ∀ a b, o = .ok a → o' = .ok b → R a b → Out.Rel S (f a) (g b)) : Out.Rel S (o.bind f) (o'.bind g) := by
  cases o with
  | ok a =>
    cases o' with
    | ok b => exact hfg a b rfl rfl h
    | _ => exact False.elim h
  | _ =>
    cases o' with
    | ok b => exact False.elim h
    | _ => trivial

theorem bind {S : γ → δ → Prop} {o : Out α} {o' : Out β} {f : α → Out γ} {g : β → Out δ}
    (h : Out.Rel R o o') (hfg : ∀ a b, R a b → Out.Rel S (f a) (g b)) : Out.Rel S (o.bind f) (o'.bind g) :=
  h.bind' fun a b _ _ => hfg a b

theorem ite {c : Prop} [Decidable c] {a b : Out α} {a' b' : Out β} (ha : c → Out.Rel R a a')
    (hb : ¬c → Out.Rel R b b') : Out.Rel R (if c then a else b) (if c then a' else b') := by
  split
  · exact ha ‹_›
  · exact hb ‹_›

theorem addSeg {o : Out α} {o' : Out β} (s s' : String) (h : Out.Rel R o o') :
    Out.Rel R (o.addSeg s) (o'.addSeg s') := by
  cases o <;> cases o' <;> simp_all [Out.Rel, Out.addSeg]

theorem rewrapC {o : Out α} {o' : Out β} (h : Out.Rel R o o') : Out.Rel R (Arca.rewrapC o) (Arca.rewrapC o') := by
  cases o <;> cases o' <;> simp_all [Out.Rel, Arca.rewrapC, Out.cerr]

theorem rewrapP {o : Out α} {o' : Out β} (h : Out.Rel R o o') : Out.Rel R (Arca.rewrapP o) (Arca.rewrapP o') := by
  cases o <;> cases o' <;> simp_all [Out.Rel, Arca.rewrapP, Out.plain]

theorem isOk_eq {o : Out α} {o' : Out β} (h : Out.Rel R o o') : o.isOk = o'.isOk := by
  cases o <;> cases o' <;> simp_all [Out.Rel, Out.isOk]

theorem unpack {o : Out α} {o' : Out β} (h : Out.Rel R o o') :
    (∀ a, o = .ok a → ∃ b, o' = .ok b ∧ R a b) ∧ (∀ b, o' = .ok b → ∃ a, o = .ok a ∧ R a b) ∧
      ((∀ a, o ≠ .ok a) ↔ (∀ b, o' ≠ .ok b)) := by
  refine ⟨fun _ => h.ok_left, fun _ => h.ok_right, fun hno b hb => ?_, fun hno a ha => ?_⟩
  · obtain ⟨a, ha, _⟩ := h.ok_right hb
    exact hno a ha
  · obtain ⟨b, hb, _⟩ := h.ok_left ha
    exact hno b hb

end Out.Rel

theorem forIdx_rel {R S : V → V → Prop} {f g : Nat → V → Out V}
    (hfg : ∀ i x y, R x y → Out.Rel S (f i x) (g i y)) {xs ys : List V} (h : Forall2 R xs ys) :
    ∀ i, Out.Rel (Forall2 S) (forIdx f i xs) (forIdx g i ys) := by
  induction h with
  | nil => exact fun _ => Out.Rel.ok_ok.mpr .nil
  | cons hab _ ih =>
    intro i
    rw [forIdx_cons, forIdx_cons]
    exact (hfg i _ _ hab).bind fun _ _ h1 => (ih (i + 1)).bind fun _ _ h2 => Out.Rel.ok_ok.mpr (.cons h1 h2)

theorem forKV_rel {R S : V × V → V × V → Prop} {f g : V → V → Out (V × V)}
    (hfg : ∀ a b, R a b → Out.Rel S (f a.1 a.2) (g b.1 b.2)) {kvs kvs' : List (V × V)} (h : Forall2 R kvs kvs') :
    Out.Rel (Forall2 S) (forKV f kvs) (forKV g kvs') := by
  induction h with
  | nil => exact Out.Rel.ok_ok.mpr .nil
  | cons hab _ ih =>
    rw [forKV_cons, forKV_cons]
    exact (hfg _ _ hab).bind fun _ _ h1 => ih.bind fun _ _ h2 => Out.Rel.ok_ok.mpr (.cons h1 h2)

theorem forSV_rel {R S : String × V → String × V → Prop} {f g : String → V → Out V}
    (hfg : ∀ a b, R a b → Out.Rel (fun r r' => S (a.1, r) (b.1, r')) (f a.1 a.2) (g b.1 b.2))
    {kvs kvs' : List (String × V)} (h : Forall2 R kvs kvs') :
    Out.Rel (Forall2 S) (forSV f kvs) (forSV g kvs') := by
  induction h with
  | nil => exact Out.Rel.ok_ok.mpr .nil
  | cons hab _ ih =>
    rw [forSV_cons, forSV_cons]
    exact (hfg _ _ hab).bind fun _ _ h1 => ih.bind fun _ _ h2 => Out.Rel.ok_ok.mpr (.cons h1 h2)

theorem allKV_iff_forall2 {f : V → V → Out (V × V)} {kvs es : List (V × V)} :
    AllKV f kvs es ↔ Forall2 (fun a b => f a.1 a.2 = .ok b) kvs es := by
  constructor
  · intro h; induction h with
    | nil => exact .nil
    | cons h1 _ ih => exact .cons h1 ih
  · intro h; induction h with
    | nil => exact .nil
    | cons h1 _ ih => exact .cons h1 ih

theorem allSV_iff_forall2 {f : String → V → Out V} {kvs es : List (String × V)} :
    AllSV f kvs es ↔ Forall2 (fun a b => b.1 = a.1 ∧ f a.1 a.2 = .ok b.2) kvs es := by
  constructor
  · intro h; induction h with
    | nil => exact .nil
    | cons h1 _ ih => exact .cons ⟨rfl, h1⟩ ih
  · intro h; induction h with
    | nil => exact .nil
    | @cons a b _ _ h1 _ ih =>
      obtain ⟨k, v⟩ := a; obtain ⟨_, v'⟩ := b; obtain ⟨⟨⟩, h1⟩ := h1
      exact .cons h1 ih

/-- a traversal that succeeds exactly when every element does succeeds under every order of the
    elements, with the results reordered alike; it fails under every order if it fails under one -/
theorem Out.Rel.perm_of_ok_iff {α β} {trav : List α → Out (List β)} {P : α → β → Prop}
    (hiff : ∀ {l es}, trav l = .ok es ↔ Forall2 P l es) {l l' : List α} (hp : l.Perm l') :
    Out.Rel List.Perm (trav l) (trav l') := by
  have key : ∀ {a b : List α}, a.Perm b → ∀ es, trav a = .ok es → ∃ es', trav b = .ok es' ∧ es.Perm es' := by
    intro a b hab es h
    obtain ⟨es', h1, h2⟩ := (hiff.mp h).permL hab
    exact ⟨es', hiff.mpr h1, h2⟩
  refine Out.Rel.of_ok (key hp) fun b hb => ?_
  obtain ⟨a, ha, _⟩ := key hp.symm b hb
  exact ⟨a, ha⟩

theorem forKV_perm {f : V → V → Out (V × V)} {kvs kvs' : List (V × V)} (hp : kvs.Perm kvs') :
    Out.Rel List.Perm (forKV f kvs) (forKV f kvs') :=
  Out.Rel.perm_of_ok_iff (trav := forKV f) (forKV_ok_iff.trans allKV_iff_forall2) hp

theorem forSV_perm {f : String → V → Out V} {kvs kvs' : List (String × V)} (hp : kvs.Perm kvs') :
    Out.Rel List.Perm (forSV f kvs) (forSV f kvs') :=
  Out.Rel.perm_of_ok_iff (trav := forSV f) (forSV_ok_iff.trans allSV_iff_forall2) hp

theorem forKV_permRel {R S : V × V → V × V → Prop} {f g : V → V → Out (V × V)}
    (hfg : ∀ a b, R a b → Out.Rel S (f a.1 a.2) (g b.1 b.2)) {kvs kvs' : List (V × V)} (h : PermRel R kvs kvs') :
    Out.Rel (PermRel S) (forKV f kvs) (forKV g kvs') := by
  obtain ⟨mid, h1, h2⟩ := h
  exact (forKV_rel hfg h1).comp (forKV_perm h2) (fun _ b _ hab hbc => ⟨b, hab, hbc⟩)

theorem forSV_permRel {R S : String × V → String × V → Prop} {f g : String → V → Out V}
    (hfg : ∀ a b, R a b → Out.Rel (fun r r' => S (a.1, r) (b.1, r')) (f a.1 a.2) (g b.1 b.2))
    {kvs kvs' : List (String × V)} (h : PermRel R kvs kvs') :
    Out.Rel (PermRel S) (forSV f kvs) (forSV g kvs') := by
  obtain ⟨mid, h1, h2⟩ := h
  exact (forSV_rel hfg h1).comp (forSV_perm h2) (fun _ b _ hab hbc => ⟨b, hab, hbc⟩)

/-! ### scalar views do not see below the top constructor -/

section scalars
variable {v w : V}

theorem V.PermEq.under (h : v ≈ᵥ w) : v.under ≈ᵥ w.under := by
  cases h with
  | named h' => exact h'
  | listNil => exact .listNil
  | listCons a b => exact .listCons a b
  | mapNil sh => exact .mapNil sh
  | mapCons a b c => exact .mapCons a b c
  | _ => constructor

theorem V.PermEq.intInputMapper (u : Option Units) (h : v ≈ᵥ w) : intInputMapper u v = intInputMapper u w := by
  cases h <;> rfl
theorem V.PermEq.floatInputMapper (x : Ext) (u : Option Units) (h : v ≈ᵥ w) :
    floatInputMapper x u v = floatInputMapper x u w := by
  cases h <;> rfl
theorem V.PermEq.stringInputMapper (x : Ext) (h : v ≈ᵥ w) : stringInputMapper x v = stringInputMapper x w := by
  cases h <;> rfl
theorem V.PermEq.boolInputMapper (h : v ≈ᵥ w) : boolInputMapper v = boolInputMapper w := by
  cases h <;> rfl
/-- what looks through a named type at the scalar below sees the same on both sides -/
theorem V.PermEq.views (h : v ≈ᵥ w) :
    asInt v = asInt w ∧ asFloat v = asFloat w ∧ asString v = asString w ∧ asBool v = asBool w ∧
      v.key? = w.key? ∧ kindTag v = kindTag w := by
  cases h with
  | named h' => cases h' <;> exact ⟨rfl, rfl, rfl, rfl, rfl, rfl⟩
  | _ => exact ⟨rfl, rfl, rfl, rfl, rfl, rfl⟩

theorem V.PermEq.asInt (h : v ≈ᵥ w) : asInt v = asInt w := h.views.1
theorem V.PermEq.asFloat (h : v ≈ᵥ w) : asFloat v = asFloat w := h.views.2.1
theorem V.PermEq.asString (h : v ≈ᵥ w) : asString v = asString w := h.views.2.2.1
theorem V.PermEq.asBool (h : v ≈ᵥ w) : asBool v = asBool w := h.views.2.2.2.1
theorem V.PermEq.key? (h : v ≈ᵥ w) : v.key? = w.key? := h.views.2.2.2.2.1
theorem V.PermEq.kindTag (h : v ≈ᵥ w) : kindTag v = kindTag w := h.views.2.2.2.2.2

theorem V.PermEq.runInt (op : Op) (a b : Option Int) (u : Option Units) (h : v ≈ᵥ w) :
    runInt op a b u v = runInt op a b u w := by
  cases op <;> simp only [Arca.runInt, h.intInputMapper, h.asInt]
theorem V.PermEq.runFloat (x : Ext) (op : Op) (a b : Option Nat) (u : Option Units) (h : v ≈ᵥ w) :
    runFloat x op a b u v = runFloat x op a b u w := by
  cases op <;> simp only [Arca.runFloat, h.floatInputMapper, h.asFloat]
theorem V.PermEq.runStr (x : Ext) (op : Op) (a b : Option Int) (p : Option String) (h : v ≈ᵥ w) :
    runStr x op a b p v = runStr x op a b p w := by
  cases op
  case C => cases h <;> rfl
  all_goals simp only [Arca.runStr, h.stringInputMapper, h.asString]
theorem V.PermEq.runBool (op : Op) (h : v ≈ᵥ w) : runBool op v = runBool op w := by
  cases op <;> simp only [Arca.runBool, h.boolInputMapper, h.asBool]
theorem V.PermEq.runPattern (x : Ext) (op : Op) (h : v ≈ᵥ w) : runPattern x op v = runPattern x op w := by
  cases op
  case U => simp only [Arca.runPattern, h.stringInputMapper]
  all_goals (cases h <;> rfl)
theorem V.PermEq.runEnumInt (op : Op) (vals : List Int) (u : Option Units) (h : v ≈ᵥ w) :
    runEnumInt op vals u v = runEnumInt op vals u w := by
  cases op <;> simp only [Arca.runEnumInt, h.intInputMapper, h.asInt]
theorem V.PermEq.runEnumStr (x : Ext) (op : Op) (vals : List String) (h : v ≈ᵥ w) :
    runEnumStr x op vals v = runEnumStr x op vals w := by
  cases op <;> simp only [Arca.runEnumStr, h.stringInputMapper, h.asString]

end scalars

/-! ### duplicate detection sees only the converted keys, as a set -/

theorem dupKey_mapEq {kvs kvs' : List (V × V)} (h : MapEq kvs kvs') : dupKey kvs = dupKey kvs' := by
  have hp : (kvs.filterMap fun kv => kv.1.key?).Perm (kvs'.filterMap fun kv => kv.1.key?) :=
    h.filterMap_perm (fun _ _ hab => hab.1.key?)
  have hiff : dupKey kvs = false ↔ dupKey kvs' = false := by
    rw [dupKey_false_iff, dupKey_false_iff]; exact hp.nodup_iff
  cases h1 : dupKey kvs <;> cases h2 : dupKey kvs' <;> simp_all

def SEntryEq (a b : String × V) : Prop := a.1 = b.1 ∧ a.2 ≈ᵥ b.2

abbrev SMapEq (m m' : List (String × V)) : Prop := PermRel SEntryEq m m'

theorem SEntryEq.refl (a : String × V) : SEntryEq a a := ⟨rfl, .refl _⟩
theorem SMapEq.refl (m : List (String × V)) : SMapEq m m := PermRel.refl SEntryEq.refl m
theorem SMapEq.symm {m m' : List (String × V)} (h : SMapEq m m') : SMapEq m' m :=
  PermRel.flip h (fun _ _ hab => ⟨hab.1.symm, hab.2.symm⟩)

theorem strKeys_iff_forall2 : ∀ {kvs : List (V × V)} {m : List (String × V)},
    strKeys? kvs = some m ↔ Forall2 (fun a b => a.1 = V.str b.1 ∧ a.2 = b.2) kvs m
  | [], m => by
    constructor
    · intro h; simp only [strKeys?, Option.some.injEq] at h; subst h; exact .nil
    · intro h; cases h; rfl
  | (k, v) :: rest, m => by
    constructor
    · intro h
      cases k <;> simp only [strKeys?, Option.map_eq_some_iff, reduceCtorEq] at h
      obtain ⟨m0, h0, rfl⟩ := h
      exact .cons ⟨rfl, rfl⟩ (strKeys_iff_forall2.mp h0)
    · intro h
      cases h with
      | @cons _ b _ m0 hab hrest =>
        obtain ⟨s, v'⟩ := b
        obtain ⟨e1, e2⟩ := hab
        simp only at e1 e2
        subst e1 e2
        simp only [strKeys?, strKeys_iff_forall2.mpr hrest, Option.map_some]

theorem strKeys_perm {kvs kvs' : List (V × V)} (hp : kvs.Perm kvs') {m : List (String × V)}
    (h : strKeys? kvs = some m) : ∃ m', strKeys? kvs' = some m' ∧ m.Perm m' := by
  obtain ⟨m', h1, h2⟩ := (strKeys_iff_forall2.mp h).permL hp
  exact ⟨m', strKeys_iff_forall2.mpr h1, h2⟩

theorem strKeys_forall2 {kvs kvs' : List (V × V)} (hf : Forall2 EntryEq kvs kvs') :
    ∀ {m : List (String × V)}, strKeys? kvs = some m → ∃ m', strKeys? kvs' = some m' ∧ Forall2 SEntryEq m m' := by
  induction hf with
  | nil => intro m h; simp only [strKeys?, Option.some.injEq] at h; subst h; exact ⟨[], rfl, .nil⟩
  | @cons a b as bs hab _ ih =>
    intro m h
    obtain ⟨k, v⟩ := a
    obtain ⟨k', v'⟩ := b
    obtain ⟨hk, hv⟩ := hab
    simp only at hk hv
    cases hk <;> simp only [strKeys?, Option.map_eq_some_iff, reduceCtorEq] at h
    obtain ⟨m0, h0, rfl⟩ := h
    obtain ⟨m0', h0', f0⟩ := ih h0
    exact ⟨(_, v') :: m0', by simp only [strKeys?, h0', Option.map_some], .cons ⟨rfl, hv⟩ f0⟩

theorem strKeys_rel {kvs kvs' : List (V × V)} (h : MapEq kvs kvs') : ORel SMapEq (strKeys? kvs) (strKeys? kvs') := by
  have key : ∀ {a b : List (V × V)}, MapEq a b → ∀ {m}, strKeys? a = some m → ∃ m', strKeys? b = some m' ∧ SMapEq m m' := by
    intro a b ⟨mid, h1, h2⟩ m hm
    obtain ⟨m1, e1, f1⟩ := strKeys_forall2 h1 hm
    obtain ⟨m2, e2, p2⟩ := strKeys_perm h2 e1
    exact ⟨m2, e2, m1, f1, p2⟩
  cases hk : strKeys? kvs with
  | some m => obtain ⟨m', hk', hmm⟩ := key h hk; rw [hk']; exact hmm
  | none =>
    cases hk' : strKeys? kvs' with
    | none => trivial
    | some m' => obtain ⟨m, e, _⟩ := key h.symm hk'; rw [hk] at e; cases e

theorem toStrAny_sMapEq {m m' : List (String × V)} (h : SMapEq m m') : toStrAny m ≈ᵥ toStrAny m' := by
  unfold toStrAny
  exact V.permEq_map_of (h.map (fun a b hab => by
    obtain ⟨a1, a2⟩ := a; obtain ⟨b1, b2⟩ := b
    obtain ⟨e, hv⟩ := hab
    simp only at e hv; subst e
    exact ⟨.refl _, hv⟩))

theorem hasKey_sMapEq {m m' : List (String × V)} (h : SMapEq m m') (k : String) : hasKey k m = hasKey k m' := by
  rw [hasKey_eq_any, hasKey_eq_any]
  exact h.any_eq (fun a b hab => by rw [hab.1])

theorem keys_sMapEq {m m' : List (String × V)} (h : SMapEq m m') : (m.map Prod.fst).Perm (m'.map Prod.fst) :=
  h.map_perm (fun _ _ hab => hab.1)

theorem lookupS_sMapEq {m m' : List (String × V)} (h : SMapEq m m') (hnd : (m.map Prod.fst).Nodup) (k : String) :
    ORel V.PermEq (lookupS k m) (lookupS k m') := lookupS_permRel h hnd k

theorem eraseKey_sMapEq {m m' : List (String × V)} (h : SMapEq m m') (k : String) :
    SMapEq (eraseKey k m) (eraseKey k m') := by
  rw [eraseKey_eq_filter, eraseKey_eq_filter]
  exact h.filter (fun a b hab => by rw [hab.1])

theorem setKey_sMapEq {m m' : List (String × V)} (h : SMapEq m m') (hnd : (m.map Prod.fst).Nodup) (k : String)
    {v v' : V} (hv : v ≈ᵥ v') : SMapEq (setKey k v m) (setKey k v' m') := by
  have hnd' : (m'.map Prod.fst).Nodup := (keys_sMapEq h).nodup_iff.mp hnd
  have h1 : SMapEq ((k, v) :: eraseKey k m) ((k, v') :: eraseKey k m') := PermRel.cons ⟨rfl, hv⟩ (eraseKey_sMapEq h k)
  exact (h1.permL (setKey_perm k v hnd).symm).permR (setKey_perm k v' hnd').symm

/-! ### genuine Go maps: pairwise distinct string keys

A Go `map` holds each key once. The association lists of the model can repeat a key; on such a
list the FIRST entry with a key answers a lookup (`lookupS`, `find?`), so which entry answers would
depend on the order. `V.DistinctKeys v` rules these non-values out: in every map inside `v`, at
every depth, the keys of the form `.str s` are pairwise distinct. (Only string keys are ever looked
up; nothing is asked of other keys - a Go `map[any]any` may well hold two NaN keys.) -/

def V.strKey? : V → Option String
  | .str s => some s
  | _ => none

def strKeysOf (kvs : List (V × V)) : List String := kvs.filterMap fun kv => kv.1.strKey?

inductive V.DistinctKeys : V → Prop
  | nil : V.DistinctKeys .nil
  | bool (b : Bool) : V.DistinctKeys (.bool b)
  | int (k : IKind) (n : Int) : V.DistinctKeys (.int k n)
  | float (k : FKind) (b : Nat) : V.DistinctKeys (.float k b)
  | str (s : String) : V.DistinctKeys (.str s)
  | bytes (b : List Nat) : V.DistinctKeys (.bytes b)
  | regex (s : String) : V.DistinctKeys (.regex s)
  | opaque : V.DistinctKeys .opaque
  | named {v : V} : V.DistinctKeys v → V.DistinctKeys (.named v)
  | list {xs : List V} : (∀ x, x ∈ xs → V.DistinctKeys x) → V.DistinctKeys (.list xs)
  | map {sh : MapShape} {kvs : List (V × V)} : (strKeysOf kvs).Nodup →
      (∀ kv, kv ∈ kvs → V.DistinctKeys kv.1) → (∀ kv, kv ∈ kvs → V.DistinctKeys kv.2) → V.DistinctKeys (.map sh kvs)

def V.TopDistinct : V → Prop
  | .map _ kvs => (strKeysOf kvs).Nodup
  | _ => True

theorem V.DistinctKeys.top {v : V} (h : v.DistinctKeys) : v.TopDistinct := by
  cases h <;> simp_all [V.TopDistinct]

theorem V.PermEq.strKey? {v w : V} (h : v ≈ᵥ w) : v.strKey? = w.strKey? := by
  cases h <;> rfl

theorem strKeysOf_mapEq {kvs kvs' : List (V × V)} (h : MapEq kvs kvs') : (strKeysOf kvs).Perm (strKeysOf kvs') :=
  h.filterMap_perm (fun _ _ hab => hab.1.strKey?)

theorem strKeysOf_of_strKeys : ∀ {kvs : List (V × V)} {m : List (String × V)}, strKeys? kvs = some m →
    strKeysOf kvs = m.map Prod.fst
  | [], m, h => by simp only [strKeys?, Option.some.injEq] at h; subst h; rfl
  | (k, v) :: rest, m, h => by
    cases k <;> simp only [strKeys?, Option.map_eq_some_iff, reduceCtorEq] at h
    obtain ⟨m0, h0, rfl⟩ := h
    simp only [strKeysOf, List.filterMap_cons, V.strKey?, List.map_cons]
    exact congrArg _ (strKeysOf_of_strKeys h0)

theorem strKeysOf_toStrAny (m : List (String × V)) : strKeysOf (m.map fun (k, v) => (V.str k, v)) = m.map Prod.fst := by
  induction m with
  | nil => rfl
  | cons p rest ih =>
    obtain ⟨k, v⟩ := p
    simp only [strKeysOf, List.map_cons, List.filterMap_cons, V.strKey?] at ih ⊢
    rw [ih]

theorem V.topDistinct_toStrAny {m : List (String × V)} : (toStrAny m).TopDistinct ↔ (m.map Prod.fst).Nodup := by
  simp only [toStrAny, V.TopDistinct, strKeysOf_toStrAny]

theorem V.distinctKeys_toStrAny {m : List (String × V)} (hnd : (m.map Prod.fst).Nodup)
    (hv : ∀ kv, kv ∈ m → kv.2.DistinctKeys) : (toStrAny m).DistinctKeys := by
  unfold toStrAny
  refine .map ?_ ?_ ?_
  · rw [strKeysOf_toStrAny]; exact hnd
  · intro kv hkv
    obtain ⟨⟨k, v⟩, _, rfl⟩ := List.mem_map.mp hkv
    exact .str k
  · intro kv hkv
    obtain ⟨⟨k, v⟩, hm, rfl⟩ := List.mem_map.mp hkv
    exact hv _ hm

theorem V.DistinctKeys.strView {sh : MapShape} {kvs : List (V × V)} {m : List (String × V)}
    (h : (V.map sh kvs).DistinctKeys) (hm : strKeys? kvs = some m) :
    (m.map Prod.fst).Nodup ∧ ∀ kv, kv ∈ m → kv.2.DistinctKeys := by
  cases h with
  | map hnd _ hv =>
    refine ⟨by rw [← strKeysOf_of_strKeys hm]; exact hnd, ?_⟩
    intro kv hkv
    exact hv _ (strKeys_mem hm hkv)

/-- matching both sides against a `map[string]any` (`generalizing := false`: the match has to be
    the plain one of the model's functions for this lemma to apply to their bodies) -/
theorem V.PermEq.strAny_match {α β} {R : α → β → Prop} {v w : V} (h : v ≈ᵥ w)
    {f : List (V × V) → Out α} {g : List (V × V) → Out β} {a : Out α} {b : Out β}
    (hfg : ∀ kvs kvs', v = .map ⟨.string, true⟩ kvs → MapEq kvs kvs' → Out.Rel R (f kvs) (g kvs'))
    (hab : Out.Rel R a b) :
    Out.Rel R (match (generalizing := false) v with | .map ⟨.string, true⟩ kvs => f kvs | _ => a)
      (match (generalizing := false) w with | .map ⟨.string, true⟩ kvs => g kvs | _ => b) := by
  cases h with
  | mapNil sh =>
    obtain ⟨key, va⟩ := sh
    cases key <;> cases va <;> first | exact hab | exact hfg _ _ rfl .nil
  | @mapCons sh _ _ _ _ _ _ _ a b c =>
    have hm := (V.permEq_map_iff.mp (.mapCons a b c)).2
    obtain ⟨key, va⟩ := sh
    cases key <;> cases va <;> first | exact hab | exact hfg _ _ rfl hm
  | _ => exact hab

/-- ... and its string-keyed view, on a genuine Go value -/
theorem V.PermEq.strView_match {α β} {R : α → β → Prop} {v w : V} (h : v ≈ᵥ w) (hd : v.DistinctKeys)
    {f : List (String × V) → Out α} {g : List (String × V) → Out β} {a : Out α} {b : Out β}
    (hfg : ∀ m m', SMapEq m m' → (m.map Prod.fst).Nodup → (∀ kv, kv ∈ m → kv.2.DistinctKeys) → Out.Rel R (f m) (g m'))
    (hab : Out.Rel R a b) :
    Out.Rel R
      (match (generalizing := false) v with
        | .map ⟨.string, true⟩ kvs => (match strKeys? kvs with | none => .cerr | some m => f m)
        | _ => a)
      (match (generalizing := false) w with
        | .map ⟨.string, true⟩ kvs => (match strKeys? kvs with | none => .cerr | some m => g m)
        | _ => b) := by
  refine h.strAny_match (fun kvs kvs' hv hm => ?_) hab
  rcases (strKeys_rel hm).cases with ⟨hk, hk'⟩ | ⟨m, m', hk, hk', hmm⟩ <;> rw [hk, hk']
  · exact Out.Rel.cerr_cerr
  · exact hfg m m' hmm ((hv ▸ hd).strView hk).1 ((hv ▸ hd).strView hk).2

theorem V.DistinctKeys.entries {sh : MapShape} {kvs : List (V × V)} (h : (V.map sh kvs).DistinctKeys) :
    ∀ kv, kv ∈ kvs → kv.1.DistinctKeys ∧ kv.2.DistinctKeys := by
  cases h with
  | map _ hk hv => exact fun kv hkv => ⟨hk kv hkv, hv kv hkv⟩

theorem V.DistinctKeys.elems {xs : List V} (h : (V.list xs).DistinctKeys) : ∀ x, x ∈ xs → x.DistinctKeys := by
  cases h with
  | list hx => exact hx

theorem clone_distinct {m : List (String × V)} (hnd : (m.map Prod.fst).Nodup) (hv : ∀ kv, kv ∈ m → kv.2.DistinctKeys)
    (inlined : Bool) (disc : String) : (toStrAny (if inlined then m else eraseKey disc m)).DistinctKeys := by
  cases inlined
  · exact V.distinctKeys_toStrAny (eraseKey_keys_nodup hnd disc) (fun kv hkv => hv kv (mem_eraseKey.mp hkv).1)
  · exact V.distinctKeys_toStrAny hnd hv

/-- the clone a one-of hands to its member (all entries, or all but the discriminator) -/
theorem V.DistinctKeys.clone {sh : MapShape} {kvs : List (V × V)} {m : List (String × V)}
    (h : (V.map sh kvs).DistinctKeys) (hm : strKeys? kvs = some m) (inlined : Bool) (disc : String) :
    (toStrAny (if inlined then m else eraseKey disc m)).DistinctKeys :=
  clone_distinct (h.strView hm).1 (h.strView hm).2 inlined disc

/-- `DistinctKeys` is a property of the value up to order -/
theorem V.PermEq.distinctKeys {v w : V} (h : v ≈ᵥ w) : v.DistinctKeys → w.DistinctKeys := by
  intro hd
  induction hd generalizing w with
  | named _ ih => cases h with | named h' => exact .named (ih h')
  | list _ ih =>
    obtain ⟨ys, rfl, hl⟩ := V.permEq_list_inv h
    refine .list fun y hy => ?_
    obtain ⟨x, hx, hxy⟩ := (hl.flipR (S := fun b a => a ≈ᵥ b) fun _ _ e => e).mem_left hy
    exact ih x hx hxy
  | map hnd _ _ ihk ihv =>
    obtain ⟨kvs', rfl, hm⟩ := V.permEq_map_inv h
    have back : ∀ kv', kv' ∈ kvs' → ∃ kv, kv ∈ _ ∧ EntryEq kv kv' := fun kv' hkv' =>
      (hm.flip (S := fun b a => EntryEq a b) fun _ _ e => e).mem_left hkv'
    refine .map ((strKeysOf_mapEq hm).nodup_iff.mp hnd) (fun kv' hkv' => ?_) (fun kv' hkv' => ?_)
    · obtain ⟨kv, hkv, hr⟩ := back kv' hkv'
      exact ihk kv hkv hr.1
    · obtain ⟨kv, hkv, hr⟩ := back kv' hkv'
      exact ihv kv hkv hr.2
  | _ => cases h; constructor

/-! ### executable (sound) checks, for concrete instances -/

/-- executable check of `V.DistinctKeys` for values nested at most `n` deep -/
def distinctB : Nat → V → Bool
  | 0, _ => false
  | n + 1, .list xs => xs.all (distinctB n)
  | n + 1, .map _ kvs => decide (strKeysOf kvs).Nodup && kvs.all (fun kv => distinctB n kv.1 && distinctB n kv.2)
  | n + 1, .named v => distinctB n v
  | _ + 1, _ => true

theorem distinctB_sound : ∀ (n : Nat) (v : V), distinctB n v = true → v.DistinctKeys
  | 0, _, h => by simp [distinctB] at h
  | n + 1, v, h => by
    cases v with
    | list xs =>
      simp only [distinctB, List.all_eq_true] at h
      exact .list fun x hx => distinctB_sound n x (h x hx)
    | map sh kvs =>
      simp only [distinctB, Bool.and_eq_true, List.all_eq_true, decide_eq_true_eq] at h
      exact .map h.1 (fun kv hkv => distinctB_sound n _ (h.2 kv hkv).1) (fun kv hkv => distinctB_sound n _ (h.2 kv hkv).2)
    | named w =>
      simp only [distinctB] at h
      exact .named (distinctB_sound n w h)
    | _ => constructor

def all2B {α β} (p : α → β → Bool) : List α → List β → Bool
  | [], [] => true
  | a :: as, b :: bs => p a b && all2B p as bs
  | _, _ => false

def extractB {β} (p : β → Bool) : List β → Option (List β)
  | [] => none
  | b :: bs => if p b then some bs else (extractB p bs).map (b :: ·)

def permAll2B {α β} (p : α → β → Bool) : List α → List β → Bool
  | [], bs => bs.isEmpty
  | a :: as, bs =>
    match extractB (p a) bs with
    | some bs' => permAll2B p as bs'
    | none => false

theorem all2B_sound {α β} {p : α → β → Bool} {R : α → β → Prop} : ∀ {as : List α} {bs : List β},
    (∀ a b, a ∈ as → p a b = true → R a b) → all2B p as bs = true → Forall2 R as bs
  | [], [], _, _ => .nil
  | [], _ :: _, _, h => by simp [all2B] at h
  | _ :: _, [], _, h => by simp [all2B] at h
  | a :: as, b :: bs, hp, h => by
    simp only [all2B, Bool.and_eq_true] at h
    exact .cons (hp a b (List.mem_cons_self ..) h.1)
      (all2B_sound (fun a' b' ha' => hp a' b' (List.mem_cons_of_mem _ ha')) h.2)

theorem extractB_sound {β} {p : β → Bool} : ∀ {bs bs' : List β}, extractB p bs = some bs' →
    ∃ pre b post, bs = pre ++ b :: post ∧ p b = true ∧ bs' = pre ++ post
  | [], _, h => by simp [extractB] at h
  | b :: bs, bs', h => by
    simp only [extractB] at h
    split at h
    · rename_i hb
      simp only [Option.some.injEq] at h; subst h
      exact ⟨[], b, bs, rfl, hb, rfl⟩
    · simp only [Option.map_eq_some_iff] at h
      obtain ⟨r, hr, rfl⟩ := h
      obtain ⟨pre, c, post, rfl, hc, rfl⟩ := extractB_sound hr
      exact ⟨b :: pre, c, post, rfl, hc, rfl⟩

theorem permAll2B_sound {α β} {p : α → β → Bool} {R : α → β → Prop} : ∀ {as : List α} {bs : List β},
    (∀ a b, a ∈ as → p a b = true → R a b) → permAll2B p as bs = true → PermRel R as bs
  | [], bs, _, h => by
    simp only [permAll2B, List.isEmpty_iff] at h; subst h; exact .nil
  | a :: as, bs, hp, h => by
    simp only [permAll2B] at h
    split at h
    · rename_i bs' he
      obtain ⟨pre, b, post, rfl, hb, rfl⟩ := extractB_sound he
      have ih : PermRel R as (pre ++ post) :=
        permAll2B_sound (fun a' b' ha' => hp a' b' (List.mem_cons_of_mem _ ha')) h
      exact (PermRel.cons (hp a b (List.mem_cons_self ..) hb) ih).permR List.perm_middle.symm
    · simp at h

/-- executable (sound, greedy) check of `V.PermEq` for values nested at most `n` deep -/
def permEqB : Nat → V → V → Bool
  | 0, _, _ => false
  | _ + 1, .nil, .nil => true
  | _ + 1, .bool a, .bool b => a == b
  | _ + 1, .int k a, .int k' b => k == k' && a == b
  | _ + 1, .float k a, .float k' b => k == k' && a == b
  | _ + 1, .str a, .str b => a == b
  | _ + 1, .bytes a, .bytes b => a == b
  | _ + 1, .regex a, .regex b => a == b
  | _ + 1, .opaque, .opaque => true
  | n + 1, .named v, .named w => permEqB n v w
  | n + 1, .list xs, .list ys => all2B (permEqB n) xs ys
  | n + 1, .map sh kvs, .map sh' kvs' =>
    sh == sh' && permAll2B (fun a b => permEqB n a.1 b.1 && permEqB n a.2 b.2) kvs kvs'
  | _ + 1, _, _ => false

theorem permEqB_sound : ∀ (n : Nat) (v w : V), permEqB n v w = true → v ≈ᵥ w
  | 0, _, _, h => by simp [permEqB] at h
  | n + 1, v, w, h => by
    have ih := permEqB_sound n
    cases v <;> cases w <;> simp only [permEqB, Bool.and_eq_true, beq_iff_eq, Bool.false_eq_true] at h
    case nil.nil => exact .nil
    case bool.bool => subst h; exact .bool _
    case int.int => obtain ⟨rfl, rfl⟩ := h; exact .int _ _
    case float.float => obtain ⟨rfl, rfl⟩ := h; exact .float _ _
    case str.str => subst h; exact .str _
    case bytes.bytes => subst h; exact .bytes _
    case regex.regex => subst h; exact .regex _
    case opaque.opaque => exact .opaque
    case named.named => exact .named (ih _ _ h)
    case list.list => exact V.permEq_list_of (all2B_sound (fun a b _ hab => ih a b hab) h)
    case map.map =>
      obtain ⟨rfl, h2⟩ := h
      refine V.permEq_map_of (permAll2B_sound (fun a b _ hab => ?_) h2)
      simp only [Bool.and_eq_true] at hab
      exact ⟨ih _ _ hab.1, ih _ _ hab.2⟩

end Arca
