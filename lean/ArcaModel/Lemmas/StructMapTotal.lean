import ArcaModel.Lemmas.StructMap
import ArcaModel.Props.C04
/-
  Totality of the struct-mapping model: under well-formedness (`WFS`) no operation panics, for any
  input, any externals, any fuel.

  As for the map-backed kinds (`Lemmas/Stuck.lean`), each kind's own function is stuck (`Avoids s`:
  panic or exhausted budget) only where one of its recursive calls is; the budget runs out only in
  the leaves and in the sub-object defaults, so the theorem over whole trees is about panics.
-/
namespace Arca
namespace SM
open Out

theorem forIdxS_cons (f : Nat → SV → Out SV) (i : Nat) (x : SV) (xs : List SV) :
    forIdxS f i (x :: xs) = (f i x).bind fun y => (forIdxS f (i + 1) xs).bind fun ys => .ok (y :: ys) := by
  rw [forIdxS]
  cases f i x with
  | ok y => simp only []; cases forIdxS f (i + 1) xs <;> rfl
  | _ => rfl

theorem forKVS_cons (f : V → SV → Out (V × SV)) (k : V) (v : SV) (rest : List (V × SV)) :
    forKVS f ((k, v) :: rest) = (f k v).bind fun kv => (forKVS f rest).bind fun kvs => .ok (kv :: kvs) := by
  rw [forKVS]
  cases f k v with
  | ok y => simp only []; cases forKVS f rest <;> rfl
  | _ => rfl

theorem forSVS_cons {α β} (f : String → α → Out β) (k : String) (v : α) (rest : List (String × α)) :
    forSVS f ((k, v) :: rest) = (f k v).bind fun v' => (forSVS f rest).bind fun kvs => .ok ((k, v') :: kvs) := by
  rw [forSVS]
  cases f k v with
  | ok y => simp only []; cases forSVS f rest <;> rfl
  | _ => rfl

variable {s : Stuck}

theorem avoids_forIdxS {f : Nat → SV → Out SV} : ∀ (n : Nat) (xs : List SV),
    (∀ i x, x ∈ xs → Avoids s (f i x)) → Avoids s (forIdxS f n xs)
  | _, [], _ => avoids_ok s _
  | n, x :: xs, hf => by
    rw [forIdxS_cons]
    exact avoids_bind (hf n x (List.mem_cons_self ..)) fun _ _ =>
      avoids_bind (avoids_forIdxS (n + 1) xs fun i y hy => hf i y (List.mem_cons_of_mem _ hy)) fun _ _ => avoids_ok s _

theorem avoids_forKVS {f : V → SV → Out (V × SV)} : ∀ (kvs : List (V × SV)), (∀ k v, Avoids s (f k v)) → Avoids s (forKVS f kvs)
  | [], _ => avoids_ok s _
  | (k, v) :: rest, hf => by
    rw [forKVS_cons]
    exact avoids_bind (hf k v) fun _ _ => avoids_bind (avoids_forKVS rest hf) fun _ _ => avoids_ok s _

theorem avoids_forSVS {α β} {f : String → α → Out β} : ∀ (kvs : List (String × α)),
    (∀ kv, kv ∈ kvs → Avoids s (f kv.1 kv.2)) → Avoids s (forSVS f kvs)
  | [], _ => avoids_ok s _
  | (k, v) :: rest, hf => by
    rw [forSVS_cons]
    exact avoids_bind (hf (k, v) (List.mem_cons_self ..)) fun _ _ =>
      avoids_bind (avoids_forSVS rest fun kv hkv => hf kv (List.mem_cons_of_mem _ hkv)) fun _ _ => avoids_ok s _

theorem forSVS_keys {α β} {f : String → α → Out β} : ∀ {kvs : List (String × α)} {r : List (String × β)},
    forSVS f kvs = .ok r → keysOf r = keysOf kvs
  | [], r, h => by cases h; rfl
  | (k, v) :: rest, r, h => by
    rw [forSVS_cons] at h
    obtain ⟨y, _, h⟩ := Out.bind_eq_ok h
    obtain ⟨ys, hr, h⟩ := Out.bind_eq_ok h
    cases h
    exact congrArg (k :: ·) (forSVS_keys hr)

theorem forSVS_succeeds_iff {α β} (f : String → α → Out β) : ∀ (m : List (String × α)),
    (∃ m', forSVS f m = .ok m') ↔ ∀ kv, kv ∈ m → ∃ r, f kv.1 kv.2 = .ok r
  | [] => ⟨fun _ _ h => (nomatch h), fun _ => ⟨[], rfl⟩⟩
  | (k, v) :: rest => by
    rw [forSVS_cons, List.forall_mem_cons, ← forSVS_succeeds_iff f rest]
    constructor
    · intro ⟨m', h⟩
      obtain ⟨y, hy, h⟩ := Out.bind_eq_ok h
      obtain ⟨ys, hr, _⟩ := Out.bind_eq_ok h
      exact ⟨⟨y, hy⟩, ys, hr⟩
    · intro ⟨⟨y, hy⟩, ys, hr⟩
      exact ⟨_, by rw [hy, hr]; rfl⟩

@[simp] theorem avoids_asVal (x : SV) : Avoids s (asVal x) := by cases x <;> simp [asVal]

@[simp] theorem avoids_allVals : ∀ (xs : List SV), Avoids s (allVals xs)
  | [] => avoids_ok s _
  | x :: xs => by simp [allVals, avoids_allVals xs]

@[simp] theorem avoids_allValKVs : ∀ (xs : List (V × SV)), Avoids s (allValKVs xs)
  | [] => avoids_ok s _
  | (k, x) :: xs => by simp [allValKVs, avoids_allValKVs xs]

def SRecAvoids (s : Stuck) (rec : SRec) (t : STy) : Prop := ∀ op v, Avoids s (rec op t v)

theorem np_runLeaf (x : Ext) (fuel : Nat) (op : SOp) (t : Ty) (s : SV) (hwf : WF [] t) : NP (runLeaf x fuel op t s) := by
  unfold runLeaf
  split
  · simp
  · rename_i v _
    have := C04_no_panic_closed x fuel op.toOp t v hwf
    cases hr : run x fuel op.toOp [] t v <;> simp_all [NP]

theorem avoids_runListS {rec : SRec} {item : STy} (hrec : SRecAvoids s rec item) (op : SOp) (min max : Option Int) (v : SV) :
    Avoids s (runListS rec op item min max v) := by
  unfold runListS
  split
  · simp
  · have hi : ∀ op' xs, Avoids s (forIdxS (fun i e => (rec op' item e).addSeg (idxSeg i)) 0 xs) :=
      fun op' xs => avoids_forIdxS _ _ fun _ _ _ => avoids_addSeg _ (hrec _ _)
    cases op <;> simp [hi]

theorem avoids_entryKVS {rec : SRec} {x : Ext} {fuel : Nat} {op : SOp} {kt : Ty} {vt : STy}
    (hk : ∀ k, Avoids s (run x fuel op.toOp [] kt k)) (hrec : SRecAvoids s rec vt) (k : V) (e : SV) :
    Avoids s (entryKVS rec x fuel op kt vt k e) := by
  simp [entryKVS, hk k, hrec op e]

theorem avoids_runMapS {rec : SRec} {x : Ext} {fuel : Nat} {kt : Ty} {vt : STy}
    (hk : ∀ op k, Avoids s (run x fuel op [] kt k)) (hrec : SRecAvoids s rec vt) (op : SOp) (min max : Option Int) (v : SV) :
    Avoids s (runMapS rec x fuel op kt vt min max v) := by
  unfold runMapS
  split
  · simp
  · have hkv : ∀ op' kvs, Avoids s (forKVS (entryKVS rec x fuel op' kt vt) kvs) :=
      fun op' kvs => avoids_forKVS _ (avoids_entryKVS (fun k => hk _ k) hrec)
    cases op <;> simp [hkv]

theorem defaultOK_eq_false {p : PropT} : defaultOK p = false ↔ p.defaultV = some none := by
  unfold defaultOK
  split
  · rename_i h; simp [h]
  · rename_i h; simpa using h

/-- `GetDefaults()` fails only by the panic of an undecodable default -/
theorem defaultsOf_ok_or_panic : ∀ (ps : List (String × PropT)), (∃ ds, defaultsOf ps = .ok ds) ∨ defaultsOf ps = .panic
  | [] => Or.inl ⟨[], rfl⟩
  | (k, p) :: rest => by
    rw [defaultsOf]
    split
    · exact defaultsOf_ok_or_panic rest
    · exact Or.inr rfl
    · rcases defaultsOf_ok_or_panic rest with ⟨ds, h⟩ | h
      · rw [h]; exact Or.inl ⟨_, rfl⟩
      · rw [h]; exact Or.inr rfl

theorem defaultsOf_panic_iff : ∀ (ps : List (String × PropT)),
    defaultsOf ps = .panic ↔ ∃ kp, kp ∈ ps ∧ defaultOK kp.2 = false
  | [] => ⟨nofun, fun ⟨_, h, _⟩ => nomatch h⟩
  | (k, p) :: rest => by
    have hex : (∃ kp, kp ∈ (k, p) :: rest ∧ defaultOK kp.2 = false) ↔
        p.defaultV = some none ∨ defaultsOf rest = .panic := by
      rw [defaultsOf_panic_iff rest, ← defaultOK_eq_false]
      exact ⟨fun ⟨kp, hkp, h⟩ => (List.mem_cons.mp hkp).elim (fun e => Or.inl (by rw [e] at h; exact h)) fun hm => Or.inr ⟨kp, hm, h⟩,
        fun h => h.elim (fun h => ⟨_, List.mem_cons_self .., h⟩) fun ⟨kp, hm, h⟩ => ⟨kp, List.mem_cons_of_mem _ hm, h⟩⟩
    rw [hex, defaultsOf]
    cases p.defaultV with
    | none => simp
    | some o =>
      cases o with
      | none => simp
      | some d => cases defaultsOf rest <;> simp [Out.bind]

theorem np_defaultsOf (ps : List (String × PropT)) (h : ∀ kp, kp ∈ ps → defaultOK kp.2 = true) : NP (defaultsOf ps) :=
  fun hp => by
    obtain ⟨kp, hkp, hb⟩ := (defaultsOf_panic_iff ps).mp hp
    rw [h kp hkp] at hb
    cases hb

/-- what `convertData` adds for one absent property; `skip`: the property is mapped to a pointer or
    interface field (`fieldSkips`), so the defaults of a sub-object are not expanded -/
def dflStep (skip : Bool) (fuel : Nat) (p : SProp) : Out (Option V) :=
  match p.rules.defaultV with
  | some none => .panic
  | d =>
    if skip then .ok (match d with | some (some v) => some v | _ => none)
    else subDefS fuel p.ty (match d with | some (some v) => some v | _ => none)

theorem applyDefaultsS_cons (st : StructTy) (fuel : Nat) (k : String) (p : SProp) (rest : List (String × SProp)) (m : List (String × V)) :
    applyDefaultsS st fuel ((k, p) :: rest) m =
      if hasKey k m then applyDefaultsS st fuel rest m else
        (dflStep (fieldSkips st k) fuel p).bind fun o =>
          applyDefaultsS st fuel rest (match o with | some v => m ++ [(k, v)] | none => m) := by
  simp only [applyDefaultsS, dflStep]
  split
  · rfl
  · split
    · rename_i hd; simp [hd, Out.bind]
    · rename_i d hd
      cases hp : p.rules.defaultV with
      | none => rfl
      | some o =>
        cases o with
        | none => exact absurd hp (fun e => hd e)
        | some v => rfl

theorem nodup_keysOf_snoc {α} {m : List (String × α)} {k : String} (hn : (keysOf m).Nodup) (hk : hasKey k m = false)
    (v : α) : (keysOf (m ++ [(k, v)])).Nodup := by
  rw [keysOf, List.map_append]
  refine List.nodup_append.mpr ⟨hn, List.nodup_cons.mpr ⟨List.not_mem_nil, List.nodup_nil⟩, fun a ha b hb e => ?_⟩
  cases List.mem_singleton.mp hb
  subst e
  rw [(hasKey_iff_mem _ _).mpr ha] at hk
  cases hk

/-- What the default loop of `convertData` returns: the given map followed by the entries it added.
    An added entry is what `dflStep` gives for a declared property; a property whose key the result
    lacks had nothing to add. -/
theorem applyDefaultsS_ok (st : StructTy) (fuel : Nat) : ∀ {ps : List (String × SProp)} {m m0 : List (String × V)},
    applyDefaultsS st fuel ps m = .ok m0 →
    ∃ add, m0 = m ++ add ∧ ((keysOf m).Nodup → (keysOf m0).Nodup) ∧
      (∀ kv, kv ∈ add → ∃ p, (kv.1, p) ∈ ps ∧ dflStep (fieldSkips st kv.1) fuel p = .ok (some kv.2)) ∧
      ∀ kp, kp ∈ ps → hasKey kp.1 m0 = false → dflStep (fieldSkips st kp.1) fuel kp.2 = .ok none
  | [], m, m0, h => by cases h; exact ⟨[], (List.append_nil m).symm, id, nofun, nofun⟩
  | (k, p) :: rest, m, m0, h => by
    rw [applyDefaultsS_cons] at h
    -- the entries added for `rest` are added for `(k, p) :: rest`; `(k, p)` itself is left to the cases
    have lift : ∀ {add : List (String × V)},
        (∀ kv, kv ∈ add → ∃ p', (kv.1, p') ∈ rest ∧ dflStep (fieldSkips st kv.1) fuel p' = .ok (some kv.2)) →
        (∀ kp, kp ∈ rest → hasKey kp.1 m0 = false → dflStep (fieldSkips st kp.1) fuel kp.2 = .ok none) →
        (hasKey k m0 = false → dflStep (fieldSkips st k) fuel p = .ok none) →
        (∀ kv, kv ∈ add → ∃ p', (kv.1, p') ∈ (k, p) :: rest ∧ dflStep (fieldSkips st kv.1) fuel p' = .ok (some kv.2)) ∧
        ∀ kp, kp ∈ (k, p) :: rest → hasKey kp.1 m0 = false → dflStep (fieldSkips st kp.1) fuel kp.2 = .ok none :=
      fun ha hr hkp => ⟨fun kv hkv => (ha kv hkv).imp fun _ h => ⟨List.mem_cons_of_mem _ h.1, h.2⟩,
        fun kp hm => (List.mem_cons.mp hm).elim (fun e => e ▸ hkp) (hr kp)⟩
    cases hk : hasKey k m with
    | true =>
      rw [hk, if_pos rfl] at h
      obtain ⟨add, hm0, hn, ha, hr⟩ := applyDefaultsS_ok st fuel h
      exact ⟨add, hm0, hn, lift ha hr fun hno => by rw [hm0, hasKey_append, hk] at hno; cases hno⟩
    | false =>
      rw [hk, if_neg Bool.false_ne_true] at h
      obtain ⟨o, ho, h⟩ := Out.bind_eq_ok h
      cases o with
      | none =>
        obtain ⟨add, hm0, hn, ha, hr⟩ := applyDefaultsS_ok st fuel h
        exact ⟨add, hm0, hn, lift ha hr fun _ => ho⟩
      | some v =>
        obtain ⟨add, hm0, hn, ha, hr⟩ := applyDefaultsS_ok st fuel h
        rw [List.append_assoc] at hm0
        have hkv : hasKey k m0 = true := by
          rw [hm0, hasKey_append, List.singleton_append, hasKey, hasKey, lookupS_cons, if_pos rfl]
          exact Bool.or_true _
        obtain ⟨ha', hr'⟩ := lift ha hr fun hno => by rw [hkv] at hno; cases hno
        refine ⟨(k, v) :: add, hm0, fun hm => hn (nodup_keysOf_snoc hm hk v), fun kv hkv => ?_, hr'⟩
        rcases List.mem_cons.mp hkv with rfl | hkv
        · exact ⟨p, List.mem_cons_self .., ho⟩
        · exact ha' kv hkv

theorem avoids_dflStep {skip : Bool} {fuel : Nat} {p : SProp} (hd : s = .panic → defaultOK p.rules = true)
    (hs : ∀ e, Avoids s (subDefS fuel p.ty e)) : Avoids s (dflStep skip fuel p) := by
  unfold dflStep
  split
  · rename_i hdv
    cases s
    · simp [defaultOK, hdv] at hd
    · simp
  · simp [hs]

theorem avoids_applyDefaultsS (st : StructTy) (fuel : Nat) : ∀ (ps : List (String × SProp)) (m : List (String × V)),
    (∀ kp, kp ∈ ps → (s = .panic → defaultOK kp.2.rules = true) ∧ ∀ e, Avoids s (subDefS fuel kp.2.ty e)) →
    Avoids s (applyDefaultsS st fuel ps m)
  | [], m, _ => avoids_ok s m
  | (k, p) :: rest, m, h => by
    have ih := fun m' => avoids_applyDefaultsS st fuel rest m' (fun kp hkp => h kp (List.mem_cons_of_mem _ hkp))
    obtain ⟨hd, hs⟩ := h (k, p) (List.mem_cons_self ..)
    simp [applyDefaultsS_cons, ih, avoids_dflStep hd hs]

/-- how `ObjectSchema.Unserialize` gets to the converted map: from the single-property shorthand,
    or from a map with distinct, declared string keys, completed by the defaults and then converted
    entry by entry -/
theorem sobjRaw_ok {rec : SRec} {fuel : Nat} {st : StructTy} {props : List (String × SProp)} {s : SV} {m : List (String × SV)}
    (h : sobjRaw rec fuel st props s = .ok m) :
    (∃ name p r, props = [(name, p)] ∧ s.rawEntries? = none ∧ p.disabled = false ∧
      rewrapP (rec .U p.ty s) = .ok r ∧ m = [(name, r)]) ∨
    (∃ kvs skvs m0, s.rawEntries? = some kvs ∧ strKeys? kvs = some skvs ∧ (skvs.map (·.1)).Nodup ∧
      (∀ kv, kv ∈ skvs → hasKey kv.1 props = true) ∧ applyDefaultsS st fuel props skvs = .ok m0 ∧
      forSVS (entryUS rec props) m0 = .ok m) := by
  unfold sobjRaw at h
  split at h
  · rename_i hraw
    split at h
    · rename_i name p
      split at h
      · cases h
      · rename_i hdis
        obtain ⟨r, hr, h⟩ := Out.bind_eq_ok h
        cases h
        exact Or.inl ⟨name, p, r, rfl, hraw, by simpa using hdis, hr, rfl⟩
    · cases h
  · rename_i kvs hraw
    split at h
    · cases h
    · rename_i skvs hs
      split at h
      · cases h
      · rename_i hnd
        split at h
        · cases h
        · rename_i hany
          obtain ⟨m0, hm0, h⟩ := Out.bind_eq_ok h
          refine Or.inr ⟨kvs, skvs, m0, hraw, hs, by simpa using hnd, fun kv hkv => ?_, hm0, h⟩
          simpa using fun hk => hany (List.any_eq_true.mpr ⟨kv, hkv, hk⟩)

theorem sobjRaw_declared {rec : SRec} {fuel : Nat} {st : StructTy} {props : List (String × SProp)} {s : SV} {m : List (String × SV)}
    (h : sobjRaw rec fuel st props s = .ok m) : ∀ kv, kv ∈ m → hasKey kv.1 props = true := by
  rcases sobjRaw_ok h with ⟨name, p, r, rfl, _, _, _, rfl⟩ | ⟨kvs, skvs, m0, _, _, _, hdecl, hm0, h⟩
  · intro kv hkv
    cases List.mem_singleton.mp hkv
    exact (hasKey_iff_mem _ _).mpr (List.mem_singleton.mpr rfl)
  · intro kv hkv
    obtain ⟨kv0, hkv0, hk0⟩ := List.mem_map.mp (forSVS_keys h ▸ List.mem_map.mpr ⟨kv, hkv, rfl⟩ : kv.1 ∈ keysOf m0)
    obtain ⟨add, rfl, _, hadd, _⟩ := applyDefaultsS_ok st fuel hm0
    rw [← hk0]
    rcases List.mem_append.mp hkv0 with hin | hin
    · exact hdecl kv0 hin
    · obtain ⟨p, hp, _⟩ := hadd kv0 hin
      exact (hasKey_iff_mem _ _).mpr (List.mem_map.mpr ⟨_, hp, rfl⟩)

theorem avoids_readField {f : Field} {src : GoTy} (hexp : f.exported = true)
    (hconv : convOK (elemTy f.ty src) src = true) (dis eid : Bool) (fv : SV) : Avoids s (readField f src dis eid fv) := by
  cases hn : fv.isNilPtr
  · rw [readField_convOK hexp hconv dis eid hn]; exact avoids_ok s _
  · rw [readField, if_pos hn]; exact avoids_ok s _

theorem avoids_fromStruct {st : StructTy} (fs : List (String × SV)) : ∀ (ps : List (String × SProp)),
    (∀ kp, kp ∈ ps → propOK st kp = true) → Avoids s (fromStruct st ps fs)
  | [], _ => avoids_ok s _
  | (k, p) :: rest, h => by
    rw [fromStruct_cons]
    refine avoids_bind ?_ fun _ _ => avoids_bind (avoids_fromStruct fs rest fun kp hkp => h kp (List.mem_cons_of_mem _ hkp)) fun _ _ => avoids_ok s _
    obtain ⟨f, hf, hexp, hconv, _⟩ := propOK_field (h (k, p) (List.mem_cons_self ..))
    simp only [readProp, hf]
    cases lookupS f.name fs with
    | none => exact avoids_cerr s
    | some fv => exact avoids_readField hexp hconv _ _ _

@[simp] theorem avoids_unwrapT (ptrT : Bool) (id : String) (v : SV) : Avoids s (unwrapT ptrT id v) := by
  unfold unwrapT
  (repeat' split) <;> simp

section obj
variable {rec : SRec} {props : List (String × SProp)} (hrec : ∀ kp, kp ∈ props → SRecAvoids s rec kp.2.ty)
include hrec

theorem avoids_entryUS (k : String) (d : V) : Avoids s (entryUS rec props k d) := by
  unfold entryUS
  split
  · simp
  · rename_i p hp
    simp [hrec (k, p) (lookupS_mem hp) .U _]

theorem avoids_entryVS (op : SOp) (k : String) (e : SV) : Avoids s (entryVS rec op props k e) := by
  unfold entryVS
  split
  · simp
  · rename_i p hp
    simp [hrec (k, p) (lookupS_mem hp) op e]

theorem avoids_sobjRaw {fuel : Nat} {st : StructTy} (hdef : s = .panic → ∀ kp, kp ∈ props → defaultOK kp.2.rules = true)
    (hsafe : ∀ kp, kp ∈ props → ∀ e, Avoids s (subDefS fuel kp.2.ty e)) (v : SV) : Avoids s (sobjRaw rec fuel st props v) := by
  unfold sobjRaw
  split
  · split
    · rename_i name p
      simp [hrec (name, p) (List.mem_singleton.mpr rfl) .U v]
    · simp
  · split
    · simp
    · refine avoids_ite_of (avoids_cerr s) (avoids_ite_of (avoids_cerr s) ?_)
      exact avoids_bind (avoids_applyDefaultsS st fuel props _ fun kp hkp => ⟨fun hs => hdef hs kp hkp, hsafe kp hkp⟩) fun _ _ =>
        avoids_forSVS _ fun kv _ => avoids_entryUS hrec _ _

theorem avoids_runObjS (fuel : Nat) (op : SOp) {st : StructTy} (ptrT : Bool) (hwf : WFObj st props)
    (hsafe : ∀ kp, kp ∈ props → ∀ e, Avoids s (subDefS fuel kp.2.ty e)) (v : SV) : Avoids s (runObjS rec fuel op st ptrT props v) := by
  have hV : ∀ op' raw, Avoids s (forSVS (entryVS rec op' props) raw) := fun op' raw => avoids_forSVS _ fun kv _ => avoids_entryVS hrec _ _ _
  have hA : ∀ (m : List (String × SV)), Avoids s (forSVS (fun _ e => asVal e) m) := fun m => avoids_forSVS _ fun _ _ => avoids_asVal _
  cases op <;> rw [runObjS]
  · -- Unserialize: on a map with declared keys `unserializeToStruct` succeeds
    refine avoids_bind (avoids_sobjRaw hrec (fun _ => hwf.defaults) hsafe v) fun m hm => avoids_bind (avoids_interdeps _ _) fun _ _ => ?_
    rw [toStruct_wf hwf (sobjRaw_declared hm)]
    exact avoids_ok s _
  · simp [avoids_fromStruct _ props hwf.prop, hV]
  · simp [avoids_fromStruct _ props hwf.prop, hV, hA]

end obj

inductive ObjLikeS : STy → Prop
  | obj {id st ptrT props} : ObjLikeS (.obj id st ptrT props)
  | scope {t} : ObjLikeS t → ObjLikeS (.scope t)

theorem objLikeS_sound : ∀ (n : Nat) (t : STy), objLikeS n t = true → ObjLikeS t
  | 0, _, h => by simp [objLikeS] at h
  | n + 1, t, h => by
    cases t with
    | obj => exact .obj
    | scope t => exact .scope (objLikeS_sound n t (by simpa [objLikeS] using h))
    | leaf => simp [objLikeS] at h
    | list => simp [objLikeS] at h
    | map => simp [objLikeS] at h
    | oneOf => simp [objLikeS] at h

theorem mem_of_findMember {members : List (Key × STy)} {s : SV} {km : Key × STy}
    (h : findMember members s = some km) : km ∈ members ∧ svTy? s = some (reflTy km.2) := by
  unfold findMember at h
  split at h
  · cases h
  · rename_i g hg
    have hm := List.mem_of_getLast? h
    obtain ⟨h1, h2⟩ := List.mem_filter.mp hm
    exact ⟨h1, by rw [hg]; simp only [beq_iff_eq] at h2; rw [h2]⟩

/-- Well-formedness of a schema tree with struct-mapped objects: the map-backed leaves are
    well-formed closed schemas (`WF`), every struct-mapped object is a well-formed pair
    (`WFObj`), the members of a one-of are struct-mapped objects. (Since 79a33d2 a default that is
    not a map is no panic source any more.) -/
inductive WFS : STy → Prop
  | leaf {t} : WF [] t → WFS (.leaf t)
  | list {item a b} : WFS item → WFS (.list item a b)
  | map {k v a b} : WF [] k → WFS v → WFS (.map k v a b)
  | scope {t} : WFS t → WFS (.scope t)
  | obj {id st ptrT props} : WFObj st props → (∀ kp, kp ∈ props → WFS kp.2.ty) → WFS (.obj id st ptrT props)
  | oneOf {ik d inl members} : (∀ m, m ∈ members → WFS m.2) → (∀ m, m ∈ members → ObjLikeS m.2) →
      WFS (.oneOf ik d inl members)

theorem WFS.of_scope {t : STy} : WFS (.scope t) → WFS t
  | .scope h => h

theorem WFS.of_obj {id : String} {st : StructTy} {ptrT : Bool} {props : List (String × SProp)} :
    WFS (.obj id st ptrT props) → WFObj st props ∧ ∀ kp, kp ∈ props → WFS kp.2.ty
  | .obj h hp => ⟨h, hp⟩

theorem srun_S_objLike (x : Ext) : ∀ (fuel : Nat) (t : STy) (s r : SV), ObjLikeS t →
    srun x fuel .S t s = .ok r → ∃ rm, r = .val (toStrAny rm)
  | 0, _, _, _, _, h => by simp [srun] at h
  | n + 1, t, s, r, ho, h => by
    cases ho with
    | obj =>
      simp only [srun, runObjS] at h
      -- the binds of `runObjS .S`: `unwrapT`, `fromStruct`, the entries, `asVal` (whose result is kept), `interdeps`
      obtain ⟨_, _, h⟩ := Out.bind_eq_ok h
      obtain ⟨_, _, h⟩ := Out.bind_eq_ok h
      obtain ⟨_, _, h⟩ := Out.bind_eq_ok h
      obtain ⟨m', _, h⟩ := Out.bind_eq_ok h
      obtain ⟨_, _, h⟩ := Out.bind_eq_ok h
      cases h
      exact ⟨m', rfl⟩
    | scope ho' =>
      simp only [srun] at h
      exact srun_S_objLike x n _ s r ho' h

/-- `hS`: Serialize asserts without a check that the member's result is a `map[string]any`. -/
theorem avoids_runOneOfS {rec : SRec} (x : Ext) (op : SOp) (ik : Bool) (d : String) (inl : Bool)
    {members : List (Key × STy)} (hrec : ∀ m, m ∈ members → SRecAvoids s rec m.2)
    (hS : s = .panic → ∀ m, m ∈ members → ∀ v r, rec .S m.2 v = .ok r → ∃ rm, r = .val (toStrAny rm)) (v : SV) :
    Avoids s (runOneOfS rec x op ik d inl members v) := by
  cases op <;> simp only [runOneOfS]
  · -- U: every branch of `oneOfUnserS` but the innermost is a constant error
    unfold oneOfUnserS
    split
    · simp
    · simp
    · split
      · simp
      · split
        · simp
        · split
          · simp
          · refine avoids_bind (by split <;> simp) fun key _ => ?_
            split
            · simp
            · split
              · simp
              · rename_i mt hmt
                refine avoids_bind (hrec (key, mt) (lookupK_mem hmt) _ _) fun r _ => ?_
                -- writing the discriminator back: a constant in each case
                (repeat' split) <;> simp
  · -- V: no member for the value's type, or the member's own run
    split
    · simp
    · rename_i k mt hf
      simp [hrec (k, mt) (mem_of_findMember hf).1 .V v]
  · -- S: the same, then the assertion that `hS` covers
    split
    · simp
    · rename_i k mt hf
      have hm := (mem_of_findMember hf).1
      refine avoids_bind (hrec (k, mt) hm _ _) fun r hr => ?_
      cases s
      · obtain ⟨rm, rfl⟩ := hS rfl (k, mt) hm _ _ hr
        simp [toStrAny, MapShape.strAny, strKeys_toStrAny]
      · (repeat' split) <;> simp

theorem avoids_subDefProps {α} {rec : String → α → Option V → Out (Option V)} : ∀ (ps : List (String × α)) (d : List (String × V)),
    (∀ kp, kp ∈ ps → ∀ e, Avoids s (rec kp.1 kp.2 e)) → Avoids s (subDefProps rec ps d)
  | [], d, _ => avoids_ok s d
  | (k, p) :: rest, d, h => by
    rw [subDefProps]
    exact avoids_bind (h (k, p) (List.mem_cons_self ..) _) fun _ _ =>
      avoids_subDefProps rest _ fun kp hkp => h kp (List.mem_cons_of_mem _ hkp)

theorem np_subDefTy : ∀ (n : Nat) (t : Ty) (e : Option V), WF [] t → NP (subDefTy n t e)
  | 0, _, _, _ => by simp [subDefTy]
  | n + 1, t, e, hwf => by
    cases t with
    | obj id props =>
      cases hwf with
      | obj hp hd =>
        rw [subDefTy]
        cases existingMap e with
        | none => exact np_ok _
        | some d0 =>
          refine np_bind (np_defaultsOf _ fun np hnp => ?_) fun _ =>
            np_bind (avoids_subDefProps (s := .panic) _ _ fun kp hkp e' => np_subDefTy n kp.2.ty e' (hp kp hkp)) fun _ => np_ok _
          exact Decidable.by_contra fun h => hd np hnp (defaultOK_eq_false.mp (Bool.eq_false_iff.mpr h))
    | _ => exact np_ok _

theorem WFObj.np_defaultsOf {st : StructTy} {props : List (String × SProp)} (hw : WFObj st props) :
    NP (defaultsOf (rulesOf props)) :=
  SM.np_defaultsOf _ fun _ hnp => by
    obtain ⟨kp, hkp, rfl⟩ := List.mem_map.mp hnp
    exact hw.defaults kp hkp

/-- in a well-formed tree no default, of whatever shape, trips `applySubObjectDefaultValues` -/
theorem np_subDefS : ∀ (n : Nat) (t : STy) (e : Option V), WFS t → NP (subDefS n t e)
  | 0, _, _, _ => by rw [subDefS]; exact np_fuel
  | n + 1, t, e, hwf => by
    cases hwf with
    | leaf h => rw [subDefS]; exact np_subDefTy (n + 1) _ e h
    | @obj id st ptrT props hw hp =>
      rw [subDefS]
      cases ptrT with
      | true => exact np_ok _
      | false =>
        cases existingMap e with
        | none => exact np_ok _
        | some d0 =>
          refine np_bind hw.np_defaultsOf fun _ => np_bind (avoids_subDefProps (s := .panic) _ _ fun kp hkp e' => ?_) fun _ => np_ok _
          cases fieldSkips st kp.1 with
          | true => exact np_ok _
          | false => exact np_subDefS n kp.2.ty e' (hp kp hkp)
    | _ => exact np_ok _

theorem srun_np (x : Ext) : ∀ (fuel : Nat) (op : SOp) (t : STy) (s : SV), WFS t → NP (srun x fuel op t s)
  | 0, _, _, _, _ => by simp [srun]
  | n + 1, op, t, s, hwf => by
    have ih : ∀ {t : STy}, WFS t → SRecAvoids .panic (srun x n) t := fun ht op s => srun_np x n op _ s ht
    cases hwf with
    | leaf h => simp only [srun]; exact np_runLeaf x n op _ s h
    | list h => simp only [srun]; exact avoids_runListS (ih h) op _ _ s
    | map hk hv => simp only [srun]; exact avoids_runMapS (s := .panic) (fun op k => C04_no_panic_closed x n op _ k hk) (ih hv) op _ _ s
    | scope h => simp only [srun]; exact srun_np x n op _ s h
    | obj hw hp =>
      simp only [srun]
      exact avoids_runObjS (fun kp hkp => ih (hp kp hkp)) n op _ hw (fun kp hkp e => np_subDefS n _ e (hp kp hkp)) s
    | oneOf hm ho =>
      simp only [srun]
      exact avoids_runOneOfS x op _ _ _ (fun m hmm => ih (hm m hmm))
        (fun _ m hmm s r hr => srun_S_objLike x n _ s r (ho m hmm) hr) s

theorem subDefProps_mono {α} {rec rec' : String → α → Option V → Out (Option V)}
    (h : ∀ k p e, (rec k p e).le (rec' k p e)) :
    ∀ (ps : List (String × α)) (d : List (String × V)), (subDefProps rec ps d).le (subDefProps rec' ps d)
  | [], _ => le_refl _
  | (k, p) :: rest, d => by
    rw [subDefProps, subDefProps]
    exact le_bind (h k p _) fun _ => subDefProps_mono h rest _

theorem subDefTy_mono : ∀ (n : Nat) (t : Ty) (e : Option V), (subDefTy n t e).le (subDefTy (n + 1) t e)
  | 0, _, _ => Or.inl (by rw [subDefTy])
  | n + 1, t, e => by
    cases t with
    | obj id props =>
      rw [subDefTy, subDefTy]
      cases existingMap e with
      | none => exact le_refl _
      | some d0 =>
        exact le_bind_right fun _ =>
          le_bind_left (subDefProps_mono (fun _ (p : PropT) e => subDefTy_mono n p.ty e) _ _)
    | _ => exact le_refl _

theorem subDefS_mono : ∀ (n : Nat) (t : STy) (e : Option V), (subDefS n t e).le (subDefS (n + 1) t e)
  | 0, _, _ => Or.inl (by rw [subDefS])
  | n + 1, t, e => by
    cases t with
    | leaf t => rw [subDefS, subDefS]; exact subDefTy_mono (n + 1) t e
    | obj id st ptrT props =>
      rw [subDefS, subDefS]
      cases ptrT with
      | true => exact le_refl _
      | false =>
        cases existingMap e with
        | none => exact le_refl _
        | some d0 =>
          refine le_bind_right fun _ => le_bind_left (subDefProps_mono (fun k (p : SProp) e => ?_) _ _)
          cases fieldSkips st k with
          | true => exact le_refl _
          | false => exact subDefS_mono n p.ty e
    | _ => exact le_refl _

theorem subDefS_mono_k (n : Nat) (t : STy) (e : Option V) (o : Out (Option V))
    (ho : subDefS n t e = o) (hne : o ≠ .fuel) : ∀ k, subDefS (n + k) t e = o
  | 0 => ho
  | k + 1 => eq_of_le (subDefS_mono (n + k) t e) (subDefS_mono_k n t e o ho hne k) hne

theorem wfSB_sound : ∀ (n : Nat) (t : STy), wfSB n t = true → WFS t
  | 0, _, h => by simp [wfSB] at h
  | n + 1, t, h => by
    cases t with
    | leaf t => exact .leaf (wfB_sound _ _ _ (by simpa [wfSB] using h))
    | list item a b => exact .list (wfSB_sound n item (by simpa [wfSB] using h))
    | map k v a b =>
      simp only [wfSB, Bool.and_eq_true] at h
      exact .map (wfB_sound _ _ _ h.1) (wfSB_sound n v h.2)
    | scope t => exact .scope (wfSB_sound n t (by simpa [wfSB] using h))
    | obj id st ptrT props =>
      simp only [wfSB, Bool.and_eq_true, List.all_eq_true] at h
      exact .obj ((wfObjB_iff st props).mp h.1) (fun kp hkp => wfSB_sound n kp.2.ty (h.2 kp hkp))
    | oneOf ik d inl members =>
      simp only [wfSB, Bool.and_eq_true, List.all_eq_true] at h
      -- `WFS` asks of a member only `wfSB` and `objLikeS`; `discOK` and the two `Nodup`s are not needed for it
      obtain ⟨⟨hmem, _⟩, _⟩ := h
      exact .oneOf (fun m hm => wfSB_sound n m.2 (hmem m hm).1.1) (fun m hm => objLikeS_sound n m.2 (hmem m hm).1.2)

theorem avoids_allOk {α} {f : α → Out Unit} : ∀ (l : List α), (∀ a, a ∈ l → Avoids s (f a)) → Avoids s (allOk f l)
  | [], _ => avoids_ok s _
  | a :: rest, h => by
    rw [allOk]
    exact avoids_bind (h a (List.mem_cons_self ..)) fun _ _ => avoids_allOk rest fun b hb => h b (List.mem_cons_of_mem _ hb)

theorem np_constructObj {st : StructTy} {props : List (String × SProp)} (hwf : WFObj st props) :
    NP (constructObj st props) := by
  refine np_bind hwf.np_defaultsOf fun _ => ?_
  rw [if_pos (List.all_eq_true.mpr fun kp hkp => ?_)]
  · exact np_ok _
  · obtain ⟨f, hf, _⟩ := propOK_field (hwf.prop kp hkp)
    rw [hf]; rfl

theorem construct_np : ∀ (fuel : Nat) (t : STy), WFS t → NP (construct fuel t)
  | 0, _, _ => by simp [construct]
  | n + 1, t, hwf => by
    cases hwf with
    | leaf _ => simp [construct]
    | list h => simp only [construct]; exact construct_np n _ h
    | map _ h => simp only [construct]; exact construct_np n _ h
    | scope h => simp only [construct]; exact construct_np n _ h
    | obj hw hp =>
      simp only [construct]
      exact np_bind (avoids_allOk (s := .panic) _ (fun kp hkp => construct_np n _ (hp kp hkp))) (fun _ => np_constructObj hw)
    | oneOf hm _ =>
      simp only [construct]
      exact avoids_allOk (s := .panic) _ (fun m hmm => construct_np n _ (hm m hmm))

end SM
end Arca
