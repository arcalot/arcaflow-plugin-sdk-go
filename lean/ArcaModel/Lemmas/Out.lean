import ArcaModel.Lemmas.Assoc
/-
  Generic lemmas about `Out` and the traversal helpers.

  An operation can fail to answer in two ways: it panics, or it exhausts its budget. Both are
  constant outcomes that `bind`, path segments, error rewrapping and the traversals hand on
  unchanged, so "the outcome is not stuck in way `s`" (`Out.Avoids s`) is preserved by all of them
  for the same reason. `NP` (`o ≠ .panic`, below) unfolds `Avoids .panic`; `Halts` (Terminates.lean)
  and `NF` (NoFuel.lean), both `o ≠ .fuel`, unfold `Avoids .fuel`: the lemmas of `Avoids` apply to them.
  `Out.OnOk P` and `Out.OnErr P` say that every answer, resp. every error, of an outcome satisfies
  `P`; they pass through the same combinators.
  `a.le b` compares two runs of which the second had more budget: it is closed under the same
  operations, because all of them hand on `fuel`.
-/
namespace Arca

/-- the two outcomes that are not an answer of the Go code -/
inductive Stuck where
  | panic | fuel

def Stuck.out {α} : Stuck → Out α
  | .panic => .panic
  | .fuel => .fuel

namespace Out

theorem bind_eq_ok {α β} {a : Out α} {f : α → Out β} {r : β} (h : a.bind f = .ok r) :
    ∃ x, a = .ok x ∧ f x = .ok r := by
  cases a with
  | ok x => exact ⟨x, rfl, h⟩
  | _ => cases h

theorem ok_bind {α β} (a : α) (f : α → Out β) : (Out.ok a).bind f = f a := rfl

theorem bind_eq_err {α β} {a : Out α} {f : α → Out β} {e : Err} (h : a.bind f = .err e) :
    a = .err e ∨ ∃ x, a = .ok x ∧ f x = .err e := by
  cases a with
  | ok x => exact .inr ⟨x, rfl, h⟩
  | err _ => cases h; exact .inl rfl
  | panic => cases h
  | fuel => cases h

def Avoids {α} (s : Stuck) (o : Out α) : Prop := o ≠ s.out

@[simp] theorem avoids_ok {α} (s : Stuck) (a : α) : Avoids s (Out.ok a) := by cases s <;> simp [Avoids, Stuck.out]
@[simp] theorem avoids_err {α} (s : Stuck) (e : Err) : Avoids s (Out.err e : Out α) := by
  cases s <;> simp [Avoids, Stuck.out]
@[simp] theorem avoids_panic_fuel {α} : Avoids .panic (Out.fuel : Out α) := by simp [Avoids, Stuck.out]
@[simp] theorem avoids_fuel_panic {α} : Avoids .fuel (Out.panic : Out α) := by simp [Avoids, Stuck.out]
@[simp] theorem avoids_cerr {α} (s : Stuck) : Avoids s (Out.cerr : Out α) := avoids_err s _
@[simp] theorem avoids_plain {α} (s : Stuck) : Avoids s (Out.plain : Out α) := avoids_err s _
@[simp] theorem avoids_cerrAt {α} (s : Stuck) (p : List String) : Avoids s (Out.cerrAt p : Out α) := avoids_err s _

@[simp] theorem avoids_bind_iff {α β} {s : Stuck} {a : Out α} {f : α → Out β} :
    Avoids s (a.bind f) ↔ Avoids s a ∧ ∀ x, a = .ok x → Avoids s (f x) := by
  cases a with
  | ok x => simp [bind]
  | _ => cases s <;> simp [Avoids, Stuck.out, bind]

theorem avoids_bind {α β} {s : Stuck} {a : Out α} {f : α → Out β} (ha : Avoids s a)
    (hf : ∀ x, a = .ok x → Avoids s (f x)) : Avoids s (a.bind f) := avoids_bind_iff.2 ⟨ha, hf⟩

@[simp] theorem avoids_addSeg_iff {α} {s : Stuck} {a : Out α} {seg : String} : Avoids s (a.addSeg seg) ↔ Avoids s a := by
  cases a <;> simp [addSeg]

theorem avoids_addSeg {α} {s : Stuck} {a : Out α} (seg : String) (ha : Avoids s a) : Avoids s (a.addSeg seg) :=
  avoids_addSeg_iff.2 ha

@[simp] theorem avoids_ite {α} {s : Stuck} {c : Prop} [Decidable c] {a b : Out α} :
    Avoids s (if c then a else b) ↔ (c → Avoids s a) ∧ (¬ c → Avoids s b) := by
  split <;> simp [*]

theorem avoids_ite_of {α} {s : Stuck} {c : Prop} [Decidable c] {a b : Out α} (ha : Avoids s a) (hb : Avoids s b) :
    Avoids s (if c then a else b) := by
  split <;> assumption

def NP {α} (o : Out α) : Prop := o ≠ .panic

@[simp] theorem np_ok {α} (a : α) : NP (Out.ok a) := avoids_ok .panic a
@[simp] theorem np_err {α} (e : Err) : NP (Out.err e : Out α) := avoids_err .panic e
@[simp] theorem np_fuel {α} : NP (Out.fuel : Out α) := by simp [NP]
@[simp] theorem np_panic {α} : ¬ NP (Out.panic : Out α) := by simp [NP]
@[simp] theorem np_cerr {α} : NP (Out.cerr : Out α) := np_err _

theorem np_bind {α β} {a : Out α} {f : α → Out β} (ha : NP a) (hf : ∀ x, NP (f x)) : NP (a.bind f) :=
  avoids_bind (s := .panic) ha fun x _ => hf x

def OnOk {α} (P : α → Prop) (o : Out α) : Prop := ∀ r, o = .ok r → P r

@[simp] theorem onOk_ok {α} {P : α → Prop} {a : α} : OnOk P (.ok a) ↔ P a :=
  ⟨fun h => h a rfl, fun h _ e => Out.ok.inj e ▸ h⟩
@[simp] theorem OnOk.err {α} {P : α → Prop} {e : Err} : OnOk P (.err e) := nofun
@[simp] theorem OnOk.cerr {α} {P : α → Prop} : OnOk P (cerr : Out α) := nofun
@[simp] theorem OnOk.plain {α} {P : α → Prop} : OnOk P (plain : Out α) := nofun
@[simp] theorem OnOk.panic {α} {P : α → Prop} : OnOk P (.panic : Out α) := nofun
@[simp] theorem OnOk.fuel {α} {P : α → Prop} : OnOk P (.fuel : Out α) := nofun

@[simp] theorem onOk_bind {α β} {P : β → Prop} {a : Out α} {f : α → Out β} :
    OnOk P (a.bind f) ↔ ∀ y, a = .ok y → OnOk P (f y) := by
  cases a <;> simp [bind]

@[simp] theorem onOk_ite {α} {P : α → Prop} {c : Prop} [Decidable c] {a b : Out α} :
    OnOk P (if c then a else b) ↔ (c → OnOk P a) ∧ (¬ c → OnOk P b) := by
  split <;> simp [*]

namespace OnOk
variable {α β : Type} {P : α → Prop}

theorem ok {a : α} (h : P a) : OnOk P (.ok a) := onOk_ok.mpr h

theorem bind {o : Out β} {f : β → Out α} (h : ∀ b, o = .ok b → OnOk P (f b)) : OnOk P (o.bind f) := onOk_bind.mpr h

theorem ite {c : Prop} [Decidable c] {a b : Out α} (ha : c → OnOk P a) (hb : ¬c → OnOk P b) :
    OnOk P (if c then a else b) := onOk_ite.mpr ⟨ha, hb⟩

end OnOk

def le {α} (a b : Out α) : Prop := a = .fuel ∨ a = b

theorem le_refl {α} (a : Out α) : a.le a := Or.inr rfl
theorem fuel_le {α} (b : Out α) : (Out.fuel : Out α).le b := Or.inl rfl

theorem le_trans {α} {a b c : Out α} (h1 : a.le b) (h2 : b.le c) : a.le c := by
  rcases h1 with h | rfl
  · exact Or.inl h
  · exact h2

theorem eq_of_le {α} {a b : Out α} {o : Out α} (h : a.le b) (ha : a = o) (hne : o ≠ .fuel) : b = o := by
  rcases h with h | rfl
  · exact absurd (ha.symm.trans h) hne
  · exact ha

theorem le_map {α β} {g : Out α → Out β} (hg : g .fuel = .fuel) {a a' : Out α} (ha : a.le a') : (g a).le (g a') := by
  rcases ha with rfl | rfl
  · exact Or.inl hg
  · exact le_refl _

theorem le_bind {α β} {a a' : Out α} {f f' : α → Out β} (ha : a.le a') (hf : ∀ x, (f x).le (f' x)) :
    (a.bind f).le (a'.bind f') := by
  refine le_trans (le_map (g := (·.bind f)) rfl ha) ?_
  cases a' with
  | ok x => exact hf x
  | _ => exact le_refl _

theorem le_bind_left {α β} {a a' : Out α} {f : α → Out β} (ha : a.le a') : (a.bind f).le (a'.bind f) :=
  le_bind ha fun _ => le_refl _

theorem le_bind_right {α β} {a : Out α} {f f' : α → Out β} (hf : ∀ x, (f x).le (f' x)) : (a.bind f).le (a.bind f') :=
  le_bind (le_refl _) hf

theorem le_addSeg {α} {a a' : Out α} (s : String) (ha : a.le a') : (a.addSeg s).le (a'.addSeg s) := le_map rfl ha

end Out

open Out

@[simp] theorem avoids_rewrapC_iff {α} {s : Stuck} {a : Out α} : Avoids s (rewrapC a) ↔ Avoids s a := by
  cases a <;> simp [rewrapC]

@[simp] theorem avoids_rewrapP_iff {α} {s : Stuck} {a : Out α} : Avoids s (rewrapP a) ↔ Avoids s a := by
  cases a <;> simp [rewrapP]

theorem avoids_rewrapC {α} {s : Stuck} {a : Out α} (ha : Avoids s a) : Avoids s (rewrapC a) := avoids_rewrapC_iff.2 ha

theorem avoids_rewrapP {α} {s : Stuck} {a : Out α} (ha : Avoids s a) : Avoids s (rewrapP a) := avoids_rewrapP_iff.2 ha

theorem rewrapC_eq_ok {α} {a : Out α} {r : α} : rewrapC a = .ok r ↔ a = .ok r := by
  cases a <;> simp [rewrapC, Out.cerr]

theorem rewrapP_eq_ok {α} {a : Out α} {r : α} : rewrapP a = .ok r ↔ a = .ok r := by
  cases a <;> simp [rewrapP, Out.plain]

theorem addSeg_eq_ok {α} {o : Out α} {s : String} {a : α} : o.addSeg s = .ok a ↔ o = .ok a := by
  cases o <;> simp [Out.addSeg]

theorem addSeg_ok {α} (seg : String) (a : α) : (Out.ok a).addSeg seg = .ok a := rfl

theorem isOk_unit {o : Out Unit} (h : o.isOk = true) : o = .ok () := by
  cases o <;> simp_all [Out.isOk]

theorem ite_cerr_eq_ok {α} {c : Prop} [Decidable c] {a : Out α} {r : α} :
    (if c then .cerr else a) = .ok r ↔ ¬ c ∧ a = .ok r := by
  split <;> simp [*, cerr]

theorem le_rewrapC {α} {a a' : Out α} (ha : a.le a') : (rewrapC a).le (rewrapC a') := le_map rfl ha

theorem le_rewrapP {α} {a a' : Out α} (ha : a.le a') : (rewrapP a).le (rewrapP a') := le_map rfl ha

namespace Out

def OnErr {α} (P : Err → Prop) (o : Out α) : Prop := ∀ e, o = .err e → P e

/-- `o` rejects only with a fresh constraint error without path: one raised where `o` is computed -/
abbrev Own {α} (o : Out α) : Prop := OnErr (fun e => e = ⟨true, []⟩) o

namespace OnErr
variable {α β : Type} {P Q : Err → Prop}

theorem of_ne {o : Out α} (h : ∀ e, o ≠ .err e) : OnErr P o := fun e he => absurd he (h e)
theorem ok {a : α} : OnErr P (.ok a) := nofun
theorem panic : OnErr P (.panic : Out α) := nofun
theorem err {e : Err} (h : P e) : OnErr P (.err e : Out α) := fun _ h' => by cases h'; exact h
theorem cerr (h : P ⟨true, []⟩) : OnErr P (cerr : Out α) := err h
theorem plain (h : P ⟨false, []⟩) : OnErr P (plain : Out α) := err h

theorem mono {o : Out α} (h : OnErr P o) (hpq : ∀ e, P e → Q e) : OnErr Q o := fun e he => hpq e (h e he)

theorem bind {a : Out α} {f : α → Out β} (ha : OnErr P a) (hf : ∀ r, a = .ok r → OnErr P (f r)) :
    OnErr P (a.bind f) := fun e h =>
  match bind_eq_err h with
  | .inl h => ha e h
  | .inr ⟨r, hr, h⟩ => hf r hr e h

theorem ite {c : Prop} [Decidable c] {a b : Out α} (ha : c → OnErr P a) (hb : ¬ c → OnErr P b) :
    OnErr P (if c then a else b) := by
  split
  · exact ha ‹_›
  · exact hb ‹_›

/-- `ConstraintErrorAddPathSegment` -/
theorem addSeg {o : Out α} {s : String} (h : OnErr (fun e => P ⟨true, s :: e.path⟩) o) : OnErr P (o.addSeg s) := by
  cases o with
  | err e => exact err (h e rfl)
  | _ => nofun

theorem rewrapC {o : Out α} (h : ∀ e, o = .err e → P ⟨true, []⟩) : OnErr P (rewrapC o) := by
  cases o with
  | err e => exact err (h e rfl)
  | _ => nofun

theorem rewrapP {o : Out α} (h : P ⟨false, []⟩) : OnErr P (rewrapP o) := by
  cases o with
  | err e => exact err h
  | _ => nofun

end OnErr

end Out

theorem forIdx_cons (f : Nat → V → Out V) (i : Nat) (x : V) (xs : List V) :
    forIdx f i (x :: xs) = (f i x).bind fun y => (forIdx f (i + 1) xs).bind fun ys => .ok (y :: ys) := by
  rw [forIdx]
  cases f i x with
  | ok y => cases forIdx f (i + 1) xs <;> rfl
  | _ => rfl

theorem forKV_cons (f : V → V → Out (V × V)) (k v : V) (rest : List (V × V)) :
    forKV f ((k, v) :: rest) = (f k v).bind fun kv => (forKV f rest).bind fun kvs => .ok (kv :: kvs) := by
  rw [forKV]
  cases f k v with
  | ok y => cases forKV f rest <;> rfl
  | _ => rfl

theorem forSV_cons (f : String → V → Out V) (k : String) (v : V) (rest : List (String × V)) :
    forSV f ((k, v) :: rest) = (f k v).bind fun v' => (forSV f rest).bind fun kvs => .ok ((k, v') :: kvs) := by
  rw [forSV]
  cases f k v with
  | ok y => cases forSV f rest <;> rfl
  | _ => rfl

theorem avoids_forIdx {s : Stuck} {f : Nat → V → Out V} : ∀ (n : Nat) (xs : List V),
    (∀ i x, x ∈ xs → Avoids s (f i x)) → Avoids s (forIdx f n xs)
  | _, [], _ => avoids_ok s _
  | n, x :: xs, h => by
    rw [forIdx_cons]
    exact avoids_bind (h n x (List.mem_cons_self ..)) fun _ _ =>
      avoids_bind (avoids_forIdx (n + 1) xs fun i y hy => h i y (List.mem_cons_of_mem _ hy)) fun _ _ => avoids_ok s _

theorem avoids_forKV {s : Stuck} {f : V → V → Out (V × V)} : ∀ (kvs : List (V × V)),
    (∀ k v, (k, v) ∈ kvs → Avoids s (f k v)) → Avoids s (forKV f kvs)
  | [], _ => avoids_ok s _
  | (k, v) :: rest, h => by
    rw [forKV_cons]
    exact avoids_bind (h k v (List.mem_cons_self ..)) fun _ _ =>
      avoids_bind (avoids_forKV rest fun k' v' hkv => h k' v' (List.mem_cons_of_mem _ hkv)) fun _ _ => avoids_ok s _

theorem avoids_forSV {s : Stuck} {f : String → V → Out V} : ∀ (kvs : List (String × V)),
    (∀ k v, (k, v) ∈ kvs → Avoids s (f k v)) → Avoids s (forSV f kvs)
  | [], _ => avoids_ok s _
  | (k, v) :: rest, h => by
    rw [forSV_cons]
    exact avoids_bind (h k v (List.mem_cons_self ..)) fun _ _ =>
      avoids_bind (avoids_forSV rest fun k' v' hkv => h k' v' (List.mem_cons_of_mem _ hkv)) fun _ _ => avoids_ok s _

theorem le_forIdx {f f' : Nat → V → Out V} (hf : ∀ i x, (f i x).le (f' i x)) :
    ∀ (n : Nat) (xs : List V), (forIdx f n xs).le (forIdx f' n xs)
  | _, [] => le_refl _
  | n, x :: xs => by
    rw [forIdx_cons, forIdx_cons]
    exact le_bind (hf n x) fun _ => le_bind (le_forIdx hf (n + 1) xs) fun _ => le_refl _

theorem le_forKV {f f' : V → V → Out (V × V)} (hf : ∀ k v, (f k v).le (f' k v)) :
    ∀ (kvs : List (V × V)), (forKV f kvs).le (forKV f' kvs)
  | [] => le_refl _
  | (k, v) :: rest => by
    rw [forKV_cons, forKV_cons]
    exact le_bind (hf k v) fun _ => le_bind (le_forKV hf rest) fun _ => le_refl _

theorem le_forSV {f f' : String → V → Out V} (hf : ∀ k v, (f k v).le (f' k v)) :
    ∀ (kvs : List (String × V)), (forSV f kvs).le (forSV f' kvs)
  | [] => le_refl _
  | (k, v) :: rest => by
    rw [forSV_cons, forSV_cons]
    exact le_bind (hf k v) fun _ => le_bind (le_forSV hf rest) fun _ => le_refl _

end Arca
