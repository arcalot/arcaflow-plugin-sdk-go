import ArcaModel.Lemmas.DescribeMeta
/-
  `ofDescription` reads the normal representation of a description back into the schema tree it
  describes (C09).
-/
namespace Arca
open Parse

theorem fields?_norm (m : List (String × V)) : fields? (Rep.norm.obj m) = some m := strKeys?_map m

theorem lookupS_optF_self {α} (k : String) (f : α → V) (o : Option α) : lookupS k (optF k f o) = o.map f := by
  simp only [lookupS_optF, beq_self_eq_true]

theorem lookupS_optF_ne {α} (k k' : String) (f : α → V) (o : Option α) (h : (k == k') = false) :
    lookupS k (optF k' f o) = none := by
  simp only [lookupS_optF, h]

theorem lookupS_snoc_ne {α} (k k' : String) (v : α) (m : List (String × α)) (h : (k == k') = false) :
    lookupS k (m ++ [(k', v)]) = lookupS k m := by
  simp only [lookupS_append, lookupS_cons_beq, h, lookupS_nil, Option.or_none]

@[simp] theorem Rep.norm_int (n : Int) : Rep.norm.int n = .int .int64 n := rfl
@[simp] theorem Rep.norm_kv (kt : KeyTy) (va : Bool) (kvs : List (V × V)) : Rep.norm.kv kt va kvs = .map ⟨kt, va⟩ kvs := rfl
@[simp] theorem Rep.norm_pat (s : String) : Rep.norm.pat s = .regex s := rfl

section
variable {m : Fields} {k : String}

theorem optStr_of {o : Option String} (h : lookupS k m = o.map V.str) : optStr m k = some o := by
  cases o <;> simp only [optStr, h] <;> rfl

theorem reqStr_of {s : String} (h : lookupS k m = some (.str s)) : reqStr m k = some s := by
  simp only [reqStr, h]

theorem strOr_of {s d : String} (h : lookupS k m = some (.str s)) : strOr m k d = some s := by
  simp only [strOr, h]

theorem boolOr_of {b d : Bool} (h : lookupS k m = some (.bool b)) : boolOr m k d = some b := by
  simp only [boolOr, h]

theorem optInt_of {o : Option Int} (h : lookupS k m = o.map Rep.norm.int) : optInt m k = some o := by
  cases o <;> simp only [optInt, h] <;> rfl

theorem optFloat_of {o : Option Nat} (h : lookupS k m = o.map f64) : optFloat m k = some o := by
  cases o <;> simp only [optFloat, h] <;> rfl

theorem optPattern_of {o : Option String} (h : lookupS "pattern" m = o.map Rep.norm.pat) : optPattern m = some o := by
  cases o <;> simp only [optPattern, h] <;> rfl

theorem entries_of (kt : KeyTy) (va : Bool) (kvs : List (V × V)) (h : lookupS k m = some (Rep.norm.kv kt va kvs)) :
    entries m k = some kvs := by
  simp only [entries, h, Rep.norm_kv]

theorem mapM_strs : ∀ (ss : List String),
    (ss.map V.str).mapM (fun v => match v with | V.str s => some s | _ => none) = some ss
  | [] => rfl
  | s :: rest => by simp [mapM_strs rest]

theorem strs_of {ss : List String} (h : lookupS k m = some (strList ss)) : strs m k = some ss := by
  simp only [strs, h, strList]
  exact mapM_strs ss

end

theorem strs_cons_hit (m : List (String × V)) (k : String) (ss : List String) :
    strs ((k, strList ss) :: m) k = some ss :=
  strs_of (by simp only [lookupS_cons_beq, beq_self_eq_true])

theorem strs_cons_miss (m : List (String × V)) (k k' : String) (v : V) (h : (k == k') = false) :
    strs ((k', v) :: m) k = strs m k := by
  simp only [strs, lookupS_cons_beq, h]

theorem intKeyed_nil {α} (f : V → Option α) : intKeyed f [] = some [] := rfl
theorem intKeyed_cons {α} (f : V → Option α) (k : Int) (v : V) (rest : List (V × V)) {a : α} {as : List (Int × α)}
    (h1 : f v = some a) (h2 : intKeyed f rest = some as) :
    intKeyed f ((.int .int64 k, v) :: rest) = some ((k, a) :: as) := by
  simp only [intKeyed] at h2 ⊢
  simp [h1, h2]

theorem strKeyed_nil {α} (f : V → Option α) : strKeyed f [] = some [] := rfl
theorem strKeyed_cons {α} (f : V → Option α) (k : String) (v : V) (rest : List (V × V)) {a : α} {as : List (String × α)}
    (h1 : f v = some a) (h2 : strKeyed f rest = some as) :
    strKeyed f ((.str k, v) :: rest) = some ((k, a) :: as) := by
  simp only [strKeyed] at h2 ⊢
  simp [h1, h2]

theorem parse_disp (d : Disp) : disp (descDisp .norm d) = some d := by
  unfold disp
  rw [descDisp, fields?_norm]
  simp only [Option.bind_eq_bind, Option.bind_some]
  rw [optStr_of (o := d.name), optStr_of (o := d.desc), optStr_of (o := d.icon)]
  · rfl
  all_goals simp only [lookupS_append, lookupS_optF, String.reduceBEq,
    Option.or_none, Option.none_or]

theorem optDisp_of {m : Fields} {o : Option Disp} (h : lookupS "display" m = o.map (descDisp .norm)) :
    optDisp m = some o := by
  cases o <;> simp only [optDisp, h, Option.map, parse_disp]

theorem parse_unit (u : UnitNames) : unit (descUnit .norm u) = some u := by
  unfold unit
  rw [descUnit, fields?_norm]
  simp only [Option.bind_eq_bind, Option.bind_some]
  rw [reqStr_of (s := u.ss), reqStr_of (s := u.sp), reqStr_of (s := u.ls), reqStr_of (s := u.lp)]
  · rfl
  all_goals simp only [lookupS_cons_beq, String.reduceBEq]

theorem parse_mults : ∀ (ms : List (Int × UnitNames)), intKeyed unit (descMults .norm ms) = some ms
  | [] => rfl
  | (_, n) :: rest => intKeyed_cons _ _ _ _ (parse_unit n) (parse_mults rest)

theorem parse_units (u : Units) : units (descUnits .norm u) = some u := by
  unfold units
  rw [descUnits, fields?_norm]
  simp only [Option.bind_eq_bind, Option.bind_some, lookupS_cons_beq, String.reduceBEq, parse_unit]
  rw [entries_of .int64 false (descMults .norm u.mults)]
  · simp only [Option.bind_some, parse_mults]; rfl
  · simp only [lookupS_cons_beq, String.reduceBEq]

theorem parse_optUnits (m : List (String × V)) (u : Option Units)
    (h : lookupS "units" m = u.map (descUnits .norm)) : optUnits m = some u := by
  cases u <;> simp only [optUnits, h, Option.map, parse_units]

theorem parse_intVals : ∀ (vs : List (Int × Disp)), intKeyed disp (descIntVals .norm vs) = some vs
  | [] => rfl
  | (_, d) :: rest => intKeyed_cons _ _ _ _ (parse_disp d) (parse_intVals rest)

theorem parse_strVals : ∀ (vs : List (String × Disp)), strKeyed disp (descStrVals .norm vs) = some vs
  | [] => rfl
  | (_, d) :: rest => strKeyed_cons _ _ _ _ (parse_disp d) (parse_strVals rest)

theorem ty_step (n : Nat) (t : DTy) :
    Parse.ty (n + 1) (descTy .norm t) = tyOf (Parse.ty n) t.typeId (descTyF .norm t ++ [("type_id", V.str t.typeId)]) := by
  have : reqStr (descTyF .norm t ++ [("type_id", V.str t.typeId)]) "type_id" = some t.typeId :=
    reqStr_of (by
      have h : lookupS "type_id" (descTyF .norm t) = none := by simpa [hasKey] using noTypeId .norm t
      simp only [lookupS_append, h, lookupS_cons_beq, beq_self_eq_true, Option.none_or])
  simp [Parse.ty, descTy, Rep.typed, fields?_norm, this]

theorem tid_int (a b : Option Int) (u : Option Units) : (DTy.int a b u).typeId = "integer" := rfl
theorem tid_float (a b : Option Nat) (u : Option Units) : (DTy.float a b u).typeId = "float" := rfl
theorem tid_str (a b : Option Int) (p : Option String) : (DTy.str a b p).typeId = "string" := rfl
theorem tid_enumInt (vs : List (Int × Disp)) (u : Option Units) : (DTy.enumInt vs u).typeId = "enum_integer" := rfl
theorem tid_enumStr (vs : List (String × Disp)) : (DTy.enumStr vs).typeId = "enum_string" := rfl
theorem tid_list (i : DTy) (a b : Option Int) : (DTy.list i a b).typeId = "list" := rfl
theorem tid_map (k v : DTy) (a b : Option Int) : (DTy.map k v a b).typeId = "map" := rfl
theorem tid_ref (id ns : String) (d : Option Disp) : (DTy.ref id ns d).typeId = "ref" := rfl

/-! Kind by kind: every reader is rewritten by its `_of` lemma; what remains are the lookups in
    the field list, which the equations of `lookupS` on `::`, `++`, `optF` compute. -/

theorem parse_int (n : Nat) (a b : Option Int) (u : Option Units) :
    Parse.ty (n + 1) (descTy .norm (.int a b u)) = some (.int a b u) := by
  rw [ty_step]
  show pInt _ = _
  unfold pInt
  rw [optInt_of (o := a), optInt_of (o := b), parse_optUnits _ u]
  · rfl
  all_goals simp only [descTyF, lookupS_append, lookupS_optF, lookupS_cons_beq, lookupS_nil, String.reduceBEq,
    Option.or_none, Option.none_or]

theorem parse_float (n : Nat) (a b : Option Nat) (u : Option Units) :
    Parse.ty (n + 1) (descTy .norm (.float a b u)) = some (.float a b u) := by
  rw [ty_step]
  show pFloat _ = _
  unfold pFloat
  rw [optFloat_of (o := a), optFloat_of (o := b), parse_optUnits _ u]
  · rfl
  all_goals simp only [descTyF, lookupS_append, lookupS_optF, lookupS_cons_beq, lookupS_nil, String.reduceBEq,
    Option.or_none, Option.none_or]

theorem parse_str (n : Nat) (a b : Option Int) (p : Option String) :
    Parse.ty (n + 1) (descTy .norm (.str a b p)) = some (.str a b p) := by
  rw [ty_step]
  show pStr _ = _
  unfold pStr
  rw [optInt_of (o := a), optInt_of (o := b), optPattern_of (o := p)]
  · rfl
  all_goals simp only [descTyF, lookupS_append, lookupS_optF, lookupS_cons_beq, lookupS_nil, String.reduceBEq,
    Option.or_none, Option.none_or]

theorem parse_enumInt (n : Nat) (vs : List (Int × Disp)) (u : Option Units) :
    Parse.ty (n + 1) (descTy .norm (.enumInt vs u)) = some (.enumInt vs u) := by
  rw [ty_step]
  show pEnumInt _ = _
  unfold pEnumInt
  rw [entries_of .int64 false (descIntVals .norm vs), parse_optUnits _ u]
  · simp only [Option.bind_eq_bind, Option.bind_some, parse_intVals]; rfl
  all_goals simp only [descTyF, lookupS_append, lookupS_optF, lookupS_cons_beq, lookupS_nil, String.reduceBEq,
    Option.or_none, Option.none_or]

theorem parse_enumStr (n : Nat) (vs : List (String × Disp)) :
    Parse.ty (n + 1) (descTy .norm (.enumStr vs)) = some (.enumStr vs) := by
  rw [ty_step]
  show pEnumStr _ = _
  unfold pEnumStr
  rw [entries_of .string false (descStrVals .norm vs)]
  · simp only [Option.bind_eq_bind, Option.bind_some, parse_strVals]; rfl
  · simp only [descTyF, lookupS_append, lookupS_cons_beq, lookupS_nil, String.reduceBEq,
    Option.or_none]

theorem parse_ref (n : Nat) (id ns : String) (d : Option Disp) :
    Parse.ty (n + 1) (descTy .norm (.ref id ns d)) = some (.ref id ns d) := by
  rw [ty_step]
  show pRef _ = _
  unfold pRef
  rw [strOr_of (s := id), strOr_of (s := ns), optDisp_of (o := d)]
  · rfl
  all_goals simp only [descTyF, lookupS_append, lookupS_optF, lookupS_cons_beq, lookupS_nil, String.reduceBEq,
    Option.or_none, Option.none_or]

theorem parse_list_of (n : Nat) (item : DTy) (a b : Option Int)
    (h : Parse.ty n (descTy .norm item) = some item) :
    Parse.ty (n + 1) (descTy .norm (.list item a b)) = some (.list item a b) := by
  rw [ty_step]
  show pList _ _ = _
  unfold pList
  rw [show lookupS "items" _ = some (descTy .norm item) from ?_, optInt_of (o := a), optInt_of (o := b)]
  · simp only [Option.bind_eq_bind, Option.bind_some, h]; rfl
  all_goals simp only [descTyF, descTy, lookupS_append, lookupS_optF, lookupS_cons_beq, lookupS_nil, String.reduceBEq,
    Option.or_none, Option.none_or]

theorem parse_map_of (n : Nat) (k v : DTy) (a b : Option Int)
    (hk : Parse.ty n (descTy .norm k) = some k) (hv : Parse.ty n (descTy .norm v) = some v) :
    Parse.ty (n + 1) (descTy .norm (.map k v a b)) = some (.map k v a b) := by
  rw [ty_step]
  show pMap _ _ = _
  unfold pMap
  rw [show lookupS "keys" _ = some (descTy .norm k) from ?_, show lookupS "values" _ = some (descTy .norm v) from ?_,
    optInt_of (o := a), optInt_of (o := b)]
  · simp only [Option.bind_eq_bind, Option.bind_some, hk, hv]; rfl
  all_goals simp only [descTyF, descTy, lookupS_append, lookupS_optF, lookupS_cons_beq, lookupS_nil, String.reduceBEq,
    Option.or_none, Option.none_or]

theorem parse_obj_of (recTy : V → Option DTy) (id : String) (unenf : Bool) (props : List (String × DProp))
    (h : strKeyed (prop recTy) (descProps .norm props) = some props) (extra : List (String × V)) :
    obj recTy (descObjF .norm (.mk id unenf props) ++ extra) = some (.mk id unenf props) := by
  unfold obj
  rw [entries_of .string false (descProps .norm props), strOr_of (s := id), boolOr_of (b := unenf)]
  · simp only [Option.bind_eq_bind, Option.bind_some, h]; rfl
  all_goals simp only [descObjF, lookupS_append, lookupS_cons_beq, String.reduceBEq,
    Option.some_or]

theorem parse_prop_of (recTy : V → Option DTy) (ty : DTy) (disp : Option Disp) (req : Bool)
    (rif rifn conf : List String) (dflt : Option String) (ex : List String) (dis : Bool) (reason : Option String)
    (h : recTy (descTy .norm ty) = some ty) :
    prop recTy (descProp .norm (.mk ty disp req rif rifn conf dflt ex dis reason)) =
      some (.mk ty disp req rif rifn conf dflt ex dis reason) := by
  unfold prop
  rw [descProp, fields?_norm]
  simp only [Option.bind_eq_bind, Option.bind_some]
  rw [show lookupS "type" _ = some (descTy .norm ty) from ?_, optDisp_of (o := disp), boolOr_of (b := req),
    strs_of (ss := rif), strs_of (ss := rifn), strs_of (ss := conf), optStr_of (o := dflt), strs_of (ss := ex),
    boolOr_of (b := dis), optStr_of (o := reason)]
  · simp only [Option.bind_some, h]; rfl
  all_goals simp only [descTy, lookupS_append, lookupS_optF, lookupS_cons_beq, lookupS_nil, String.reduceBEq,
    Option.or_none, Option.none_or]

theorem parse_scopeF_of (recTy : V → Option DTy) (objs : List (String × DObj)) (root : String)
    (h : strKeyed (objV recTy) (descObjs .norm objs) = some objs) (extra : List (String × V)) :
    scope recTy (descTyF .norm (.scope objs root) ++ extra) = some (.scope objs root) := by
  unfold scope
  rw [entries_of .string false (descObjs .norm objs), strOr_of (s := root)]
  · simp only [Option.bind_eq_bind, Option.bind_some, h]; rfl
  all_goals simp only [descTyF, lookupS_append, lookupS_cons_beq, String.reduceBEq,
    Option.some_or]

theorem parse_oneOfF_of (recTy : V → Option DTy) (ik : Bool) (d : String) (inl : Bool) (ms : List (Key × DTy))
    (h : members recTy ik (descMembers .norm ms) = some ms) (extra : List (String × V)) :
    pOneOf recTy ik (descTyF .norm (.oneOf ik d inl ms) ++ extra) = some (.oneOf ik d inl ms) := by
  unfold pOneOf
  rw [strOr_of (s := d), boolOr_of (b := inl), entries_of (if ik then .int64 else .string) true (descMembers .norm ms)]
  · simp only [Option.bind_eq_bind, Option.bind_some, h]; rfl
  all_goals simp only [descTyF, lookupS_append, lookupS_cons_beq, String.reduceBEq,
    Option.some_or]

theorem members_nil (recTy : V → Option DTy) (ik : Bool) : members recTy ik [] = some [] := rfl

theorem members_cons (recTy : V → Option DTy) (ik : Bool) (k : Key) (v : V) (rest : List (V × V)) {t : DTy}
    {ms : List (Key × DTy)} (hk : keyKindOK ik k = true) (h1 : recTy v = some t)
    (h2 : members recTy ik rest = some ms) :
    members recTy ik ((k.rep .norm, v) :: rest) = some ((k, t) :: ms) := by
  simp only [members] at h2 ⊢
  cases k with
  | i n => cases (show ik = true from hk); simp [Key.rep, h1, h2]
  | s s => cases (show ik = false by simpa [keyKindOK] using hk); simp [Key.rep, h1, h2]

theorem size_pos (t : DTy) : 0 < t.size := by
  cases t <;> exact Nat.succ_pos _

theorem objV_norm (recTy : V → Option DTy) (m : List (String × V)) : objV recTy (Rep.norm.obj m) = obj recTy m := by
  simp only [objV, fields?_norm, Option.bind_eq_bind, Option.bind_some]

-- Reading back is syntactic; of `describable` only one clause is used: the keys of a one-of are of
-- its key kind (`keyKindOK`, in `parse_members`). It is threaded through the block to get there.
mutual
theorem parse_ty {x : Ext} : (t : DTy) → describable x t = true → (n : Nat) → t.size ≤ n →
    Parse.ty n (descTy .norm t) = some t
  | t, _, 0, h => absurd (size_pos t) (Nat.not_lt.2 h)
  | .int a b u, _, n + 1, _ => parse_int n a b u
  | .float a b u, _, n + 1, _ => parse_float n a b u
  | .str a b p, _, n + 1, _ => parse_str n a b p
  | .bool, _, n + 1, _ => by rw [ty_step]; rfl
  | .pattern, _, n + 1, _ => by rw [ty_step]; rfl
  | .any, _, n + 1, _ => by rw [ty_step]; rfl
  | .enumInt vs u, _, n + 1, _ => parse_enumInt n vs u
  | .enumStr vs, _, n + 1, _ => parse_enumStr n vs
  | .list item a b, hd, n + 1, h =>
    parse_list_of n item a b (parse_ty item (describable_list hd).1 n (Nat.le_of_succ_le_succ h))
  | .map k v a b, hd, n + 1, h =>
    have hd := describable_map hd
    have h : k.size + v.size + 1 ≤ n + 1 := h
    parse_map_of n k v a b (parse_ty k hd.2.1 n (by omega)) (parse_ty v hd.2.2.1 n (by omega))
  | .obj o, hd, n + 1, h => by
    rw [ty_step]
    show pObj (Parse.ty n) (descObjF .norm o ++ _) = _
    rw [pObj, parse_objF o hd n (Nat.le_of_succ_le_succ h)]
    rfl
  | .oneOf ik d inl ms, hd, n + 1, h => by
    have hd := describable_oneOf hd
    have hm := parse_members ik ms hd.2.1 hd.2.2 n (Nat.le_of_succ_le_succ h)
    rw [ty_step]
    cases ik
    · exact parse_oneOfF_of _ false d inl ms hm _
    · exact parse_oneOfF_of _ true d inl ms hm _
  | .ref id ns d, _, n + 1, _ => parse_ref n id ns d
  | .scope objs root, hd, n + 1, h => by
    rw [ty_step]
    exact parse_scopeF_of _ objs root (parse_objs objs (describable_scope hd).2.2 n (Nat.le_of_succ_le_succ h)) _
termination_by structural t => t
theorem parse_objF {x : Ext} : (o : DObj) → describableObj x o = true → (n : Nat) → o.size ≤ n → ∀ extra,
    obj (Parse.ty n) (descObjF .norm o ++ extra) = some o
  | .mk id unenf props, hd, n, h => fun extra =>
    have h : DTy.sizeProps props + 1 ≤ n := h
    parse_obj_of _ id unenf props (parse_props props (describableObj_mk hd).2.2 n (by omega)) extra
termination_by structural o => o
theorem parse_props {x : Ext} : (ps : List (String × DProp)) → describableProps x ps = true → (n : Nat) →
    DTy.sizeProps ps ≤ n → strKeyed (prop (Parse.ty n)) (descProps .norm ps) = some ps
  | [], _, _, _ => rfl
  | (_, p) :: rest, hd, n, h =>
    have hd := describableProps_cons hd
    have h : p.size + DTy.sizeProps rest ≤ n := h
    strKeyed_cons _ _ _ _ (parse_prop p hd.2.1 n (by omega)) (parse_props rest hd.2.2 n (by omega))
termination_by structural ps => ps
theorem parse_prop {x : Ext} : (p : DProp) → describableProp x p = true → (n : Nat) → p.size ≤ n →
    prop (Parse.ty n) (descProp .norm p) = some p
  | .mk ty disp req rif rifn conf dflt ex dis reason, hd, n, h =>
    have h : ty.size + 1 ≤ n := h
    parse_prop_of _ ty disp req rif rifn conf dflt ex dis reason (parse_ty ty (describableProp_mk hd).1 n (by omega))
termination_by structural p => p
theorem parse_members {x : Ext} (ik : Bool) : (ms : List (Key × DTy)) →
    (ms.all fun m => match m.1 with | .i _ => ik | .s _ => !ik) = true → describableMembers x ms = true →
    (n : Nat) → DTy.sizeMembers ms ≤ n → members (Parse.ty n) ik (descMembers .norm ms) = some ms
  | [], _, _, _, _ => rfl
  | (k, t) :: rest, hk, hd, n, h =>
    have hd := describableMembers_cons hd
    have hk : (keyKindOK ik k && rest.all fun m => keyKindOK ik m.1) = true := hk
    have hk := Bool.and_eq_true_iff.1 hk
    have h : t.size + DTy.sizeMembers rest ≤ n := h
    members_cons _ ik k _ _ hk.1 (parse_ty t hd.2.2.1 n (by omega)) (parse_members ik rest hk.2 hd.2.2.2 n (by omega))
termination_by structural ms => ms
theorem parse_objs {x : Ext} : (objs : List (String × DObj)) → describableObjs x objs = true → (n : Nat) →
    DTy.sizeObjs objs ≤ n → strKeyed (objV (Parse.ty n)) (descObjs .norm objs) = some objs
  | [], _, _, _ => rfl
  | (_, o) :: rest, hd, n, h =>
    have hd := describableObjs_cons hd
    have h : o.size + DTy.sizeObjs rest ≤ n := h
    strKeyed_cons _ _ _ _
      (by rw [objV_norm, ← List.append_nil (descObjF _ o)]; exact parse_objF o hd.2.1 n (by omega) [])
      (parse_objs rest hd.2.2 n (by omega))
termination_by structural objs => objs
end

/-- `ofDescription` reads the normal representation of the description of a scope back -/
theorem parse_scope {x : Ext} (objs : List (String × DObj)) (root : String)
    (h : describable x (.scope objs root) = true) (n : Nat) (hn : (DTy.scope objs root).size ≤ n + 1) :
    ofDescription n (describeR .norm (.scope objs root)) = some (.scope objs root) := by
  rw [ofDescription, describeR, fields?_norm, ← List.append_nil (descTyF _ _)]
  exact parse_scopeF_of _ objs root (parse_objs objs (describable_scope h).2.2 n (Nat.le_of_succ_le_succ hn)) []

end Arca
