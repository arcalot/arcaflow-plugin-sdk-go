import ArcaModel.Lemmas.DescribeParse
/-
  Whole plugin schemas: `DescribeSchema().Unserialize` on the description of a schema (steps with
  input, outputs, signal handlers and emitters) and the conversion back (C09).
-/
namespace Arca
open Out Meta Parse

/-- the objects `DescribeSchema()` has beyond those of `DescribeScope()` -/
structure SchemaEnv (E : Env) : Prop where
  schema : lookupS "Schema" E = some oSchema
  signal : lookupS "Signal" E = some oSignal
  step : lookupS "Step" E = some oStep
  stepOutput : lookupS "StepOutput" E = some oStepOutput

-- one declaration, so that `schemaObjs` is evaluated once
theorem schemaEnv : SchemaEnv schemaObjs := ⟨rfl, rfl, rfl, rfl⟩

theorem schemaEnv_schema : lookupS "Schema" schemaObjs = some oSchema := schemaEnv.schema

theorem ev_data {x : Ext} {E : Env} (hE : MetaEnv E) {r : Rep} (hr : r.Good) (t : DTy)
    (h : describableData x t = true) : Evals x E (.ref "Scope") (describeR r t) (describeR .norm t) := by
  simp only [describableData, Bool.and_eq_true] at h
  cases t with
  | scope objs root =>
    exact evals_ref hE.scope (evF_all hE hr (.scope objs root) h.2 r.objShape)
  | _ => exact nomatch h.1

theorem ev_signal {x : Ext} {r : Rep} (hr : r.Good) (kv : String × DSignal)
    (h : describableSignal x kv = true) :
    idOK x kv.1 = true ∧ Evals x schemaObjs (.ref "Signal") (descSignal r kv.2) (descSignal .norm kv.2) := by
  simp only [describableSignal, Bool.and_eq_true] at h
  obtain ⟨⟨⟨hk, hid⟩, hdata⟩, hd⟩ := h
  exact ⟨hk, evals_ref schemaEnv.signal (evals_obj (sh := r.objShape)
    (.append (.cons rfl rfl (ev_id hid) (.one rfl rfl (ev_data metaEnv_schema hr kv.2.data hdata)))
      (ent_display metaEnv_schema r rfl kv.2.disp hd)) (by decide +kernel))⟩

theorem ev_output {x : Ext} {r : Rep} (hr : r.Good) (kv : String × DOutput)
    (h : describableOutput x kv = true) :
    idOK x kv.1 = true ∧ Evals x schemaObjs (.ref "StepOutput") (descOutput r kv.2) (descOutput .norm kv.2) := by
  simp only [describableOutput, Bool.and_eq_true] at h
  obtain ⟨⟨hk, hdata⟩, hd⟩ := h
  exact ⟨hk, evals_ref schemaEnv.stepOutput (evals_obj (sh := r.objShape)
    (.append (.append (.one rfl rfl (ev_data metaEnv_schema hr kv.2.schema hdata))
      (ent_display metaEnv_schema r rfl kv.2.disp hd)) (.one rfl rfl evals_bool)) (by decide +kernel))⟩

theorem ev_keyed {α} {x : Ext} {E : Env} {vt : Ty} (r : Rep) (f : Rep → α → V) (l : List (String × α))
    (hnd : (l.map (·.1)).Nodup) (hva : vt.reflectsAny = false)
    (h : ∀ kv, kv ∈ l → idOK x kv.1 = true ∧ Evals x E vt (f r kv.2) (f .norm kv.2)) :
    Evals x E (.map idType vt none none) (r.kv .string false (l.map fun (k, a) => (V.str k, f r a)))
      (Rep.norm.kv .string false (l.map fun (k, a) => (V.str k, f .norm a))) := by
  have := evals_entries (sh := r.kvShape .string false) (a := none) (b := none)
    (f := fun kv => (V.str kv.1, f r kv.2)) (g := fun kv => (V.str kv.1, f .norm kv.2)) rfl rfl
    (fun kv hkv => ⟨ev_id (h kv hkv).1, (h kv hkv).2⟩) rfl (fun _ => rfl) (nodup_keys_s l hnd)
  simpa [Rep.kv, Rep.norm, Ty.keyTy, idType, hva] using this

/-- `describableStep`, clause by clause -/
structure StepOK (x : Ext) (kv : String × DStep) : Prop where
  key : idOK x kv.1 = true
  id : idOK x kv.2.id = true
  input : describableData x kv.2.input = true
  disp : optDispOK kv.2.disp = true
  outputKeys : (kv.2.outputs.map (·.1)).Nodup
  handlerKeys : (kv.2.handlers.map (·.1)).Nodup
  emitterKeys : (kv.2.emitters.map (·.1)).Nodup
  outputs : ∀ o, o ∈ kv.2.outputs → describableOutput x o = true
  handlers : ∀ g, g ∈ kv.2.handlers → describableSignal x g = true
  emitters : ∀ g, g ∈ kv.2.emitters → describableSignal x g = true

theorem describableStep_ok {x : Ext} {kv : String × DStep} (h : describableStep x kv = true) : StepOK x kv := by
  simp only [describableStep, Bool.and_eq_true, decide_eq_true_eq, List.all_eq_true, and_assoc] at h
  obtain ⟨h1, h2, h3, h4, h5, h6, h7, h8, h9, h10⟩ := h
  exact ⟨h1, h2, h3, h4, h5, h6, h7, h8, h9, h10⟩

theorem ev_step {x : Ext} {r : Rep} (hr : r.Good) (kv : String × DStep)
    (h : describableStep x kv = true) :
    idOK x kv.1 = true ∧ Evals x schemaObjs (.ref "Step") (descStep r kv.2) (descStep .norm kv.2) := by
  have h := describableStep_ok h
  exact ⟨h.key, evals_ref schemaEnv.step (evals_obj (sh := r.objShape)
    (.append (.cons rfl rfl (ev_id h.id) (.cons rfl rfl (ev_data metaEnv_schema hr kv.2.input h.input)
      (.cons rfl rfl (ev_keyed r descOutput _ h.outputKeys rfl fun o ho => ev_output hr o (h.outputs o ho))
      (.cons rfl rfl (ev_keyed r descSignal _ h.handlerKeys rfl fun g hg => ev_signal hr g (h.handlers g hg))
      (.one rfl rfl (ev_keyed r descSignal _ h.emitterKeys rfl fun g hg => ev_signal hr g (h.emitters g hg)))))))
      (ent_display metaEnv_schema r rfl kv.2.disp h.disp)) (by decide +kernel))⟩

/-- `DescribeSchema().Unserialize` on the description of a plugin schema -/
theorem ev_schema {x : Ext} {r : Rep} (hr : r.Good) (p : DSchema) (h : describableSchema x p = true) :
    Evals x [] metaSchema (describeSchemaR r p) (describeSchemaR .norm p) := by
  simp only [describableSchema, Bool.and_eq_true, decide_eq_true_eq] at h
  exact evals_scope schemaEnv_schema (evals_obj (sh := r.objShape)
    (.one rfl rfl (ev_keyed r descStep p h.1 rfl fun kv hkv => ev_step hr kv (List.all_eq_true.1 h.2 kv hkv)))
    (by decide +kernel))

theorem parse_data {x : Ext} (t : DTy) (h : describableData x t = true) (n : Nat) (hn : t.size ≤ n + 1) :
    fields? (describeR .norm t) = some (descTyF .norm t) ∧ scope (Parse.ty n) (descTyF .norm t) = some t := by
  simp only [describableData, Bool.and_eq_true] at h
  refine ⟨fields?_norm _, ?_⟩
  cases t with
  | scope objs root =>
    rw [← List.append_nil (descTyF _ _)]
    exact parse_scopeF_of _ objs root (parse_objs objs (describable_scope h.2).2.2 n (Nat.le_of_succ_le_succ hn)) []
  | _ => exact nomatch h.1

theorem parse_signal {x : Ext} (k : String) (s : DSignal) (h : describableSignal x (k, s) = true) (n : Nat)
    (hn : s.data.size ≤ n + 1) : signal n (descSignal .norm s) = some s := by
  simp only [describableSignal, Bool.and_eq_true] at h
  unfold signal
  rw [descSignal, fields?_norm]
  simp only [Option.bind_eq_bind, Option.bind_some]
  rw [show lookupS "data_schema" _ = some (describeR .norm s.data) from ?_, strOr_of (s := s.id),
    optDisp_of (o := s.disp)]
  · simp only [Option.bind_some, parse_data s.data h.1.2 n hn]; rfl
  all_goals simp only [lookupS_append, lookupS_optF, lookupS_cons_beq, lookupS_nil, String.reduceBEq, Option.or_none,
    Option.none_or]

theorem parse_output {x : Ext} (k : String) (o : DOutput) (h : describableOutput x (k, o) = true) (n : Nat)
    (hn : o.schema.size ≤ n + 1) : output n (descOutput .norm o) = some o := by
  simp only [describableOutput, Bool.and_eq_true] at h
  unfold output
  rw [descOutput, fields?_norm]
  simp only [Option.bind_eq_bind, Option.bind_some]
  rw [show lookupS "schema" _ = some (describeR .norm o.schema) from ?_, optDisp_of (o := o.disp),
    boolOr_of (b := o.error)]
  · simp only [Option.bind_some, parse_data o.schema h.1.2 n hn]; rfl
  all_goals simp only [lookupS_append, lookupS_optF, lookupS_cons_beq, lookupS_nil, String.reduceBEq, Option.or_none,
    Option.none_or]

theorem strKeyed_mapped {α} (f : α → V) (g : V → Option α) : ∀ (l : List (String × α)),
    (∀ kv, kv ∈ l → g (f kv.2) = some kv.2) → strKeyed g (l.map fun (k, a) => (V.str k, f a)) = some l
  | [], _ => rfl
  | (k, a) :: rest, h => by
    simp only [List.map_cons]
    exact strKeyed_cons _ _ _ _ (h (k, a) (by simp)) (strKeyed_mapped f g rest fun kv hkv => h kv (by simp [hkv]))

theorem parse_step {x : Ext} (k : String) (s : DStep) (h : describableStep x (k, s) = true) (n : Nat)
    (hn : ∀ sc, sc ∈ s.scopes → sc.size ≤ n + 1) : step n (descStep .norm s) = some s := by
  have h := describableStep_ok h
  have hn' : ∀ sc, sc = s.input ∨ (sc ∈ s.outputs.map (·.2.schema) ∨ sc ∈ s.handlers.map (·.2.data)) ∨
      sc ∈ s.emitters.map (·.2.data) → sc.size ≤ n + 1 := by
    simpa only [DStep.scopes, List.mem_cons, List.mem_append] using hn
  have ho := strKeyed_mapped (descOutput .norm) (output n) s.outputs fun kv hkv =>
    parse_output kv.1 kv.2 (h.outputs kv hkv) n (hn' _ (.inr (.inl (.inl (List.mem_map.2 ⟨kv, hkv, rfl⟩)))))
  have hh := strKeyed_mapped (descSignal .norm) (signal n) s.handlers fun kv hkv =>
    parse_signal kv.1 kv.2 (h.handlers kv hkv) n (hn' _ (.inr (.inl (.inr (List.mem_map.2 ⟨kv, hkv, rfl⟩)))))
  have he := strKeyed_mapped (descSignal .norm) (signal n) s.emitters fun kv hkv =>
    parse_signal kv.1 kv.2 (h.emitters kv hkv) n (hn' _ (.inr (.inr (List.mem_map.2 ⟨kv, hkv, rfl⟩))))
  unfold step
  rw [descStep, fields?_norm]
  simp only [Option.bind_eq_bind, Option.bind_some]
  rw [show lookupS "input" _ = some (describeR .norm s.input) from ?_, strOr_of (s := s.id),
    entries_of .string false (s.outputs.map fun (k, o) => (V.str k, descOutput .norm o)),
    entries_of .string false (s.handlers.map fun (k, g) => (V.str k, descSignal .norm g)),
    entries_of .string false (s.emitters.map fun (k, g) => (V.str k, descSignal .norm g)), optDisp_of (o := s.disp)]
  · simp only [Option.bind_some, parse_data s.input h.input n (hn' _ (.inl rfl)), ho, hh, he]; rfl
  all_goals simp only [lookupS_append, lookupS_optF, lookupS_cons_beq, lookupS_nil, String.reduceBEq, Option.or_none,
    Option.none_or]

theorem parse_schema {x : Ext} (p : DSchema) (h : describableSchema x p = true) (n : Nat)
    (hn : ∀ st, st ∈ p → ∀ sc, sc ∈ st.2.scopes → sc.size ≤ n + 1) :
    ofSchemaDescription n (describeSchemaR .norm p) = some p := by
  simp only [describableSchema, Bool.and_eq_true] at h
  have hs := strKeyed_mapped (descStep .norm) (step n) p fun kv hkv =>
    parse_step kv.1 kv.2 (List.all_eq_true.1 h.2 kv hkv) n (hn kv hkv)
  rw [ofSchemaDescription, Parse.schema, describeSchemaR, fields?_norm]
  simp only [Option.bind_eq_bind, Option.bind_some]
  rw [entries_of .string false (p.map fun (k, st) => (V.str k, descStep .norm st))]
  · exact hs
  · simp only [lookupS_cons_beq, String.reduceBEq]

def DSchema.bound (p : DSchema) : Nat := (p.map fun st => (st.2.scopes.map DTy.size).sum).sum

theorem le_sum_of_mem {l : List Nat} {a : Nat} (h : a ∈ l) : a ≤ l.sum := by
  induction l with
  | nil => simp at h
  | cons b rest ih =>
    simp only [List.mem_cons] at h
    simp only [List.sum_cons]
    rcases h with rfl | h
    · omega
    · have := ih h; omega

theorem DSchema.bound_le (p : DSchema) : ∀ st, st ∈ p → ∀ sc, sc ∈ st.2.scopes → sc.size ≤ p.bound := by
  intro st hst sc hsc
  have h1 : sc.size ≤ (st.2.scopes.map DTy.size).sum := le_sum_of_mem (List.mem_map.2 ⟨sc, hsc, rfl⟩)
  have h2 : (st.2.scopes.map DTy.size).sum ≤ p.bound :=
    le_sum_of_mem (List.mem_map.2 ⟨st, hst, rfl⟩)
  omega

end Arca
