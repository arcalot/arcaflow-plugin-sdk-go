import ArcaModel.Lemmas.Units
/-
  The unit grammar with a decimal base count: what the regexp of a definition accepts in general
  (the integer grammar is its restriction to base counts without a fraction). Soundness of the
  matcher for all definitions, completeness for well-formed ones, and `Units.parseFloat`
  (Model/Scalar.lean) in terms of `Units.parseInt`. The externals `x : Ext` are arbitrary.
-/
namespace Arca

/-- a decimal-number string as the base group's `[0-9]+(|\.[0-9]+)` allows: digits, optionally
    followed by `.` and digits -/
def IsDecimal (ds : List Char) : Prop :=
  (ds ≠ [] ∧ AllDigits ds) ∨
  ∃ ip fp, ds = ip ++ '.' :: fp ∧ ip ≠ [] ∧ AllDigits ip ∧ fp ≠ [] ∧ AllDigits fp

def BasePieceOKF (base : List String) (p : Piece) : Prop :=
  IsDecimal p.ds ∧ AllWS p.w1 ∧ AllWS p.w2 ∧ (p.nm = [] ∨ ∃ n ∈ base, n.toList = p.nm)

def BaseOKF (base : List String) (bp : Option Piece) : Prop :=
  ∀ p, bp = some p → BasePieceOKF base p

theorem baseOKF_none {base : List String} : BaseOKF base none := fun _ e => nomatch e

theorem baseOKF_some {base : List String} {p : Piece} :
    BaseOKF base (some p) ↔ BasePieceOKF base p :=
  ⟨fun h => h p rfl, fun h _ e => Option.some.inj e ▸ h⟩

theorem BaseOK.toF {base : List String} {bp : Option Piece} (h : BaseOK base bp) : BaseOKF base bp := by
  intro p hp
  obtain ⟨h1, h2, h3, h4, h5⟩ := h p hp
  exact ⟨Or.inl ⟨h1, h2⟩, h3, h4, h5⟩

theorem BaseOKF.toInt {base : List String} {bp : Option Piece} (h : BaseOKF base bp)
    (hd : (capOf bp).toList.contains '.' = false) : BaseOK base bp := by
  intro p hp
  subst hp
  obtain ⟨h1, h3, h4, h5⟩ := h p rfl
  rcases h1 with ⟨hne, hD⟩ | ⟨ip, fp, e, _⟩
  · exact ⟨hne, hD, h3, h4, h5⟩
  · rw [capOf, String.toList_ofList, e,
      List.contains_iff_mem.mpr (List.mem_append_right _ (List.mem_cons_self ..))] at hd
    cases hd

theorem IsDecimal.ne_nil {ds : List Char} (h : IsDecimal ds) : ds ≠ [] := by
  rcases h with ⟨h, _⟩ | ⟨ip, fp, rfl, _⟩
  · exact h
  · exact List.append_ne_nil_of_right_ne_nil _ (List.cons_ne_nil _ _)

theorem IsDecimal.digitHead {ds : List Char} (h : IsDecimal ds) : DigitHead ds := by
  rcases h with ⟨_, hD⟩ | ⟨ip, fp, rfl, hne, hD, _, _⟩
  · exact hD.digitHead
  · exact hD.digitHead.append_of_ne_nil hne _

theorem IsDecimal.lastOK {ds : List Char} (h : IsDecimal ds) : LastOK ds := by
  rcases h with ⟨_, hD⟩ | ⟨ip, fp, rfl, _, _, hne, hD⟩
  · exact lastOK_digits hD
  · rw [lastOK_iff, List.reverse_append, List.reverse_cons]
    exact ((lastOK_iff.mp (lastOK_digits hD)).append_of_ne_nil
      (fun e => hne (List.reverse_eq_nil_iff.mp e)) _).append_of_ne_nil
      (List.append_ne_nil_of_right_ne_nil _ (List.cons_ne_nil _ _)) _

theorem BaseOKF.digitHead {base : List String} {bp : Option Piece} (hb : BaseOKF base bp) :
    DigitHead (renderOpt bp) := by
  cases bp with
  | none => trivial
  | some p => exact (hb p rfl).1.digitHead.append_of_ne_nil (hb p rfl).1.ne_nil _

theorem BasePieceOKF.trimmed {names : List String} {p : Piece} (h : BasePieceOKF names p) :
    BasePieceOKF names p.trimmed := by
  obtain ⟨h1, h3, _, h5⟩ := h
  exact ⟨p.trimmed_ds ▸ h1, (Piece.trimmed_ws h3).1, (Piece.trimmed_ws h3).2, p.trimmed_nm ▸ h5⟩

theorem BasePieceOKF.trimOK {base : List String} {p : Piece} (h : BasePieceOKF base p)
    (hend : ∀ n ∈ base, LastOK n.toList) : p.TrimOK := by
  obtain ⟨h1, h3, h4, h5⟩ := h
  refine ⟨h1.ne_nil, h1.lastOK, h3, h4, ?_⟩
  rcases h5 with e | ⟨n, hn, e⟩
  · exact e ▸ lastOK_nil
  · exact e ▸ hend n hn

theorem tryTail_sound {names : List String} {cap x : List Char} {c : String}
    (h : tryTail names cap x = some c) :
    c = String.ofList cap ∧ ∃ w1 nm w2, AllWS w1 ∧ AllWS w2 ∧
      (nm = [] ∨ ∃ n ∈ names, n.toList = nm) ∧ x = w1 ++ (nm ++ w2) := by
  obtain ⟨w1, hw1, e1⟩ := skipWS_split x
  rw [tryTail, skipWS_of_noWSHead (skipWS_noWSHead x)] at h
  split at h
  · next he =>
    rw [List.isEmpty_iff.mp he] at e1
    exact ⟨(Option.some.inj h).symm, w1, [], [], hw1, allWS_nil, .inl rfl, e1⟩
  · obtain ⟨n, hn, hn'⟩ := firstSome_mem h
    obtain ⟨r', hs, hK⟩ := nameAlt_some hn'
    rw [endK] at hK
    split at hK
    · next he =>
      exact ⟨(Option.some.inj hK).symm, w1, n.toList, r', hw1,
        allWS_of_skipWS_nil (List.isEmpty_iff.mp he), .inr ⟨n, hn, rfl⟩, hs ▸ e1⟩
    · cases hK

theorem take_ne_nil_of_countsDown {ds : List Char} {k : Nat} (hk : k ∈ countsDown ds.length) :
    ds.take k ≠ [] := by
  rw [mem_countsDown] at hk
  intro e
  rcases List.take_eq_nil_iff.mp e with h | h
  · omega
  · rw [h] at hk; simp at hk; omega

theorem take_append_drop_digits (cs : List Char) (k : Nat) :
    (cs.takeWhile isDigit).take k ++ ((cs.takeWhile isDigit).drop k ++ cs.dropWhile isDigit) = cs := by
  rw [← List.append_assoc, List.take_append_drop]
  exact List.takeWhile_append_dropWhile

theorem matchBase_sound {names : List String} {cs : List Char} {b : String} (hcs : NoWSHead cs)
    (h : matchBase names cs = some b) :
    ∃ bp, BaseOKF names bp ∧ cs = renderOpt bp ∧ b = capOf bp := by
  rw [matchBase_eq] at h
  split at h
  · next he =>
    have : skipWS cs = [] := List.isEmpty_iff.mp he
    rw [skipWS_of_noWSHead hcs] at this
    exact ⟨none, baseOKF_none, this, (Option.some.inj h).symm⟩
  · obtain ⟨k, hk, hk'⟩ := firstSome_mem h
    unfold baseSplit at hk'
    split at hk'
    · next c hc =>
      obtain ⟨hcap, w1, nm, w2, hw1, hw2, hnm, ex⟩ := tryTail_sound hc
      refine ⟨some ⟨(cs.takeWhile isDigit).take k, w1, nm, w2⟩, baseOKF_some.mpr
        ⟨Or.inl ⟨take_ne_nil_of_countsDown hk, allDigits_take_takeWhile cs k⟩, hw1, hw2, hnm⟩, ?_,
        (Option.some.inj hk').symm.trans hcap⟩
      rw [renderOpt, Piece.render, ← ex, take_append_drop_digits]
    · split at hk'
      · next r1 heq =>
        obtain ⟨j, hj, hj'⟩ := firstSome_mem hk'
        obtain ⟨hcap, w1, nm, w2, hw1, hw2, hnm, ex⟩ := tryTail_sound hj'
        refine ⟨some ⟨(cs.takeWhile isDigit).take k ++ '.' :: (r1.takeWhile isDigit).take j,
          w1, nm, w2⟩, baseOKF_some.mpr
            ⟨Or.inr ⟨_, _, rfl, take_ne_nil_of_countsDown hk, allDigits_take_takeWhile cs k,
              take_ne_nil_of_countsDown hj, allDigits_take_takeWhile r1 j⟩, hw1, hw2, hnm⟩, ?_,
          hcap⟩
        rw [renderOpt, Piece.render, ← ex, List.append_assoc, List.cons_append,
          take_append_drop_digits r1, ← heq, take_append_drop_digits]
      · cases hk'

/-- whatever the group matcher accepts is a rendering of the grammar: one optional
    `digits ws* name ws*` token per group in order, then the optional base token whose count is a
    decimal number; the captures are the counts -/
theorem matchGroups_sound {gs : List (List String)} {base : List String} {cs : List Char}
    {caps : List String} {b : String} (hcs : NoWSHead cs)
    (h : matchGroups gs base cs = some (caps, b)) :
    ∃ ps bp, PiecesOK gs ps ∧ BaseOKF base bp ∧ cs = renderAll ps bp ∧
      caps = ps.map capOf ∧ b = capOf bp := by
  induction gs generalizing cs caps b with
  | nil =>
    rw [matchGroups, Option.map_eq_some_iff] at h
    obtain ⟨b', hb', he⟩ := h
    cases he
    obtain ⟨bp, h1, h2, h3⟩ := matchBase_sound hcs hb'
    exact ⟨[], bp, .nil, h1, h2, rfl, h3⟩
  | cons names gs ih =>
    rw [matchGroups_cons_eq] at h
    split at h
    · next caps' b' h' =>
      cases h
      rw [skipWS_of_noWSHead hcs] at h'
      obtain ⟨ps, bp, h1, h2, h3, h4, h5⟩ := ih hcs h'
      exact ⟨none :: ps, bp, h1.cons_none, h2, h3, congrArg ("" :: ·) h4, h5⟩
    · obtain ⟨k, hk, hk'⟩ := firstSome_mem h
      obtain ⟨n, hn, hn'⟩ := firstSome_mem hk'
      obtain ⟨r', hs, hK⟩ := nameAlt_some hn'
      rw [groupK] at hK
      split at hK
      · next caps' b' h' =>
        cases hK
        obtain ⟨ps, bp, h1, h2, h3, h4, h5⟩ := ih (skipWS_noWSHead r') h'
        obtain ⟨w1, hw1, ex1⟩ := skipWS_split
          ((cs.takeWhile isDigit).drop k ++ cs.dropWhile isDigit)
        obtain ⟨w2, hw2, ex2⟩ := skipWS_split r'
        refine ⟨some ⟨(cs.takeWhile isDigit).take k, w1, n.toList, w2⟩ :: ps, bp,
          h1.cons_some ⟨take_ne_nil_of_countsDown hk, allDigits_take_takeWhile cs k, hw1, hw2,
            n, hn, rfl⟩, h2, ?_, congrArg (_ :: ·) h4, h5⟩
        rw [renderAll, renderOpt, Piece.render, List.append_assoc, List.append_assoc,
          List.append_assoc, ← h3, ← ex2, ← hs, ← ex1, take_append_drop_digits]
      · cases hK

theorem captures_sound {u : Units} {s : String} {caps : List String} {b : String}
    (h : u.captures s = some (caps, b)) :
    ∃ ps bp, PiecesOK ((sortDesc u.mults).map (·.2.all)) ps ∧ BaseOKF u.base.all bp ∧
      skipWS (trimSpace s.toList) = renderAll ps bp ∧ renderAll ps bp ≠ [] ∧
      skipWS (trimSpace s.toList) = trimSpace s.toList ∧ caps = ps.map capOf ∧ b = capOf bp := by
  obtain ⟨hne, hm⟩ := captures_eq_some.mp h
  obtain ⟨hsk, hnn⟩ := skipWS_trimSpace s.toList hne
  obtain ⟨ps, bp, h1, h2, h3, h4, h5⟩ := matchGroups_sound (skipWS_noWSHead _) hm
  exact ⟨ps, bp, h1, h2, h3, by rw [← h3, hsk]; exact hnn, hsk, h4, h5⟩

theorem captures_digits {u : Units} {s : String} {caps : List String} {b : String}
    (h : u.captures s = some (caps, b)) :
    (∀ c ∈ caps, AllDigits c.toList) ∧ caps.length = u.mults.length ∧
      (b.toList.contains '.' = false → AllDigits b.toList) := by
  obtain ⟨ps, bp, h1, h2, _, _, _, rfl, rfl⟩ := captures_sound h
  refine ⟨caps_allDigits h1, ?_, fun hd => (h2.toInt hd).allDigits_capOf⟩
  rw [List.length_map, h1.length_eq, List.length_map, (sortDesc_perm u.mults).length_eq]

theorem mem_renderAll_of_base {c : Char} (ps : List (Option Piece)) {p : Piece} (h : c ∈ p.ds) :
    c ∈ renderAll ps (some p) := by
  induction ps with
  | nil => exact List.mem_append_left _ h
  | cons o ps ih => exact List.mem_append_right _ ih

theorem dot_mem_of_captures {u : Units} {s : String} {caps : List String} {b : String}
    (h : u.captures s = some (caps, b)) (hd : b.toList.contains '.' = true) : '.' ∈ s.toList := by
  obtain ⟨ps, bp, _, _, h3, _, _, _, rfl⟩ := captures_sound h
  have hmem : '.' ∈ skipWS (trimSpace s.toList) := by
    cases bp with
    | none => rw [capOf_none, String.toList_empty] at hd; cases hd
    | some p =>
      rw [capOf, String.toList_ofList] at hd
      rw [h3]
      exact mem_renderAll_of_base ps (List.contains_iff_mem.mp hd)
  have h1 : '.' ∈ trimSpace s.toList := (List.dropWhile_sublist isReWS).mem hmem
  have h2 := (List.dropWhile_sublist isUniSpace).mem (List.mem_reverse.mp h1)
  exact (List.dropWhile_sublist isUniSpace).mem (List.mem_reverse.mp h2)

/-- after the integer part of a fraction the name alternatives fail: `.` is followed by a digit, so
    only a unit called "." could match, and that leaves the digit -/
theorem tryTail_dot_digit {names : List String} (hnames : ∀ n ∈ names, NameOK n) (cap : List Char)
    {r : List Char} (hr : DigitHead r) (hne : r ≠ []) : tryTail names cap ('.' :: r) = none := by
  have h0 : skipWS (['.'] ++ r) = ['.'] ++ r := skipWS_of_noWSHead (cs := '.' :: r) dot_not_ws
  show tryTail names cap (['.'] ++ r) = none
  rw [tryTail, h0, h0, isEmpty_append_of_ne_nil (List.cons_ne_nil _ _), if_neg Bool.false_ne_true,
    firstSome_nameAlt (endK_failsInName cap) (fun n hn => (hnames n hn).2)
      (fun c hc => by cases List.mem_singleton.mp hc; exact ⟨dot_not_digit, dot_not_ws⟩)
      (hr.imp fun _ => .inl),
    skipWS_of_noWSHead hr.noWS, endK, List.isEmpty_eq_false_iff.mpr hne, if_neg Bool.false_ne_true]
  exact ite_self _

theorem matchBase_frac (base : List String) (hbase : ∀ n ∈ base, NameOK n)
    (ip fp w1 nm w2 : List Char) (hip : ip ≠ []) (hipD : AllDigits ip) (hfp : fp ≠ [])
    (hfpD : AllDigits fp) (hw1 : AllWS w1) (hw2 : AllWS w2)
    (hnm : nm = [] ∨ ∃ n ∈ base, n.toList = nm) :
    matchBase base ((ip ++ '.' :: fp) ++ (w1 ++ (nm ++ w2))) =
      some (String.ofList (ip ++ '.' :: fp)) := by
  have hrest := basePiece_rest_noDigitHead hbase hw1 hw2 hnm
  rw [List.append_assoc, List.cons_append,
    matchBase_digitRun hbase hip hipD (show NoDigitHead ('.' :: _) from dot_not_digit), baseSplit,
    List.take_length, List.drop_length, List.nil_append,
    tryTail_dot_digit hbase ip (hfpD.digitHead.append_of_ne_nil hfp _)
      (List.append_ne_nil_of_left_ne_nil hfp _)]
  simp only [takeWhile_digits_append hfpD hrest, dropWhile_digits_append hfpD hrest]
  refine firstSome_countsDown_first (List.length_pos_iff.mpr hfp) _ ?_
  rw [List.take_length, List.drop_length, List.nil_append]
  exact tryTail_own base _ w1 nm w2 hbase hw1 hw2 hnm

theorem matchBase_render_decimal (base : List String) (hbase : ∀ n ∈ base, NameOK n)
    (bp : Option Piece) (hb : BaseOKF base bp) : matchBase base (renderOpt bp) = some (capOf bp) := by
  cases bp with
  | none => rfl
  | some p =>
    obtain ⟨hdec, hw1, hw2, hnm⟩ := hb p rfl
    rcases hdec with ⟨hne, hD⟩ | ⟨ip, fp, e, hip, hipD, hfp, hfpD⟩
    · exact matchBase_render base hbase (some p) (baseOK_some.mpr ⟨hne, hD, hw1, hw2, hnm⟩)
    · rw [renderOpt, Piece.render, capOf, e]
      exact matchBase_frac base hbase ip fp p.w1 p.nm p.w2 hip hipD hfp hfpD hw1 hw2 hnm

theorem matchGroups_render {gs : List (List String)} {base : List String} (hwf : GroupsWF gs base)
    {ps : List (Option Piece)} {bp : Option Piece} (hv : PiecesOK gs ps) (hb : BaseOKF base bp) :
    matchGroups gs base (renderAll ps bp) = some (ps.map capOf, capOf bp) := by
  induction hv with
  | nil => rw [matchGroups, renderAll, matchBase_render_decimal base hwf.2.1 bp hb]; rfl
  | @cons names o gs' ps' ho hrest ih =>
    have hR := renderAll_digitHead hrest hb.digitHead
    cases o with
    | none => exact matchGroups_cons_skip names hR.noWS (ih hwf.tail)
    | some p => exact matchGroups_cons_own hwf (ho p rfl) hR (ih hwf.tail)

theorem BaseOKF.trimmed {base : List String} {bp : Option Piece} (h : BaseOKF base bp) :
    BaseOKF base (bp.map Piece.trimmed) := by
  cases bp with
  | none => exact baseOKF_none
  | some p => exact baseOKF_some.mpr (h p rfl).trimmed

/-- On a well-formed definition the regexp stage accepts a rendering of the grammar, surrounded by
    any Unicode white space, with exactly its counts as captures. -/
theorem captures_render {u : Units} (hu : WFu u) {lead trail : List Char}
    {ps : List (Option Piece)} {bp : Option Piece} (hlead : AllUni lead) (htrail : AllUni trail)
    (hps : PiecesOK ((sortDesc u.mults).map (·.2.all)) ps) (hbp : BaseOKF u.base.all bp)
    (hne : renderAll ps bp ≠ []) :
    u.captures (String.ofList (lead ++ (renderAll ps bp ++ trail))) =
      some (ps.map capOf, capOf bp) := by
  obtain ⟨hwf, hend, _⟩ := hu.groupsWF
  obtain ⟨ps', hv', hc', ht, hne'⟩ := trimSpace_render hps hend.1
    (fun p hp => (hbp p hp).trimOK hend.2) hbp.digitHead hlead htrail hne
  have hR' := renderAll_digitHead hv' hbp.trimmed.digitHead
  rw [captures_eq_some, String.toList_ofList, ht, skipWS_of_noWSHead hR'.noWS,
    matchGroups_render hwf hv' hbp.trimmed, hc', capOf_map_trimmed]
  exact ⟨Bool.eq_false_iff.mpr fun h => hne' (List.isEmpty_iff.mp h), rfl⟩

/-- the base-unit stage of `ParseFloat` after the multiplier groups -/
def baseStageF (x : Ext) (acc : Int) (facc : Nat) (b : String) : Option Nat :=
  if b.isEmpty then some (F64.ofInt acc)
  else if b.toList.contains '.' then
    match x.parseFloat b with
    | none => none
    | some f => some (F64.add facc (F64.mul f (F64.ofInt 1)))
  else match parseInt10 b with
    | none => none
    | some i => (accInt acc i 1).map F64.ofInt

theorem parseFloat_eq (u : Units) (x : Ext) (s : String) : u.parseFloat x s =
    match u.captures s with
    | none => none
    | some (caps, b) =>
      match Units.parseFloat.go caps ((sortDesc u.mults).map (·.1)) 0 0 with
      | none => none
      | some (acc, facc) => baseStageF x acc facc b := by
  unfold Units.parseFloat Units.captures
  by_cases h : (trimSpace s.toList).isEmpty = true
  · simp only [h, if_true]
  · simp only [h]; rfl

/-- the float accumulator of the multiplier groups: left to right, starting from `facc`,
    `floatNumber += float64(count * multiplier)` for every non-empty capture (the product is the
    exact int64 product, rounded once by the conversion) -/
def capFSum : List String → List Int → Nat → Nat
  | c :: cs, m :: ms, facc =>
    if c.isEmpty then capFSum cs ms facc
    else capFSum cs ms (F64.add facc (F64.ofInt (capVal c * m)))
  | _, _, facc => facc

theorem goF_eq_go (caps : List String) (ms : List Int) (acc : Int) (facc : Nat)
    (hcaps : ∀ c ∈ caps, AllDigits c.toList) :
    Units.parseFloat.go caps ms acc facc =
      (Units.parseInt.go caps ms acc).map (fun a => (a, capFSum caps ms facc)) := by
  induction caps generalizing ms acc facc with
  | nil => rfl
  | cons c cs ih =>
    cases ms with
    | nil => rfl
    | cons m ms =>
      have hcs : ∀ c ∈ cs, AllDigits c.toList := fun y hy => hcaps y (List.mem_cons_of_mem _ hy)
      rw [Units.parseFloat.go, go_cons, capStep, capFSum]
      by_cases he : c.isEmpty = true
      · simp only [he, if_true]
        exact ih ms acc facc hcs
      · have he' : c.isEmpty = false := by simpa using he
        simp only [he', Bool.false_eq_true, if_false]
        rw [parseInt10_cap c he' (hcaps c (List.mem_cons_self ..))]
        by_cases hv : capVal c ≤ maxInt64
        · simp only [hv, if_true]
          by_cases hp : inInt64 (capVal c * m) = true
          · simp only [hp, Bool.not_true, Bool.false_eq_true, if_false]
            cases accInt acc (capVal c) m with
            | none => rfl
            | some a => exact ih ms a _ hcs
          · have hp' : inInt64 (capVal c * m) = false := by simpa using hp
            simp [accInt, hp']
        · simp only [hv, if_false, Option.map_none]

theorem baseStageF_noDot (x : Ext) (acc : Int) (facc : Nat) {b : String}
    (hb : b.toList.contains '.' = false) :
    baseStageF x acc facc b = (baseStage acc b).map F64.ofInt := by
  unfold baseStageF baseStage
  by_cases he : b.isEmpty = true
  · simp only [he, if_true, Option.map_some]
  · simp only [he, hb, Bool.false_eq_true, if_false]
    cases parseInt10 b <;> rfl

theorem baseStageF_dot (x : Ext) (acc : Int) (facc : Nat) {b : String}
    (hb : b.toList.contains '.' = true) :
    baseStageF x acc facc b =
      (x.parseFloat b).map (fun f => F64.add facc (F64.mul f (F64.ofInt 1))) := by
  have he : b.isEmpty = false := Bool.eq_false_iff.mpr fun h => by
    rw [(isEmpty_iff_toList b).mp h] at hb; cases hb
  rw [baseStageF, he, hb]
  cases x.parseFloat b <;> rfl

/-- **`ParseFloat` in terms of `ParseInt`.** For every definition, every externals table and every
    string: when the base capture has no fraction, `ParseFloat` is `float64` of `ParseInt`; when it
    has one, `ParseInt` fails and `ParseFloat` is the float accumulator of the multiplier groups plus
    `strconv.ParseFloat(base) * float64(1)`, provided the integer part of the sum fits int64. -/
theorem parseFloat_split (u : Units) (x : Ext) (s : String) :
    u.captures s = none ∧ u.parseFloat x s = none ∧ u.parseInt s = none ∨
    ∃ caps b, u.captures s = some (caps, b) ∧
      (b.toList.contains '.' = false ∧ u.parseFloat x s = (u.parseInt s).map F64.ofInt ∨
       b.toList.contains '.' = true ∧ u.parseInt s = none ∧
        u.parseFloat x s =
          match Units.parseInt.go caps ((sortDesc u.mults).map (·.1)) 0 with
          | none => none
          | some _ =>
            (x.parseFloat b).map (fun f =>
              F64.add (capFSum caps ((sortDesc u.mults).map (·.1)) 0) (F64.mul f (F64.ofInt 1)))) := by
  rw [parseFloat_eq, parseInt_eq]
  cases hc : u.captures s with
  | none => exact .inl ⟨rfl, rfl, rfl⟩
  | some r =>
    obtain ⟨caps, b⟩ := r
    refine .inr ⟨caps, b, rfl, ?_⟩
    simp only [goF_eq_go caps _ 0 0 (captures_digits hc).1]
    cases hd : b.toList.contains '.' with
    | false =>
      refine .inl ⟨rfl, ?_⟩
      cases Units.parseInt.go caps ((sortDesc u.mults).map (·.1)) 0 with
      | none => rfl
      | some acc => exact baseStageF_noDot x acc _ hd
    | true =>
      refine .inr ⟨rfl, ?_, ?_⟩
      · cases Units.parseInt.go caps ((sortDesc u.mults).map (·.1)) 0 with
        | none => rfl
        | some acc => exact baseStage_dot acc hd
      · cases Units.parseInt.go caps ((sortDesc u.mults).map (·.1)) 0 with
        | none => rfl
        | some acc => exact baseStageF_dot x acc _ hd

/-- A successful `ParseInt` in terms of the regexp stage: the captures are digit strings, one per
    multiplier, and the result is their exact weighted sum, every partial sum in int64. -/
theorem parseInt_some {u : Units} {s : String} {v : Int} (h : u.parseInt s = some v) :
    ∃ caps b, u.captures s = some (caps, b) ∧
      (∀ c ∈ caps, AllDigits c.toList) ∧ AllDigits b.toList ∧ caps.length = u.mults.length ∧
      inInt64 (capSum caps ((sortDesc u.mults).map (·.1))) = true ∧
      v = capSum caps ((sortDesc u.mults).map (·.1)) + capVal b ∧ inInt64 v = true := by
  rw [parseInt_eq] at h
  split at h
  · cases h
  · next caps b hc =>
    obtain ⟨hD, hlen, hbD⟩ := captures_digits hc
    split at h
    · cases h
    · next acc hgo =>
      obtain ⟨hex, hacc⟩ := go_some _ _ 0 acc hD (by decide) hgo
      rw [Int.zero_add] at hex
      subst hex
      cases hd : b.toList.contains '.' with
      | true => rw [baseStage_dot _ hd] at h; cases h
      | false =>
        rw [baseStage_noDot _ hd] at h
        obtain ⟨hv, hin⟩ := capStep_some (hbD hd) hacc h
        rw [Int.mul_one] at hv
        exact ⟨caps, b, hc, hD, hbD hd, hlen, hacc, hv, hin⟩

end Arca
