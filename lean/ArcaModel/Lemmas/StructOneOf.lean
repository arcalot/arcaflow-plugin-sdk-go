import ArcaModel.Lemmas.StructRoundTripObj
/-
  One-ofs over struct-mapped members: selection of the member by the value's dynamic type in
  Validate / Serialize (`findMember_unique`), what a member does with the discriminator (`NoDisc`,
  `InlDisc`), and the end-to-end round trip through a one-of given that of its members
  (`rt_oneOfS_of_members`), with a separate discriminator (`rt_oneOfS`) and with an inlined one
  (`rt_obj_inl`, `rt_oneOfS_inl`: a treat-empty-as-default discriminator dropped by the member is put
  back). The routing of Unserialize by the discriminator (`oneOfUnserS_routes`, `oneOfUnserS_accepts`)
  is in Lemmas/StructRoundTrip.lean.
-/
namespace Arca
namespace SM

theorem filter_eq_singleton {α β} [DecidableEq β] (f : α → β) : ∀ (l : List α), (l.map f).Nodup → ∀ a, a ∈ l →
    l.filter (fun b => f b == f a) = [a]
  | [], _, a, h => by cases h
  | b :: rest, hn, a, h => by
    simp only [List.map_cons, List.nodup_cons, List.mem_map, not_exists, not_and] at hn
    simp only [List.filter_cons]
    rcases List.mem_cons.mp h with h | h
    · subst h
      simp only [beq_self_eq_true, if_true, List.cons.injEq, true_and]
      apply List.filter_eq_nil_iff.mpr
      intro c hc hcf
      exact hn.1 c hc (by simpa using hcf)
    · have hne : ¬ f b = f a := fun e => hn.1 a h e.symm
      have hb : (f b == f a) = false := by simpa using hne
      simp only [hb, Bool.false_eq_true, if_false]
      exact filter_eq_singleton f rest hn.2 a h

/-- when the members' struct types are pairwise distinct, the member of a struct value's dynamic
    type is THE member selected -/
theorem findMember_unique {members : List (Key × STy)} (hnd : (members.map fun m => reflTy m.2).Nodup)
    {km : Key × STy} (hm : km ∈ members) {s : SV} (hs : svTy? s = some (reflTy km.2)) :
    findMember members s = some km := by
  unfold findMember
  rw [hs]
  simp only []
  rw [filter_eq_singleton (fun m => reflTy m.2) members hnd km hm]
  rfl

theorem findMember_none {members : List (Key × STy)} {s : SV}
    (h : ∀ km, km ∈ members → svTy? s ≠ some (reflTy km.2)) : findMember members s = none := by
  unfold findMember
  split
  · rfl
  · rename_i g hg
    have : members.filter (fun m => reflTy m.2 == g) = [] := by
      apply List.filter_eq_nil_iff.mpr
      intro km hkm hc
      exact h km hkm (by rw [hg]; simp only [beq_iff_eq] at hc; rw [hc])
    rw [this]; rfl

/-- the member (an object, possibly in scopes) does not declare the discriminator `d` as a property -/
inductive NoDisc (d : String) : STy → Prop
  | obj {id st ptrT props} : hasKey d props = false → NoDisc d (.obj id st ptrT props)
  | scope {t} : NoDisc d t → NoDisc d (.scope t)

theorem noDisc_of_discOK : ∀ (n : Nat) (ik : Bool) (d : String) (t : STy), objLikeS n t = true →
    discOK n ik d false t = true → NoDisc d t
  | 0, _, _, _, h, _ => by simp [objLikeS] at h
  | n + 1, ik, d, t, ho, hd => by
    cases t with
    | obj id st ptrT props =>
      simp only [discOK, memberProps, Bool.false_eq_true, if_false, Bool.not_eq_true'] at hd
      exact .obj hd
    | scope t =>
      simp only [objLikeS] at ho
      have hd' : discOK n ik d false t = true := by simpa [discOK, memberProps] using hd
      exact .scope (noDisc_of_discOK n ik d t ho hd')
    | leaf => simp [objLikeS] at ho
    | list => simp [objLikeS] at ho
    | map => simp [objLikeS] at ho
    | oneOf => simp [objLikeS] at ho

/-- Unserialize of an object-like schema yields a struct value (or a pointer to one) of the schema's
    reflected type - never a `map[string]any` -/
theorem srun_U_objLike (x : Ext) : ∀ (fuel : Nat) (t : STy) (v r : SV), ObjLikeS t →
    srun x fuel .U t v = .ok r → svTy? r = some (reflTy t)
  | 0, _, _, _, _, h => by simp [srun] at h
  | n + 1, t, v, r, ho, h => by
    cases ho with
    | obj =>
      rename_i id st ptrT props
      obtain ⟨_, _, _, _, _, rfl⟩ := runObjS_U_ok_iff.mp h
      cases ptrT <;> rfl
    | scope ho' =>
      simp only [srun] at h
      simp only [reflTy]
      exact srun_U_objLike x n _ v r ho' h

theorem oneOfOut_struct {disc : String} {key : Key} {mr : SV} {g : GoTy} (h : svTy? mr = some g) :
    oneOfOut disc key mr = .ok mr := by
  cases mr <;> simp [svTy?] at h <;> rfl

/-- the keys of what an object-like schema serializes are declared properties: a member that does
    not declare the discriminator does not serialize one -/
theorem srun_S_noDisc (x : Ext) (d : String) : ∀ (fuel : Nat) (t : STy) (s : SV) (rm : List (String × V)),
    NoDisc d t → srun x fuel .S t s = .ok (.val (toStrAny rm)) → hasKey d rm = false
  | 0, _, _, _, _, h => by simp [srun] at h
  | n + 1, t, s, rm, hnd, h => by
    cases hnd with
    | obj hno =>
      rename_i id st ptrT props
      simp only [srun, runObjS] at h
      obtain ⟨fs, _, h⟩ := Out.bind_eq_ok h
      obtain ⟨raw, hraw, h⟩ := Out.bind_eq_ok h
      obtain ⟨m1, hm1, h⟩ := Out.bind_eq_ok h
      obtain ⟨m2, hm2, h⟩ := Out.bind_eq_ok h
      obtain ⟨_, _, h⟩ := Out.bind_eq_ok h
      simp only [Out.ok.injEq, SV.val.injEq] at h
      have hrm : m2 = rm := toStrAny_inj h
      subst hrm
      cases hk : hasKey d m2 with
      | false => rfl
      | true =>
        exfalso
        have h1 : d ∈ keysOf m2 := (hasKey_iff_mem _ _).mp hk
        rw [forSVS_keys hm2, forSVS_keys hm1] at h1
        obtain ⟨_, hr⟩ := (fromStruct_ok_iff st fs props raw).mp hraw
        rw [hr] at h1
        have h2 := (keysOf_filterMap_readOpt st fs props).subset h1
        have := (hasKey_iff_mem _ _).mpr h2
        rw [hno] at this; cases this
    | scope hnd' =>
      simp only [srun] at h
      exact srun_S_noDisc x d n _ s rm hnd' h

theorem toV_val (v : V) : (SV.val v).toV? = some v := rfl

/-- the member declares the discriminator as a leaf of the one-of's key kind (what
    `validateSubtypeDiscriminatorInlineFields` asks of an inlined member) -/
inductive InlDisc (ik : Bool) (disc : String) : STy → Prop
  | obj {id st ptrT props p T} : lookupS disc props = some p → p.ty = .leaf T → discTyOK ik T = true →
      InlDisc ik disc (.obj id st ptrT props)
  | scope {t} : InlDisc ik disc t → InlDisc ik disc (.scope t)

theorem inlDisc_of_discOK : ∀ (n : Nat) (ik : Bool) (d : String) (t : STy), objLikeS n t = true →
    discOK n ik d true t = true → InlDisc ik d t
  | 0, _, _, _, h, _ => by simp [objLikeS] at h
  | n + 1, ik, d, t, ho, hd => by
    cases t with
    | obj id st ptrT props =>
      simp only [discOK, memberProps, if_true] at hd
      split at hd
      · rename_i p hp
        cases hpt : p.ty with
        | leaf T =>
          rw [hpt] at hd
          refine .obj hp hpt ?_
          cases T <;> simp [discLeafOK] at hd <;> simp [discTyOK, hd]
        | _ => rw [hpt] at hd; simp [discLeafOK] at hd
      · cases hd
    | scope t =>
      simp only [objLikeS] at ho
      have hd' : discOK n ik d true t = true := by simpa [discOK, memberProps] using hd
      exact .scope (inlDisc_of_discOK n ik d t ho hd')
    | leaf => simp [objLikeS] at ho
    | list => simp [objLikeS] at ho
    | map => simp [objLikeS] at ho
    | oneOf => simp [objLikeS] at ho

/-- The end-to-end statement for an inlined member, as the one-of uses it: the input map carries
    the discriminator `d` denoting `key`; the serialized form either carries `key` again, or lacks
    the discriminator (dropped: treat-empty-as-default on a zero key) - then the one-of appends it,
    and the member rebuilds an identified struct from the completed map. -/
def RTInl (rec : SRec) (x : Ext) (ik : Bool) (disc : String) (t : STy) : Prop :=
  ∀ mIn s d key, rec .U t (.val (toStrAny mIn)) = .ok s → lookupS disc mIn = some d → DiscDenotes x ik d key →
    rec .V t s = .ok (.val unitV) ∧
    ∃ wl s', rec .S t s = .ok (.val (toStrAny wl)) ∧
      (∀ a, lookupS disc wl = some a → a = key.toV) ∧
      rec .U t (.val (toStrAny (if hasKey disc wl then wl else wl ++ [(disc, key.toV)]))) = .ok s' ∧
      Eqv t s s' ∧ rec .S t s' = .ok (.val (toStrAny wl)) ∧ rec .V t s' = .ok (.val unitV)

theorem sobjRaw_lookup {rec : SRec} {fuel : Nat} {st : StructTy} {props : List (String × SProp)}
    {mIn : List (String × V)} {m : List (String × SV)}
    (h : sobjRaw rec fuel st props (.val (toStrAny mIn)) = .ok m) {k : String} {d : V} (hl : lookupS k mIn = some d) :
    ∃ y, lookupS k m = some y ∧ entryUS rec props k d = .ok y := by
  rw [sobjRaw_toStrAny] at h
  split at h
  · simp [Out.cerr] at h
  · split at h
    · simp [Out.cerr] at h
    · obtain ⟨m0, hm0, h⟩ := Out.bind_eq_ok h
      obtain ⟨add, rfl, _⟩ := applyDefaultsS_ok st fuel hm0
      obtain ⟨y, hy, hly⟩ := forSVS_lookup h k d (lookupS_append_of_some hl add)
      exact ⟨y, hly, hy⟩

theorem srun_leaf_val {x : Ext} {n : Nat} {op : SOp} {T : Ty} {v : V} {r : SV}
    (h : srun x (n + 1) op (.leaf T) (.val v) = .ok r) : ∃ r0, r = .val r0 ∧ run x n op.toOp [] T v = .ok r0 := by
  obtain ⟨_, r0, hv, hr, rfl⟩ := (runLeaf_ok_iff (s := .val v)).mp h
  cases hv
  exact ⟨r0, rfl, hr⟩

theorem plainLeaf_of_discTyOK {ik : Bool} {T : Ty} (h : discTyOK ik T = true) : plainLeaf (.leaf T) = true := by
  cases T <;> simp [discTyOK] at h <;> rfl

theorem srun_obj (x : Ext) (f : Nat) (op : SOp) (id : String) (st : StructTy) (ptrT : Bool)
    (props : List (String × SProp)) (s : SV) :
    srun x (f + 1) op (.obj id st ptrT props) s = runObjS (srun x f) f op st ptrT props s := rfl
theorem srun_scope (x : Ext) (f : Nat) (op : SOp) (t : STy) (s : SV) :
    srun x (f + 1) op (.scope t) s = srun x f op t s := rfl

/-- the inlined member's round trip, for a struct-mapped object -/
theorem rt_obj_inl (x : Ext) (n : Nat) (ik : Bool) (disc : String) (id : String) {st : StructTy} (ptrT : Bool)
    {props : List (String × SProp)} (hwf : WFObj st props) (hex : exactObjB st props = true)
    (hrt : ∀ kp, kp ∈ props → rtPropB st props kp = true)
    (ih : ∀ kp, kp ∈ props → RTAt (srun x (n + 2)) kp.2.ty)
    {p : SProp} {T : Ty} (hp : lookupS disc props = some p) (hty : p.ty = .leaf T) (hT : discTyOK ik T = true) :
    RTInl (srun x (n + 3)) x ik disc (.obj id st ptrT props) := by
  intro mIn s d key hU hld hden
  simp only [srun_obj] at hU ⊢
  have hkp : (disc, p) ∈ props := lookupS_mem hp
  obtain ⟨f, hf, _⟩ := propOK_field (hwf.prop (disc, p) hkp)
  simp only [] at hf
  -- the converted map holds the converted key at the discriminator
  obtain ⟨m0, _, hm0, _⟩ := runObjS_U_ok_iff.mp hU
  obtain ⟨y, hly, hey⟩ := sobjRaw_lookup hm0 hld
  obtain ⟨hdis, huy⟩ := (entryUS_ok_iff hp).mp hey
  rw [hty] at huy
  obtain ⟨y0, rfl, hrun⟩ := srun_leaf_val huy
  have hy0 : y0 = key.toV := discProp_unser x (n + 1) [] ik T hT d y0 key hden hrun
  subst hy0
  -- the converted key serializes to itself and unserializes to itself
  obtain ⟨_, w0, s0, hS0, hU0, _, _, _, hpl⟩ := ih (disc, p) hkp (.val d) (.val key.toV) (by simp only [hty]; exact huy)
  simp only [hty] at hS0 hU0 hpl
  have hs0 : s0 = .val key.toV := hpl (plainLeaf_of_discTyOK hT)
  subst hs0
  obtain ⟨w1, hw1, hrunS⟩ := srun_leaf_val hS0
  simp only [SV.val.injEq] at hw1
  subst hw1
  have hw0 : w0 = key.toV := discProp_ser x (n + 1) [] ik T hT d w0 key hden hrunS
  subst hw0
  have hV2of : ∀ (inp s' : SV), runObjS (srun x (n + 2)) (n + 2) .U st ptrT props inp = .ok s' →
      runObjS (srun x (n + 2)) (n + 2) .V st ptrT props s' = .ok (.val unitV) :=
    fun inp s' h => (rt_obj x n id ptrT hwf hex hrt ih inp s' h).1
  cases hrb : readBack f p (some (.val key.toV)) with
  | none =>
    obtain ⟨hV, m, wl, s', hm, hS, hkeys, _, hU2, hE, hS2⟩ :=
      rt_obj_ext x n id ptrT hwf hex hrt ih _ s [(disc, key.toV)] hU (by
        intro m hm
        rw [hm0] at hm; cases hm
        refine ⟨by simp [keysOf], ?_⟩
        intro ka hka
        simp only [List.mem_singleton] at hka
        subst hka
        exact ⟨p, f, .val key.toV, hkp, hf, hly, by simp only [hty]; exact hU0, hrb⟩)
    rw [hm0] at hm; cases hm
    have hno : hasKey disc wl = false := by rw [hkeys disc p f hkp hf, hly, hrb]; rfl
    refine ⟨hV, wl, s', hS, ?_, ?_, hE, hS2, ?_⟩
    · intro a ha
      simp [hasKey, ha] at hno
    · simp only [hno, Bool.false_eq_true, if_false]; exact hU2
    · exact hV2of _ _ hU2
  | some y' =>
    obtain ⟨hV, m, wl, s', hm, hS, hkeys, htr, hU2, hE, hS2⟩ :=
      rt_obj_ext x n id ptrT hwf hex hrt ih _ s [] hU (fun _ _ => ⟨List.nodup_nil, fun _ h => by cases h⟩)
    rw [hm0] at hm; cases hm
    rw [List.append_nil] at hU2
    have hyes : hasKey disc wl = true := by rw [hkeys disc p f hkp hf, hly, hrb]; rfl
    refine ⟨hV, wl, s', hS, ?_, ?_, hE, hS2, ?_⟩
    · intro a ha
      obtain ⟨p', hp', hsa⟩ := htr disc a _ ha hly
      rw [hp] at hp'; cases hp'
      rw [hty] at hsa
      obtain ⟨a0, ha0, hrunA⟩ := srun_leaf_val hsa
      simp only [SV.val.injEq] at ha0
      subst ha0
      exact discProp_ser x (n + 1) [] ik T hT d a key hden hrunA
    · simp only [hyes, if_true]; exact hU2
    · exact hV2of _ _ hU2

theorem rt_scope_inl {x : Ext} {f : Nat} {ik : Bool} {disc : String} {t : STy}
    (h : RTInl (srun x f) x ik disc t) : RTInl (srun x (f + 1)) x ik disc (.scope t) := by
  intro mIn s d key hU hld hden
  simp only [srun_scope] at hU ⊢
  obtain ⟨hV, wl, s', hS, ha, hU2, hE, hS2, hV2⟩ := h mIn s d key hU hld hden
  exact ⟨hV, wl, s', hS, ha, hU2, .scope hE, hS2, hV2⟩

/-- The end-to-end statement for a member, as the one-of uses it. The one-of's input map `mIn`
    carries the discriminator `d` denoting `key`; the member receives it with the discriminator
    (`inl`) or without. Its serialized form `wl` carries `key` again or lacks the discriminator (never
    declared, or dropped: treat-empty-as-default on a zero key); the one-of then appends it, and from
    the completed map, handed over in the same way, the member rebuilds an identified struct.
    (`RTInl` is the case `inl = true` with the `if`s reduced.) -/
def RTMem (rec : SRec) (x : Ext) (ik : Bool) (disc : String) (inl : Bool) (t : STy) : Prop :=
  ∀ mIn s d key, rec .U t (.val (toStrAny (if inl then mIn else eraseKey disc mIn))) = .ok s →
    lookupS disc mIn = some d → DiscDenotes x ik d key →
    rec .V t s = .ok (.val unitV) ∧
    ∃ wl s', rec .S t s = .ok (.val (toStrAny wl)) ∧
      (∀ a, lookupS disc wl = some a → a = key.toV) ∧
      rec .U t (.val (toStrAny (if inl then (if hasKey disc wl then wl else wl ++ [(disc, key.toV)])
        else eraseKey disc (if hasKey disc wl then wl else wl ++ [(disc, key.toV)])))) = .ok s' ∧
      Eqv t s s' ∧ rec .S t s' = .ok (.val (toStrAny wl)) ∧ rec .V t s' = .ok (.val unitV)

/-- a member that does not serialize the discriminator, under a one-of that keeps it apart -/
theorem rtMem_of_rtAt {rec : SRec} {x : Ext} {ik : Bool} {disc : String} {t : STy} (h : RTAt rec t)
    (hS : ∀ s r, rec .S t s = .ok r → ∃ rm, r = .val (toStrAny rm) ∧ hasKey disc rm = false) :
    RTMem rec x ik disc false t := by
  intro mIn s d key hU _ _
  obtain ⟨hV, w0, s', hS0, hU2, hE, hS2, hV2, _⟩ := h _ _ hU
  obtain ⟨rm, hw0, hno⟩ := hS _ _ hS0
  cases hw0
  refine ⟨hV, rm, s', hS0, fun a ha => by simp [hasKey, ha] at hno, ?_, hE, hS2, hV2⟩
  simp only [hno, Bool.false_eq_true, if_false, eraseKey_append_self _ _ _ hno]
  exact hU2

theorem runOneOfS_S_of_member {rec : SRec} {x : Ext} {ik : Bool} {disc : String} {inl : Bool}
    {members : List (Key × STy)} {key : Key} {mt : STy} {z : SV} {wl : List (String × V)}
    (hf : findMember members z = some (key, mt)) (hz : rec .S mt z = .ok (.val (toStrAny wl))) :
    runOneOfS rec x .S ik disc inl members z =
      .ok (.val (toStrAny (if hasKey disc wl then wl else wl ++ [(disc, key.toV)]))) := by
  simp only [runOneOfS, hf, hz, Out.bind, toStrAny, MapShape.strAny, strKeys_toStrAny]

/-- the member is chosen by the discriminator on the way in and by the struct type on the way out;
    the two choices agree because the members' struct types are pairwise distinct. When the member's
    serialized form lacks the discriminator, the one-of appends the key of the member found by the
    struct's type, and the completed map leads back to the same member. -/
theorem rt_oneOfS_of_members {rec : SRec} (x : Ext) (ik : Bool) (disc : String) (inl : Bool)
    {members : List (Key × STy)} (hrt : ∀ m, m ∈ members → RTMem rec x ik disc inl m.2)
    (hUt : ∀ m, m ∈ members → ∀ v r, rec .U m.2 v = .ok r → svTy? r = some (reflTy m.2))
    (hnd : (members.map fun m => reflTy m.2).Nodup) (v s : SV)
    (h : runOneOfS rec x .U ik disc inl members v = .ok s) :
    runOneOfS rec x .V ik disc inl members s = .ok (.val unitV) ∧
    ∃ w s', runOneOfS rec x .S ik disc inl members s = .ok (.val w) ∧
      runOneOfS rec x .U ik disc inl members (.val w) = .ok s' ∧
      Eqv (.oneOf ik disc inl members) s s' ∧
      runOneOfS rec x .S ik disc inl members s' = .ok (.val w) ∧
      runOneOfS rec x .V ik disc inl members s' = .ok (.val unitV) := by
  obtain ⟨R, hout⟩ := oneOfUnserS_routes h
  have hmm : (R.key, R.mt) ∈ members := lookupK_mem R.member
  have hty := hUt _ hmm _ _ R.accepted
  rw [oneOfOut_struct hty] at hout
  cases hout
  obtain ⟨hV, wl, s', hS0, hda, hU2, hE, hS2, hV2⟩ :=
    hrt _ hmm R.m _ R.d R.key R.accepted (find_lookup_disc disc R.kvs R.m R.dk R.d R.strKeys R.discEntry) R.denotes
  have hty' := hUt _ hmm _ _ hU2
  have hfm := findMember_unique hnd hmm hty
  have hfm' := findMember_unique hnd hmm hty'
  refine ⟨?_, _, s', runOneOfS_S_of_member hfm hS0, ?_, .oneOf hmm hE, runOneOfS_S_of_member hfm' hS2, ?_⟩
  · simp [runOneOfS, hfm, hV, Out.addSeg, Out.bind]
  · have hfind : ((if hasKey disc wl then wl else wl ++ [(disc, R.key.toV)]).map
        fun (kv : String × V) => (V.str kv.1, kv.2)).find? (isDiscKey disc) = some (V.str disc, R.key.toV) := by
      cases hk : hasKey disc wl with
      | false => exact find_disc_append disc R.key.toV wl hk
      | true =>
        obtain ⟨a, ha⟩ := Option.isSome_iff_exists.mp hk
        cases hda a ha
        exact lookup_find_disc disc _ wl ha
    exact (oneOfUnserS_accepts (s := .val (toStrAny _)) (sh := .strAny) rfl (Or.inr rfl) hfind
      (discDenotes_toV R.denotes) (strKeys_toStrAny _) R.member hU2).trans (oneOfOut_struct hty')
  · simp [runOneOfS, hfm', hV2, Out.addSeg, Out.bind]

/-- `rt_oneOfS_of_members` for a discriminator that is NOT inlined, from the plain round trip of the
    members, which do not serialize the discriminator -/
theorem rt_oneOfS {rec : SRec} (x : Ext) (ik : Bool) (disc : String) {members : List (Key × STy)}
    (hrt : ∀ m, m ∈ members → RTAt rec m.2)
    (hUt : ∀ m, m ∈ members → ∀ v r, rec .U m.2 v = .ok r → svTy? r = some (reflTy m.2))
    (hSm : ∀ m, m ∈ members → ∀ s r, rec .S m.2 s = .ok r → ∃ rm, r = .val (toStrAny rm) ∧ hasKey disc rm = false)
    (hnd : (members.map fun m => reflTy m.2).Nodup) (v s : SV)
    (h : runOneOfS rec x .U ik disc false members v = .ok s) :
    runOneOfS rec x .V ik disc false members s = .ok (.val unitV) ∧
    ∃ w s', runOneOfS rec x .S ik disc false members s = .ok (.val w) ∧
      runOneOfS rec x .U ik disc false members (.val w) = .ok s' ∧
      Eqv (.oneOf ik disc false members) s s' ∧
      runOneOfS rec x .S ik disc false members s' = .ok (.val w) ∧
      runOneOfS rec x .V ik disc false members s' = .ok (.val unitV) := by
  exact rt_oneOfS_of_members x ik disc false (fun m hmm => rtMem_of_rtAt (hrt m hmm) (hSm m hmm)) hUt hnd v s h

/-- `rt_oneOfS_of_members` for an inlined discriminator: `RTInl` is `RTMem` at `inl := true`, once
    `if true then a else b` is reduced (which `hrt m hmm` is checked by) -/
theorem rt_oneOfS_inl {rec : SRec} (x : Ext) (ik : Bool) (disc : String) {members : List (Key × STy)}
    (hrt : ∀ m, m ∈ members → RTInl rec x ik disc m.2)
    (hUt : ∀ m, m ∈ members → ∀ v r, rec .U m.2 v = .ok r → svTy? r = some (reflTy m.2))
    (hnd : (members.map fun m => reflTy m.2).Nodup) (v s : SV)
    (h : runOneOfS rec x .U ik disc true members v = .ok s) :
    runOneOfS rec x .V ik disc true members s = .ok (.val unitV) ∧
    ∃ w s', runOneOfS rec x .S ik disc true members s = .ok (.val w) ∧
      runOneOfS rec x .U ik disc true members (.val w) = .ok s' ∧
      Eqv (.oneOf ik disc true members) s s' ∧
      runOneOfS rec x .S ik disc true members s' = .ok (.val w) ∧
      runOneOfS rec x .V ik disc true members s' = .ok (.val unitV) := by
  exact rt_oneOfS_of_members x ik disc true (fun m hmm => hrt m hmm) hUt hnd v s h

end SM
end Arca
