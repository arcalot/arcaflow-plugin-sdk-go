import ArcaModel.Lemmas.Terminates
/-
  Termination on RECURSIVE schemas (C04): reference cycles are harmless as long as every turn of a
  cycle consumes one nesting level of the value.

  Which steps of `run` hand the SAME value to a sub-schema?  A reference, a scope (to its root), a
  one-of (to the selected member - but then the value is known to be a map) and an object with
  exactly one, enabled, property that is given a non-map value (the inline shorthand). Every other
  step hands on strict sub-values (list elements, map keys and values, the entries of an object
  given a map) or a declared default. When at most `G` same-value steps can follow each other
  (`Guard`, everywhere in the schema: `Hered`), a budget linear in the depth of the value is never
  exhausted (`guarded_halts`). The shape this excludes, `scope{A{next: ref A}}` on a non-map value,
  runs out of EVERY budget (`selfLoop_fuel`).
-/
namespace Arca
open Out

/-- `Guard mp env t g`: at most `g` steps that hand on the same value follow each other from `t`;
    `mp = true` records that the value is known to be a map (what a one-of hands to its member),
    in which case an object consumes a level of it. -/
inductive Guard : Bool → Env → Ty → Nat → Prop
  | int {mp env a b u g} : Guard mp env (.int a b u) g
  | float {mp env a b u g} : Guard mp env (.float a b u) g
  | str {mp env a b p g} : Guard mp env (.str a b p) g
  | bool {mp env g} : Guard mp env .bool g
  | pattern {mp env g} : Guard mp env .pattern g
  | enumInt {mp env vs u g} : Guard mp env (.enumInt vs u) g
  | enumStr {mp env vs g} : Guard mp env (.enumStr vs) g
  | any {mp env g} : Guard mp env .any g
  | list {mp env item a b g} : Guard mp env (.list item a b) g
  | map {mp env k v a b g} : Guard mp env (.map k v a b) g
  | objMap {env id props g} : Guard true env (.obj id props) g
  | objMulti {mp env id props g} : props.length ≠ 1 → Guard mp env (.obj id props) g
  | objDisabled {mp env id name p g} : p.disabled = true → Guard mp env (.obj id [(name, p)]) g
  | objSingle {mp env id name p g g'} : Guard false env p.ty g → g < g' → Guard mp env (.obj id [(name, p)]) g'
  | oneOf {mp env ik disc inl members g g'} :
      (∀ m, m ∈ members → Guard true env m.2 g) → g < g' → Guard mp env (.oneOf ik disc inl members) g'
  | ref {mp env id o g g'} : lookupS id env = some o → Guard mp env o g → g < g' → Guard mp env (.ref id) g'
  | refNone {mp env id g} : lookupS id env = none → Guard mp env (.ref id) g
  | scope {mp env objs root o g g'} :
      lookupS root objs = some o → Guard mp objs o g → g < g' → Guard mp env (.scope objs root) g'
  | scopeNone {mp env objs root g} : lookupS root objs = none → Guard mp env (.scope objs root) g

theorem Guard.mono {mp : Bool} {env : Env} {t : Ty} {g g' : Nat} (h : Guard mp env t g) (hg : g ≤ g') :
    Guard mp env t g' := by
  cases h with
  | objMulti hl => exact .objMulti hl
  | objDisabled hd => exact .objDisabled hd
  | objSingle h hlt => exact .objSingle h (Nat.lt_of_lt_of_le hlt hg)
  | oneOf hm hlt => exact .oneOf hm (Nat.lt_of_lt_of_le hlt hg)
  | ref hl h hlt => exact .ref hl h (Nat.lt_of_lt_of_le hlt hg)
  | refNone hl => exact .refNone hl
  | scope hl h hlt => exact .scope hl h (Nat.lt_of_lt_of_le hlt hg)
  | scopeNone hl => exact .scopeNone hl
  | _ => constructor

/-- `Hered G D env t`: every sub-schema of `t` that receives a strict sub-value (list item, map key
    and value, object property) is `Guard false … G` in its scope, hereditarily (inside scopes, for
    all their objects); and a property that receives a default has an acyclic type on which that
    default needs at most `D` units of fuel. References are not followed: what they resolve to is
    covered by the clause for the enclosing scope (`EnvHered` at top level). -/
inductive Hered (G D : Nat) : Env → Ty → Prop
  | int {env a b u} : Hered G D env (.int a b u)
  | float {env a b u} : Hered G D env (.float a b u)
  | str {env a b p} : Hered G D env (.str a b p)
  | bool {env} : Hered G D env .bool
  | pattern {env} : Hered G D env .pattern
  | enumInt {env vs u} : Hered G D env (.enumInt vs u)
  | enumStr {env vs} : Hered G D env (.enumStr vs)
  | any {env} : Hered G D env .any
  | list {env item a b} : Hered G D env item → Guard false env item G → Hered G D env (.list item a b)
  | map {env k v a b} : Hered G D env k → Hered G D env v → Guard false env k G → Guard false env v G →
      Hered G D env (.map k v a b)
  | obj {env id props} :
      (∀ np, np ∈ props → Hered G D env np.2.ty) →
      (∀ np, np ∈ props → Guard false env np.2.ty G) →
      (∀ np, np ∈ props → ∀ np', np' ∈ props → np'.1 = np.1 → ∀ dv, np'.2.defaultV = some (some dv) →
        ∃ d, FinDepth env np.2.ty d ∧ 2 * d + dv.depth + 1 ≤ D) →
      Hered G D env (.obj id props)
  | oneOf {env ik disc inl members} : (∀ m, m ∈ members → Hered G D env m.2) → Hered G D env (.oneOf ik disc inl members)
  | ref {env id} : Hered G D env (.ref id)
  | scope {env objs root} : (∀ p, p ∈ objs → Hered G D objs p.2) → Hered G D env (.scope objs root)

def EnvHered (G D : Nat) (env : Env) : Prop := ∀ p, p ∈ env → Hered G D env p.2

theorem envHered_nil (G D : Nat) : EnvHered G D [] := by intro p hp; cases hp

/-- the statement proved by induction on the fuel `n`; `b` bounds the depth of the value, and `K`
    is the price of one level of it: `2 * G + 2 ≤ K` pays for a fresh `G` and the two units an
    object takes (`guard_budget_sub`) -/
def GuardHalts (x : Ext) (G D K n : Nat) : Prop :=
  ∀ (mp : Bool) (env : Env) (t : Ty) (g : Nat), Guard mp env t g → EnvHered G D env → Hered G D env t →
    ∀ (b : Nat) (op : Op) (v : V), (mp = true → v.mapEntries?.isSome = true) → v.depth ≤ b →
      b * K + 2 * g + D + 2 ≤ n → Avoids .fuel (run x n op env t v)

/-- one level of the value pays for a fresh `G` (and the two units an object takes) -/
theorem guard_budget_sub {G D K a b g n m : Nat} (hK : 2 * G + 2 ≤ K) (ha : a + 1 ≤ b)
    (hn : b * K + 2 * g + D + 2 ≤ n + 1) (hm : n ≤ m + 1) : a * K + 2 * G + D + 2 ≤ m := by
  have := Nat.mul_le_mul_right K ha
  rw [Nat.succ_mul] at this
  omega

/-- a same-value step pays with one of the `g` it may still take -/
theorem guard_budget_same {D K b g g' n m : Nat} (hg : g' < g) (hn : b * K + 2 * g + D + 2 ≤ n + 1)
    (hm : n ≤ m + 1) : b * K + 2 * g' + D + 2 ≤ m := by omega

theorem guard_child {x : Ext} {G D K n m : Nat} (hK : 2 * G + 2 ≤ K) (ih : GuardHalts x G D K m)
    {env : Env} {t : Ty} (henv : EnvHered G D env) (hh : Hered G D env t) (hg : Guard false env t G)
    {b g : Nat} {v e : V} (hv : v.depth ≤ b) (he : e.depth + 1 ≤ v.depth) (hn : b * K + 2 * g + D + 2 ≤ n + 1)
    (hm : n ≤ m + 1) (op : Op) : Avoids .fuel (run x m op env t e) :=
  ih false env t G hg henv hh e.depth op e nofun (Nat.le_refl _) (guard_budget_sub hK (Nat.le_trans he hv) hn hm)

/-- the calls of an object other than that of the single-property shorthand -/
theorem guard_objRec {x : Ext} {G D K n m : Nat} (hK : 2 * G + 2 ≤ K) (ih : GuardHalts x G D K m)
    {env : Env} {id : String} {props : List (String × PropT)} (henv : EnvHered G D env)
    (hh : Hered G D env (.obj id props)) {b g : Nat} {v : V} (hv : v.depth ≤ b)
    (hn : b * K + 2 * g + D + 2 ≤ n + 1) (hm : n ≤ m + 1)
    (hsingle : ∀ name p, props = [(name, p)] → v.mapEntries? = none → p.disabled = false →
      Halts (run x m .U env p.ty v)) : ObjRecHalts (run x m) env props v := by
  cases hh with | obj hp hgd hdef =>
  exact
    { single := hsingle
      entries := fun sh kvs hkvs k e hke np hnp op =>
        guard_child hK ih henv (hp np hnp) (hgd np hnp) hv (depth_mapEntries hkvs hke).2 hn hm op
      defaults := fun np hnp np' hnp' hk dv hdv => by
        obtain ⟨d, hf, hd⟩ := hdef np hnp np' hnp' hk dv hdv
        exact fin_halts x m hf .U dv (by omega) }

theorem guard_step {x : Ext} {G D K : Nat} (hK : 2 * G + 2 ≤ K) (n : Nat)
    (ih : ∀ m, m < n → GuardHalts x G D K m) : GuardHalts x G D K n := by
  intro mp env t g hg henv hh b op v hmp hb hn
  cases n with
  | zero => exact absurd hn (Nat.not_succ_le_zero _)
  | succ n =>
  have ihn := ih n (Nat.lt_succ_self n)
  -- an object takes two units; `single`: what the single-property shorthand hands the value to
  have obj : ∀ {id props}, Hered G D env (.obj id props) →
      (∀ m', n ≤ m' + 1 → m' < n + 1 → ∀ name p, props = [(name, p)] → v.mapEntries? = none → p.disabled = false →
        Halts (run x m' .U env p.ty v)) → Avoids .fuel (runObj (run x n) op env id props v) := by
    intro id props hh single
    cases n with
    | zero => exact absurd (Nat.le_of_succ_le_succ hn) (Nat.not_succ_le_zero _)
    | succ m =>
      have hm : m < m + 1 + 1 := Nat.lt_succ_of_lt (Nat.lt_succ_self m)
      exact halts_run_obj x
        (guard_objRec hK (ih m hm) henv hh hb hn (Nat.le_refl _) (single m (Nat.le_refl _) hm))
        (guard_objRec hK ihn henv hh hb hn (Nat.le_succ _) (single (m + 1) (Nat.le_succ _) (Nat.lt_succ_self _))) op
  simp only [run]
  cases hg with
  | any =>
    have : b ≤ b * K := Nat.le_mul_of_pos_right b (Nat.lt_of_lt_of_le (Nat.succ_pos _) hK)
    exact avoids_runAny _ _ _ fun _ => by omega
  | list =>
    cases hh with | list hi hgi =>
    exact avoids_runList (fun xs hxs e he op' _ =>
      guard_child hK ihn henv hi hgi hb (depth_sliceElems hxs he) hn (Nat.le_succ n) op') _ _
  | map =>
    cases hh with | map hk hv hgk hgv =>
    exact avoids_runMap (fun sh kvs hkvs k e he op' _ =>
      ⟨guard_child hK ihn henv hk hgk hb (depth_mapEntries hkvs he).1 hn (Nat.le_succ n) op',
       guard_child hK ihn henv hv hgv hb (depth_mapEntries hkvs he).2 hn (Nat.le_succ n) op'⟩) _ _
  | objMap => exact obj hh fun _ _ _ name p _ hnone _ => absurd (hmp rfl) (by simp [hnone])
  | objMulti hlen => exact obj hh fun _ _ _ name p hp _ _ => absurd (by rw [hp]; rfl) hlen
  | objDisabled hdis => exact obj hh fun _ _ _ name p hp _ hd => by cases hp; rw [hd] at hdis; cases hdis
  | objSingle hg' hlt =>
    refine obj hh fun m' hm hlt' name p hp _ _ => ?_
    cases hp
    cases hh with | obj hp _ _ =>
    exact ih m' hlt' false env _ _ hg' henv (hp (_, _) (List.mem_singleton_self _)) b .U v nofun hb
      (guard_budget_same hlt hn hm)
  | oneOf hm hlt =>
    cases hh with | oneOf hhm =>
    exact avoids_runOneOf (fun sh kvs sm hkvs hsm mem hmem op' _ =>
      ihn true env _ _ (hm mem hmem) henv (hhm mem hmem) b op' _ (fun _ => rfl)
        (Nat.le_trans (depth_clone_le hkvs hsm _ _) hb) (guard_budget_same hlt hn (Nat.le_succ n))) nofun
  | ref hl hg' hlt =>
    simp only [hl]
    exact ihn mp env _ _ hg' henv (henv _ (lookupS_mem hl)) b op v hmp hb (guard_budget_same hlt hn (Nat.le_succ n))
  | refNone hl => simp [hl]
  | scope hl hg' hlt =>
    simp only [hl]
    cases hh with | scope ho =>
    exact ihn mp _ _ _ hg' ho (ho _ (lookupS_mem hl)) b op v hmp hb (guard_budget_same hlt hn (Nat.le_succ n))
  | scopeNone hl => simp [hl]
  | _ => simp

theorem guardHalts_all (x : Ext) {G D K : Nat} (hK : 2 * G + 2 ≤ K) : ∀ n, GuardHalts x G D K n :=
  fun n => Nat.strongRecOn n (guard_step hK)

/-- Recursive schemas terminate on every finite input when every turn of a reference cycle
    consumes a level of the value: with at most `G` same-value steps in a row (everywhere in the
    schema) and defaults confined to acyclic property types (budget `D`), a budget of
    `(depth v + 1) * (2 G + 2) + D` is never exhausted. -/
theorem guarded_halts (x : Ext) {G D : Nat} {env : Env} {t : Ty} (henv : EnvHered G D env) (hh : Hered G D env t)
    (hg : Guard false env t G) (n : Nat) (op : Op) (v : V) (hn : (v.depth + 1) * (2 * G + 2) + D ≤ n) :
    Halts (run x n op env t v) := by
  rw [Nat.succ_mul] at hn
  exact guardHalts_all x (Nat.le_refl _) n false env t G hg henv hh v.depth op v nofun (Nat.le_refl _) (by omega)

/-- fuelled computation of the length of the longest run of same-value steps from `t`;
    `none`: not bounded within the budget `k` -/
def guardB : Nat → Bool → Env → Ty → Option Nat
  | 0, _, _, _ => none
  | k + 1, mp, env, t =>
    match t with
    | .int _ _ _ | .float _ _ _ | .str _ _ _ | .bool | .pattern | .enumInt _ _ | .enumStr _ | .any => some 0
    | .list _ _ _ | .map _ _ _ _ => some 0
    | .obj _ props =>
      if mp then some 0 else
      match props with
      | [(_, p)] => if p.disabled then some 0 else (guardB k false env p.ty).map (· + 1)
      | _ => some 0
    | .oneOf _ _ _ members => (maxOpt (members.map fun m => guardB k true env m.2)).map (· + 1)
    | .ref id => match lookupS id env with
      | none => some 0
      | some o => (guardB k mp env o).map (· + 1)
    | .scope objs root => match lookupS root objs with
      | none => some 0
      | some o => (guardB k mp objs o).map (· + 1)

theorem guardB_sound : ∀ (k : Nat) (mp : Bool) (env : Env) (t : Ty) (g : Nat),
    guardB k mp env t = some g → Guard mp env t g
  | 0, _, _, _, _, h => by simp [guardB] at h
  | k + 1, mp, env, t, g, h => by
    have ih := guardB_sound k
    cases t with
    | obj id props =>
      simp only [guardB] at h
      split at h
      · rename_i hmp
        subst hmp
        exact .objMap
      · split at h
        · rename_i name p
          split at h
          · rename_i hd
            exact .objDisabled hd
          · simp only [Option.map_eq_some_iff] at h
            obtain ⟨g0, h0, rfl⟩ := h
            exact .objSingle (ih _ _ _ _ h0) (Nat.lt_succ_self _)
        · rename_i hne
          refine .objMulti (fun hlen => ?_)
          match props, hne, hlen with
          | [(name, p)], hne, _ => exact hne name p rfl
    | oneOf ik disc inl members =>
      simp only [guardB, Option.map_eq_some_iff] at h
      obtain ⟨g0, h0, rfl⟩ := h
      refine .oneOf (g := g0) (fun m hm => ?_) (Nat.lt_succ_self _)
      obtain ⟨a, ha, hle⟩ := maxOpt_some h0 (guardB k true env m.2) (List.mem_map.mpr ⟨m, hm, rfl⟩)
      exact (ih _ _ _ _ ha).mono hle
    | ref id =>
      rcases refDepth_some (ih mp env) h with hl | ⟨o, g0, hl, h0, hlt⟩
      · exact .refNone hl
      · exact .ref hl h0 hlt
    | scope objs root =>
      rcases refDepth_some (ih mp objs) h with hl | ⟨o, g0, hl, h0, hlt⟩
      · exact .scopeNone hl
      · exact .scope hl h0 hlt
    | _ => constructor

def guardOK (G kg : Nat) (env : Env) (t : Ty) : Bool :=
  match guardB kg false env t with
  | some g => decide (g ≤ G)
  | none => false

theorem guardOK_sound {G kg : Nat} {env : Env} {t : Ty} (h : guardOK G kg env t = true) : Guard false env t G := by
  unfold guardOK at h
  split at h
  · rename_i g hg
    exact (guardB_sound _ _ _ _ _ hg).mono (by simpa using h)
  · simp at h

/-- the default `dv` terminates on the type `t` within `D` -/
def defaultOK1 (D kg : Nat) (env : Env) (t : Ty) (dflt : Option (Option V)) : Bool :=
  match dflt with
  | some (some dv) =>
    match finB kg env t with
    | some d => decide (2 * d + dv.depth + 1 ≤ D)
    | none => false
  | _ => true

/-- every default is fed to an acyclic type: the type found under the property's name, hence all
    pairs of properties with equal names -/
def defaultsOK (D kg : Nat) (env : Env) (props : List (String × PropT)) : Bool :=
  props.all fun np => props.all fun np' => !(np'.1 == np.1) || defaultOK1 D kg env np.2.ty np'.2.defaultV

theorem defaultsOK_sound {D kg : Nat} {env : Env} {props : List (String × PropT)}
    (h : defaultsOK D kg env props = true) :
    ∀ np, np ∈ props → ∀ np', np' ∈ props → np'.1 = np.1 → ∀ dv, np'.2.defaultV = some (some dv) →
      ∃ d, FinDepth env np.2.ty d ∧ 2 * d + dv.depth + 1 ≤ D := by
  intro np hnp np' hnp' hk dv hdv
  simp only [defaultsOK, List.all_eq_true] at h
  have h1 := h np hnp np' hnp'
  simp only [hk, beq_self_eq_true, Bool.not_true, Bool.false_or, defaultOK1, hdv] at h1
  split at h1
  · rename_i d hd
    exact ⟨d, finB_sound _ _ _ _ hd, by simpa using h1⟩
  · simp at h1

/-- fuelled structural check of `Hered` (`kg`: budget handed to `guardB` and `finB`) -/
def heredB (G D kg : Nat) : Nat → Env → Ty → Bool
  | 0, _, _ => false
  | k + 1, env, t =>
    match t with
    | .int _ _ _ | .float _ _ _ | .str _ _ _ | .bool | .pattern | .enumInt _ _ | .enumStr _ | .any | .ref _ => true
    | .list item _ _ => heredB G D kg k env item && guardOK G kg env item
    | .map kt vt _ _ => heredB G D kg k env kt && heredB G D kg k env vt && guardOK G kg env kt && guardOK G kg env vt
    | .obj _ props =>
      (props.all fun np => heredB G D kg k env np.2.ty && guardOK G kg env np.2.ty) && defaultsOK D kg env props
    | .oneOf _ _ _ members => members.all fun m => heredB G D kg k env m.2
    | .scope objs _ => objs.all fun p => heredB G D kg k objs p.2

theorem heredB_sound {G D kg : Nat} : ∀ (k : Nat) (env : Env) (t : Ty), heredB G D kg k env t = true → Hered G D env t
  | 0, _, _, h => by simp [heredB] at h
  | k + 1, env, t, h => by
    have ih := heredB_sound (G := G) (D := D) (kg := kg) k
    cases t with
    | list item a b =>
      simp only [heredB, Bool.and_eq_true] at h
      exact .list (ih _ _ h.1) (guardOK_sound h.2)
    | map kt vt a b =>
      simp only [heredB, Bool.and_eq_true, and_assoc] at h
      obtain ⟨hk, hv, gk, gv⟩ := h
      exact .map (ih _ _ hk) (ih _ _ hv) (guardOK_sound gk) (guardOK_sound gv)
    | obj id props =>
      simp only [heredB, Bool.and_eq_true, List.all_eq_true] at h
      obtain ⟨hprops, hdef⟩ := h
      exact .obj (fun np hnp => ih _ _ (hprops np hnp).1) (fun np hnp => guardOK_sound (hprops np hnp).2)
        (defaultsOK_sound hdef)
    | oneOf ik disc inl members =>
      simp only [heredB, List.all_eq_true] at h
      exact .oneOf (fun m hm => ih _ _ (h m hm))
    | scope objs root =>
      simp only [heredB, List.all_eq_true] at h
      exact .scope (fun p hp => ih _ _ (h p hp))
    | _ => constructor

/-- the hypotheses of `guarded_halts` for a closed schema, as one executable check -/
def guardedB (G D k : Nat) (t : Ty) : Bool := heredB G D k k [] t && guardOK G k [] t

theorem guardedB_sound {G D k : Nat} {t : Ty} (h : guardedB G D k t = true) :
    Hered G D [] t ∧ Guard false [] t G := by
  simp only [guardedB, Bool.and_eq_true] at h
  exact ⟨heredB_sound _ _ _ h.1, guardOK_sound h.2⟩

def selfLoopObj : Ty := .obj "A" [("next", .mk (.ref "A") false [] [] [] none false)]
def selfLoopObjs : Env := [("A", selfLoopObj)]
def selfLoop : Ty := .scope selfLoopObjs "A"

theorem selfLoop_lookup : lookupS "A" selfLoopObjs = some selfLoopObj := by simp [selfLoopObjs, lookupS]

theorem selfLoop_aux (x : Ext) {v : V} (hv : v.mapEntries? = none) : ∀ (n : Nat),
    run x n .U selfLoopObjs selfLoopObj v = .fuel ∧ run x n .U selfLoopObjs (.ref "A") v = .fuel
  | 0 => by simp [run]
  | n + 1 => by
    have ih := selfLoop_aux x hv n
    constructor
    · rw [selfLoopObj, run]
      simp only [runObj, objRaw, hv, PropT.disabled, PropT.ty, ih.2, rewrapP, Out.bind]
      simp
    · simp only [run, selfLoop_lookup]
      exact ih.1

/-- Unserialize of any non-map value with `scope{A{next: ref A}}` exhausts EVERY budget: the
    single-property shorthand re-wraps the value for ever. -/
theorem selfLoop_fuel (x : Ext) {v : V} (hv : v.mapEntries? = none) (n : Nat) : run x n .U [] selfLoop v = .fuel := by
  cases n with
  | zero => simp [run]
  | succ n =>
    simp only [selfLoop, run, selfLoop_lookup]
    exact (selfLoop_aux x hv n).1

theorem selfLoop_not_guarded : ∀ (g : Nat), ¬ Guard false selfLoopObjs selfLoopObj g := by
  intro g
  induction g using Nat.strongRecOn with
  | _ g ih =>
    intro h
    unfold selfLoopObj at h
    cases h with
    | objMulti hlen => simp at hlen
    | objDisabled hd => simp [PropT.disabled] at hd
    | objSingle h1 hlt =>
      simp only [PropT.ty] at h1
      cases h1 with
      | ref hl' h2 hlt2 =>
        rw [selfLoop_lookup] at hl'
        cases hl'
        exact ih _ (by omega) h2
      | refNone hl' => rw [selfLoop_lookup] at hl'; cases hl'

theorem selfLoop_not_guarded_closed (g : Nat) : ¬ Guard false [] selfLoop g := by
  intro h
  unfold selfLoop at h
  cases h with
  | scope hl' h1 _ =>
    rw [selfLoop_lookup] at hl'
    cases hl'
    exact selfLoop_not_guarded _ h1
  | scopeNone hl' => rw [selfLoop_lookup] at hl'; cases hl'

/-- nor is it acyclic at any depth: it would terminate otherwise -/
theorem selfLoop_not_fin (d : Nat) : ¬ FinDepth [] selfLoop d := fun h =>
  fin_halts ⟨fun _ => none, fun _ => "", fun _ => false, fun _ _ => false⟩ (2 * d + 1) h .U (.int .int64 5)
    (by simp [V.depth]) (selfLoop_fuel _ rfl _)

end Arca
