import ArcaModel.Model.Link
import ArcaModel.Lemmas.Out
/-
  Lemmas about the linking model: what one `ApplyNamespace` pass and the constructors do to every
  reference occurrence, stated on the list of occurrences `occs`.
-/
namespace Arca.Link
open Arca Arca.Out

/-- Replace the link of every reference occurrence `o` (as `occs` lists it) by `(f o).link`.
    Every linking pass has this form, so what the passes do to whole trees reduces to what `relink`
    and `selfLinked` do to one occurrence. -/
def mapLinks (w : String) (f : Occ → Occ) : Option Table → Path → LTy → LTy
  | _, _, .leaf t => .leaf t
  | _, _, .nil => .nil
  | ctx, p, .ref id n link => .ref id n (f ⟨p, id, n, link, ctx⟩).link
  | ctx, p, .list i => .list (mapLinks w f ctx (p ++ ["[]"]) i)
  | ctx, p, .map k v => .map (mapLinks w f ctx (p ++ ["{k}"]) k) (mapLinks w f ctx (p ++ ["{v}"]) v)
  | ctx, p, .obj id ps => .obj id (mapLinks w f ctx p ps)
  | ctx, p, .oneOf d ms => .oneOf d (mapLinks w f ctx p ms)
  | _, p, .scope objs root => .scope (mapLinks w f (some (selfTable w p objs)) p objs) root
  | ctx, p, .cons l h t => .cons l (mapLinks w f ctx (p ++ [l]) h) (mapLinks w f ctx p t)

structure LinkOnly (f : Occ → Occ) : Prop where
  path : ∀ o, (f o).path = o.path
  id : ∀ o, (f o).id = o.id
  ns : ∀ o, (f o).ns = o.ns
  ctx : ∀ o, (f o).ctx = o.ctx

theorem LinkOnly.eq {f : Occ → Occ} (hf : LinkOnly f) (o : Occ) : f o = ⟨o.path, o.id, o.ns, (f o).link, o.ctx⟩ := by
  rw [← hf.path, ← hf.id, ← hf.ns, ← hf.ctx]

/-- the labels of a child list, hence a scope's own table, do not depend on links -/
theorem labels_mapLinks (w : String) (f : Occ → Occ) : ∀ (t : LTy) (ctx : Option Table) (p : Path),
    labels (mapLinks w f ctx p t) = labels t := by
  intro t
  induction t with
  | cons l h t _ iht => intro ctx p; simp only [mapLinks, labels, iht]
  | _ => intros; rfl

theorem selfTable_mapLinks (w : String) (f : Occ → Occ) (q : Path) (t : LTy) (ctx : Option Table) (p : Path) :
    selfTable w q (mapLinks w f ctx p t) = selfTable w q t := by
  simp only [selfTable, labels_mapLinks]

theorem occs_mapLinks (w : String) {f : Occ → Occ} (hf : LinkOnly f) : ∀ (t : LTy) (ctx : Option Table) (p : Path),
    occs w ctx p (mapLinks w f ctx p t) = (occs w ctx p t).map f := by
  intro t
  induction t with
  | leaf ty => intros; rfl
  | nil => intros; rfl
  | ref id n link => intro ctx p; exact congrArg (fun o => [o]) (hf.eq ⟨p, id, n, link, ctx⟩).symm
  | list i ih => intro ctx p; exact ih ctx _
  | map k v ihk ihv => intro ctx p; simp only [mapLinks, occs, List.map_append, ihk, ihv]
  | obj id ps ih => intro ctx p; exact ih ctx _
  | oneOf d ms ih => intro ctx p; exact ih ctx _
  | scope objs root ih => intro ctx p; simp only [mapLinks, occs, selfTable_mapLinks, ih]
  | cons l h t ihh iht => intro ctx p; simp only [mapLinks, occs, List.map_append, ihh, iht]

theorem mapLinks_mapLinks (w : String) {f : Occ → Occ} (hf : LinkOnly f) (g : Occ → Occ) :
    ∀ (t : LTy) (ctx : Option Table) (p : Path),
    mapLinks w g ctx p (mapLinks w f ctx p t) = mapLinks w (g ∘ f) ctx p t := by
  intro t
  induction t with
  | leaf ty => intros; rfl
  | nil => intros; rfl
  | ref id n link => intro ctx p; exact congrArg (fun o => LTy.ref id n (g o).link) (hf.eq ⟨p, id, n, link, ctx⟩).symm
  | list i ih => intro ctx p; simp only [mapLinks, ih]
  | map k v ihk ihv => intro ctx p; simp only [mapLinks, ihk, ihv]
  | obj id ps ih => intro ctx p; simp only [mapLinks, ih]
  | oneOf d ms ih => intro ctx p; simp only [mapLinks, ih]
  | scope objs root ih => intro ctx p; simp only [mapLinks, selfTable_mapLinks, ih]
  | cons l h t ihh iht => intro ctx p; simp only [mapLinks, ihh, iht]

theorem mapLinks_congr (w : String) {f g : Occ → Occ} : ∀ (t : LTy) (ctx : Option Table) (p : Path),
    (∀ o ∈ occs w ctx p t, (f o).link = (g o).link) → mapLinks w f ctx p t = mapLinks w g ctx p t := by
  intro t
  induction t with
  | leaf ty => intros; rfl
  | nil => intros; rfl
  | ref id n link => intro ctx p h; simp only [mapLinks, h _ (List.mem_singleton.mpr rfl)]
  | list i ih => intro ctx p h; simp only [mapLinks, ih ctx _ h]
  | map k v ihk ihv =>
    intro ctx p h
    simp only [occs, List.mem_append] at h
    simp only [mapLinks, ihk ctx _ (fun o ho => h o (Or.inl ho)), ihv ctx _ (fun o ho => h o (Or.inr ho))]
  | obj id ps ih => intro ctx p h; simp only [mapLinks, ih ctx _ h]
  | oneOf d ms ih => intro ctx p h; simp only [mapLinks, ih ctx _ h]
  | scope objs root ih => intro ctx p h; simp only [mapLinks, ih _ _ h]
  | cons l h t ihh iht =>
    intro ctx p hh
    simp only [occs, List.mem_append] at hh
    simp only [mapLinks, ihh ctx _ (fun o ho => hh o (Or.inl ho)), iht ctx _ (fun o ho => hh o (Or.inr ho))]

theorem occs_ctx_some (w : String) : ∀ (t : LTy) (ctx : Option Table) (p : Path),
    ctx.isSome → ∀ o ∈ occs w ctx p t, o.ctx.isSome := by
  intro t
  induction t with
  | leaf ty => intro ctx p _ o ho; cases ho
  | nil => intro ctx p _ o ho; cases ho
  | ref id n link =>
    intro ctx p hc o ho
    cases List.mem_singleton.mp ho; exact hc
  | list i ih => intro ctx p hc o ho; exact ih ctx _ hc o ho
  | map k v ihk ihv =>
    intro ctx p hc o ho
    rcases List.mem_append.mp ho with ho | ho
    · exact ihk ctx _ hc o ho
    · exact ihv ctx _ hc o ho
  | obj id ps ih => intro ctx p hc o ho; exact ih ctx _ hc o ho
  | oneOf d ms ih => intro ctx p hc o ho; exact ih ctx _ hc o ho
  | scope objs root ih => intro ctx p _ o ho; exact ih _ p rfl o ho
  | cons l h t ihh iht =>
    intro ctx p hc o ho
    rcases List.mem_append.mp ho with ho | ho
    · exact ihh ctx _ hc o ho
    · exact iht ctx _ hc o ho

/-- give the occurrences outside every scope of the traversed tree the ambient scope `c` -/
def fill (c : Option Table) (o : Occ) : Occ :=
  match o.ctx with
  | none => { o with ctx := c }
  | some _ => o

theorem fill_of_some {c : Option Table} {o : Occ} (h : o.ctx.isSome) : fill c o = o := by
  unfold fill
  cases hc : o.ctx with
  | none => rw [hc] at h; cases h
  | some _ => rfl

/-- the ambient scope only matters to occurrences outside every scope of the tree -/
theorem mapLinks_fill (w : String) (f : Occ → Occ) : ∀ (t : LTy) (ctx : Option Table) (p : Path),
    mapLinks w f ctx p t = mapLinks w (f ∘ fill ctx) none p t := by
  intro t
  induction t with
  | leaf ty => intros; rfl
  | nil => intros; rfl
  | ref id n link => intros; rfl
  | list i ih => intro ctx p; simp only [mapLinks, ih ctx]
  | map k v ihk ihv => intro ctx p; simp only [mapLinks, ihk ctx, ihv ctx]
  | obj id ps ih => intro ctx p; simp only [mapLinks, ih ctx]
  | oneOf d ms ih => intro ctx p; simp only [mapLinks, ih ctx]
  | scope objs root _ =>
    intro ctx p
    refine congrArg (fun t => LTy.scope t root) (mapLinks_congr w objs _ p fun o ho => ?_)
    show (f o).link = (f (fill ctx o)).link
    rw [fill_of_some (occs_ctx_some w objs _ p rfl o ho)]
  | cons l h t ihh iht => intro ctx p; simp only [mapLinks, ihh ctx, iht ctx]

/-- the table an occurrence of namespace `ns` is looked up in during the pass `(tbl, ns)` -/
def passTable (tbl : Table) (ns : String) (o : Occ) : Table :=
  if ns == "" then o.ctx.getD tbl else tbl

/-- does the pass `(tbl, ns)` find the ID of this occurrence (if it is one of its namespace)? -/
def found (tbl : Table) (ns : String) (o : Occ) : Bool :=
  o.ns != ns || (lookupS o.id (passTable tbl ns o)).isSome

theorem relink_linkOnly (tbl : Table) (ns : String) : LinkOnly (relink tbl ns) := by
  constructor <;> intro o <;> unfold relink <;> split <;> rfl

/-- a scope hands its own table down for the self namespace and the given one otherwise: for an
    occurrence that knows its scope this is the table it is looked up in anyway -/
theorem passTable_scope {S tbl : Table} {ns : String} {o : Occ} (h : o.ctx.isSome) :
    passTable (if ns == "" then S else tbl) ns o = passTable tbl ns o := by
  unfold passTable
  cases hc : o.ctx with
  | none => rw [hc] at h; cases h
  | some c => cases ns == "" <;> rfl

theorem relink_eq (tbl : Table) (ns : String) (o : Occ) :
    relink tbl ns o = if o.ns != ns then o else { o with link := lookupS o.id (passTable tbl ns o) } := rfl

theorem cond_bind {α β} (c : Bool) (a : α) (f : α → Out β) :
    (bif c then Out.ok a else Out.panic).bind f = bif c then f a else .panic := by
  cases c <;> rfl

theorem all_congr_mem {α} {p q : α → Bool} : ∀ {l : List α}, (∀ a ∈ l, p a = q a) → l.all p = l.all q
  | [], _ => rfl
  | a :: l, h => by
    simp only [List.all_cons, h a (List.mem_cons_self ..), all_congr_mem fun b hb => h b (List.mem_cons_of_mem _ hb)]

/-- The pass `t.ApplyNamespace(tbl, ns)`, provided - for the self namespace - that the table handed
    down is the one of the nearest enclosing scope (which is how scopes call it): it panics unless
    every occurrence of namespace `ns` finds its ID, and otherwise relinks exactly those
    occurrences, each to the entry of ITS nearest scope / of the table.
    (`bif`: the `Decidable` instance of an `if` would keep a copy of the condition that rewriting
    does not reach.) -/
theorem applyNs_eq (w : String) (ns : String) : ∀ (t : LTy) (tbl : Table) (ctx : Option Table) (p : Path),
    (ns = "" → ctx.getD tbl = tbl) →
    applyNs w tbl ns p t =
      bif (occs w ctx p t).all (found tbl ns) then .ok (mapLinks w (relink tbl ns) ctx p t) else .panic := by
  intro t
  induction t with
  | leaf ty => intros; rfl
  | nil => intros; rfl
  | ref id n link =>
    intro tbl ctx p hc
    have htb : passTable tbl ns ⟨p, id, n, link, ctx⟩ = tbl := by
      unfold passTable
      split
      · rename_i he; exact hc (by simpa using he)
      · rfl
    simp only [applyNs, occs, mapLinks, relink_eq, found, htb, List.all_cons, List.all_nil, Bool.and_true]
    cases n != ns
    · cases lookupS id tbl <;> rfl
    · rfl
  | list i ih => intro tbl ctx p hc; simp only [applyNs, occs, mapLinks, ih tbl ctx _ hc, cond_bind]
  | map k v ihk ihv =>
    intro tbl ctx p hc
    simp only [applyNs, occs, mapLinks, ihk tbl ctx _ hc, ihv tbl ctx _ hc, cond_bind, List.all_append]
    cases (occs w ctx (p ++ ["{k}"]) k).all (found tbl ns) <;> cases (occs w ctx (p ++ ["{v}"]) v).all (found tbl ns) <;> rfl
  | obj id ps ih => intro tbl ctx p hc; simp only [applyNs, occs, mapLinks, ih tbl ctx _ hc, cond_bind]
  | oneOf d ms ih => intro tbl ctx p hc; simp only [applyNs, occs, mapLinks, ih tbl ctx _ hc, cond_bind]
  | scope objs root ih =>
    intro tbl ctx p _
    have hsome := occs_ctx_some w objs (some (selfTable w p objs)) p rfl
    have key := ih (if ns == "" then selfTable w p objs else tbl) (some (selfTable w p objs)) p
      (by intro hns; subst hns; rfl)
    simp only [applyNs, occs, mapLinks, key, cond_bind]
    rw [all_congr_mem fun o ho => show found _ ns o = found tbl ns o by simp only [found, passTable_scope (hsome o ho)],
      mapLinks_congr w objs _ p fun o ho => show (relink _ ns o).link = (relink tbl ns o).link by
        simp only [relink_eq, passTable_scope (hsome o ho)]]
  | cons l h t ihh iht =>
    intro tbl ctx p hc
    simp only [applyNs, occs, mapLinks, ihh tbl ctx _ hc, iht tbl ctx _ hc, cond_bind, List.all_append]
    cases (occs w ctx (p ++ [l]) h).all (found tbl ns) <;> cases (occs w ctx p t).all (found tbl ns) <;> rfl

theorem applyNs_eq_ok {w ns : String} {t : LTy} {tbl : Table} {p : Path} {t' : LTy} (ctx : Option Table)
    (hc : ns = "" → ctx.getD tbl = tbl) :
    applyNs w tbl ns p t = .ok t' ↔
      (occs w ctx p t).all (found tbl ns) = true ∧ t' = mapLinks w (relink tbl ns) ctx p t := by
  rw [applyNs_eq w ns t tbl ctx p hc]
  cases (occs w ctx p t).all (found tbl ns)
  · simp only [cond_false, reduceCtorEq, Bool.false_eq_true, false_and]
  · simp only [cond_true, Out.ok.injEq, true_and]; exact eq_comm

theorem all_found_iff {tbl : Table} {ns : String} {l : List Occ} :
    l.all (found tbl ns) = true ↔ ∀ o ∈ l, o.ns = ns → (lookupS o.id (passTable tbl ns o)).isSome := by
  simp only [List.all_eq_true, found, Bool.or_eq_true, bne_iff_ne, ne_eq, Decidable.imp_iff_not_or]

theorem applyNs_ok_or_panic (w : String) (ns : String) (t : LTy) (tbl : Table) (p : Path) :
    (∃ t', applyNs w tbl ns p t = .ok t') ∨ applyNs w tbl ns p t = .panic := by
  rw [applyNs_eq w ns t tbl none p (fun _ => rfl)]
  cases (occs w none p t).all (found tbl ns)
  · exact Or.inr rfl
  · exact Or.inl ⟨_, rfl⟩

theorem applySeq_ok_or_panic : ∀ (apps : List (String × Table)) (t : LTy),
    (∃ t', applySeq apps t = .ok t') ∨ applySeq apps t = .panic
  | [], t => Or.inl ⟨t, rfl⟩
  | (ns, tbl) :: rest, t => by
    simp only [applySeq]
    rcases applyNs_ok_or_panic "" ns t tbl [] with ⟨t', h⟩ | h <;> rw [h]
    · exact applySeq_ok_or_panic rest t'
    · exact Or.inr rfl

theorem applyNs_occs (w : String) (ns : String) (t : LTy) (tbl : Table) (ctx : Option Table) (p : Path) (t' : LTy)
    (hc : ns = "" → ctx.getD tbl = tbl) (h : applyNs w tbl ns p t = .ok t') :
    occs w ctx p t' = (occs w ctx p t).map (relink tbl ns) := by
  rw [((applyNs_eq_ok ctx hc).mp h).2, occs_mapLinks w (relink_linkOnly tbl ns)]

theorem applyNs_ok_iff (w : String) (ns : String) (t : LTy) (tbl : Table) (ctx : Option Table) (p : Path)
    (hc : ns = "" → ctx.getD tbl = tbl) :
    (∃ t', applyNs w tbl ns p t = .ok t') ↔
      ∀ o ∈ occs w ctx p t, o.ns = ns → (lookupS o.id (passTable tbl ns o)).isSome := by
  rw [← all_found_iff]
  exact ⟨fun ⟨_, h⟩ => ((applyNs_eq_ok ctx hc).mp h).1, fun h => ⟨_, (applyNs_eq_ok ctx hc).mpr ⟨h, rfl⟩⟩⟩

theorem all_found_eq_false {tbl : Table} {ns : String} {l : List Occ} :
    l.all (found tbl ns) = false ↔ ∃ o ∈ l, o.ns = ns ∧ lookupS o.id (passTable tbl ns o) = none := by
  simp only [List.all_eq_false, found, Bool.or_eq_true, bne_iff_ne, ne_eq, not_or, Decidable.not_not,
    Bool.not_eq_true, Option.isSome_eq_false_iff, Option.isNone_iff_eq_none]

theorem applyNs_panic_iff (w : String) (ns : String) (t : LTy) (tbl : Table) (ctx : Option Table) (p : Path)
    (hc : ns = "" → ctx.getD tbl = tbl) :
    applyNs w tbl ns p t = .panic ↔
      ∃ o ∈ occs w ctx p t, o.ns = ns ∧ lookupS o.id (passTable tbl ns o) = none := by
  rw [applyNs_eq w ns t tbl ctx p hc, ← all_found_eq_false]
  cases (occs w ctx p t).all (found tbl ns) <;> simp

theorem applyNs_mapLinks (w : String) (ns : String) {f : Occ → Occ} (hf : LinkOnly f) (t : LTy) (tbl : Table) (p : Path) :
    applyNs w tbl ns p (mapLinks w f none p t) =
      bif (occs w none p t).all (found tbl ns) then .ok (mapLinks w (relink tbl ns ∘ f) none p t) else .panic := by
  have hfound : found tbl ns ∘ f = found tbl ns := funext fun o => by
    show found tbl ns (f o) = _
    rw [hf.eq o]; rfl
  rw [applyNs_eq w ns _ tbl none p (fun _ => rfl), occs_mapLinks w hf, mapLinks_mapLinks w hf, List.all_map, hfound]

theorem validateRefs_iff (w : String) : ∀ (t : LTy) (ctx : Option Table) (p : Path),
    validateRefs t = true ↔ ∀ o ∈ occs w ctx p t, o.link.isSome = true := by
  intro t
  induction t with
  | leaf ty => intro ctx p; simp [validateRefs, occs]
  | nil => intro ctx p; simp [validateRefs, occs]
  | ref id n link => intro ctx p; simp [validateRefs, occs]
  | list i ih => intro ctx p; exact ih ctx _
  | map k v ihk ihv =>
    intro ctx p
    simp only [validateRefs, occs, Bool.and_eq_true, List.mem_append, ihk ctx (p ++ ["{k}"]), ihv ctx (p ++ ["{v}"]),
      or_imp, forall_and]
  | obj id ps ih => intro ctx p; exact ih ctx _
  | oneOf d ms ih => intro ctx p; exact ih ctx _
  | scope objs root ih => intro ctx p; exact ih _ _
  | cons l h t ihh iht =>
    intro ctx p
    simp only [validateRefs, occs, Bool.and_eq_true, List.mem_append, ihh ctx (p ++ [l]), iht ctx p, or_imp, forall_and]

/-- what construction does to an occurrence: a self-namespace reference below a scope is linked to
    the entry of its nearest scope -/
def selfLinked (o : Occ) : Occ :=
  if o.ns == "" then
    match o.ctx with
    | some tb => { o with link := lookupS o.id tb }
    | none => o
  else o

theorem selfLinked_linkOnly : LinkOnly selfLinked := by
  constructor <;> intro o <;> unfold selfLinked <;> split <;> (try split) <;> rfl

/-- the scope that closes over already constructed objects: applying the self namespace to what
    construction made of them is construction with the scope's table in place -/
theorem selfLinked_step (S : Table) (o : Occ) :
    relink [] "" (fill (some S) (selfLinked o)) = selfLinked (fill (some S) o) := by
  obtain ⟨path, id, ns, link, ctx⟩ := o
  cases ctx <;> cases hn : ns == "" <;> simp [selfLinked, fill, relink, hn, bne]

theorem build_eq (w : String) : ∀ (t : LTy) (p : Path) (t' : LTy),
    build w p t = .ok t' → t' = mapLinks w selfLinked none p t := by
  intro t
  induction t with
  | leaf ty => intro p t' h; cases h; rfl
  | nil => intro p t' h; cases h; rfl
  | ref id n link =>
    intro p t' h; cases h
    simp only [mapLinks, selfLinked]
    split <;> rfl
  | list i ih =>
    intro p t' h; simp only [build] at h
    obtain ⟨x, hx, e⟩ := bind_eq_ok h; cases e
    simp only [mapLinks, ← ih _ x hx]
  | map k v ihk ihv =>
    intro p t' h; simp only [build] at h
    obtain ⟨x, hx, e⟩ := bind_eq_ok h
    obtain ⟨y, hy, e2⟩ := bind_eq_ok e; cases e2
    simp only [mapLinks, ← ihk _ x hx, ← ihv _ y hy]
  | obj id ps ih =>
    intro p t' h; simp only [build] at h
    obtain ⟨x, hx, e⟩ := bind_eq_ok h; cases e
    simp only [mapLinks, ← ih _ x hx]
  | oneOf d ms ih =>
    intro p t' h; simp only [build] at h
    obtain ⟨x, hx, e⟩ := bind_eq_ok h; cases e
    simp only [mapLinks, ← ih _ x hx]
  | scope objs root ih =>
    intro p t' h; simp only [build] at h
    obtain ⟨x, hx, e⟩ := bind_eq_ok h
    obtain ⟨_, rfl⟩ := (applyNs_eq_ok none (fun _ => rfl)).mp e
    rw [ih p x hx]
    simp only [mapLinks, selfTable_mapLinks]
    rw [mapLinks_fill w (relink [] ""), mapLinks_mapLinks w selfLinked_linkOnly, mapLinks_fill w selfLinked objs]
    exact congrArg (fun f => LTy.scope (mapLinks w f none p objs) root) (funext (selfLinked_step _))
  | cons l h t ihh iht =>
    intro p t' hh; simp only [build] at hh
    obtain ⟨x, hx, e⟩ := bind_eq_ok hh
    obtain ⟨y, hy, e2⟩ := bind_eq_ok e; cases e2
    simp only [mapLinks, ← ihh _ x hx, ← iht _ y hy]

theorem build_occs (w : String) (t : LTy) (p : Path) (t' : LTy) (h : build w p t = .ok t') :
    occs w none p t' = (occs w none p t).map selfLinked := by
  rw [build_eq w t p t' h, occs_mapLinks w selfLinked_linkOnly]

def seqLink (apps : List (String × Table)) (o : Occ) : Occ :=
  apps.foldl (fun o a => relink a.2 a.1 o) o

theorem applySeq_occs : ∀ (apps : List (String × Table)) (t t' : LTy),
    applySeq apps t = .ok t' → occs "" none [] t' = (occs "" none [] t).map (seqLink apps)
  | [], t, t', h => by
    simp only [applySeq] at h; cases h
    have : seqLink [] = id := by funext o; rfl
    rw [this, List.map_id]
  | (ns, tbl) :: rest, t, t', h => by
    simp only [applySeq] at h
    obtain ⟨x, hx, e⟩ := bind_eq_ok h
    rw [applySeq_occs rest x t' e, applyNs_occs "" ns t tbl none [] x (by intro _; rfl) hx]
    simp only [List.map_map]
    rfl

/-- with pairwise distinct, non-self namespaces the order of passes is irrelevant for every
    occurrence: its link is the entry of the table applied for its namespace, if any -/
theorem seqLink_eq : ∀ (apps : List (String × Table)) (o : Occ),
    (apps.map (·.1)).Nodup → (∀ a ∈ apps, a.1 ≠ "") →
    seqLink apps o = match lookupS o.ns apps with
      | some tb => { o with link := lookupS o.id tb }
      | none => o
  | [], o, _, _ => rfl
  | (ns, tbl) :: rest, o, hnd, hne => by
    obtain ⟨hnot, hnd'⟩ := List.nodup_cons.mp hnd
    have hns : (ns == "") = false := beq_false_of_ne (hne (ns, tbl) (List.mem_cons_self ..))
    have ih := seqLink_eq rest (relink tbl ns o) hnd' (fun a ha => hne a (List.mem_cons_of_mem _ ha))
    rw [show seqLink ((ns, tbl) :: rest) o = seqLink rest (relink tbl ns o) from rfl, ih]
    simp only [relink_eq, passTable, hns, lookupS]
    by_cases he : o.ns = ns
    · -- this pass links it; no later pass has the same namespace
      simp only [he, bne_self_eq_false, BEq.rfl, if_true, if_false, Bool.false_eq_true,
        (lookupS_none_iff ns rest).mpr hnot]
    · simp only [bne_iff_ne.mpr he, beq_false_of_ne he, if_true, if_false, Bool.false_eq_true]

theorem relink_relink (tb1 tb2 : Table) (ns : String) (o : Occ) :
    relink tb2 ns (relink tb1 ns o) = relink tb2 ns o := by
  simp only [relink_eq]
  cases h : o.ns != ns <;> simp only [h, if_true, if_false, Bool.false_eq_true]
  rfl

/-- passes for different namespaces touch different occurrences -/
theorem relink_comm {n1 n2 : String} (hne : n1 ≠ n2) (tb1 tb2 : Table) (o : Occ) :
    relink tb1 n1 (relink tb2 n2 o) = relink tb2 n2 (relink tb1 n1 o) := by
  simp only [relink_eq]
  cases h1 : o.ns != n1 <;> cases h2 : o.ns != n2 <;> simp only [h1, h2, if_true, if_false, Bool.false_eq_true]
  exact absurd ((bne_eq_false_iff_eq.mp h1).symm.trans (bne_eq_false_iff_eq.mp h2)) hne

theorem applyNs_comm (w : String) {n1 n2 : String} (hne : n1 ≠ n2) (t : LTy) (tb1 tb2 : Table) (p : Path) (a b : LTy)
    (h1 : applyNs w tb1 n1 p t = .ok a) (h2 : applyNs w tb2 n2 p a = .ok b) :
    ∃ a', applyNs w tb2 n2 p t = .ok a' ∧ applyNs w tb1 n1 p a' = .ok b := by
  obtain ⟨f1, rfl⟩ := (applyNs_eq_ok none (fun _ => rfl)).mp h1
  rw [applyNs_mapLinks w n2 (relink_linkOnly tb1 n1)] at h2
  cases f2 : (occs w none p t).all (found tb2 n2) <;> rw [f2] at h2 <;> cases h2
  refine ⟨_, (applyNs_eq_ok none (fun _ => rfl)).mpr ⟨f2, rfl⟩, ?_⟩
  rw [applyNs_mapLinks w n1 (relink_linkOnly tb2 n2), f1, cond_true]
  exact congrArg (fun f => Out.ok (mapLinks w f none p t)) (funext (relink_comm hne tb1 tb2))

theorem applySeq_perm_ok {apps apps' : List (String × Table)} (hp : apps.Perm apps') :
    (apps.map (·.1)).Nodup → ∀ (t r : LTy), applySeq apps t = .ok r → applySeq apps' t = .ok r := by
  induction hp with
  | nil => intro _ t r h; exact h
  | cons x _ ih =>
    intro hnd t r h
    obtain ⟨ns, tbl⟩ := x
    simp only [applySeq] at h ⊢
    obtain ⟨m, hm, e⟩ := bind_eq_ok h
    rw [hm]
    exact ih (List.nodup_cons.mp hnd).2 m r e
  | swap x y l =>
    intro hnd t r h
    obtain ⟨n1, tb1⟩ := x
    obtain ⟨n2, tb2⟩ := y
    -- h : y first, then x
    simp only [applySeq] at h ⊢
    obtain ⟨m, hm, e⟩ := bind_eq_ok h
    obtain ⟨m2, hm2, e2⟩ := bind_eq_ok e
    have hne : n2 ≠ n1 := by
      intro he
      simp only [List.map, List.nodup_cons, List.mem_cons] at hnd
      exact hnd.1 (Or.inl he)
    obtain ⟨a', ha1, ha2⟩ := applyNs_comm "" hne t tb2 tb1 [] m m2 hm hm2
    rw [ha1]
    simp only [Out.bind]
    rw [ha2]
    exact e2
  | trans h1 _ ih1 ih2 =>
    intro hnd t r h
    exact ih2 ((h1.map (·.1)).nodup_iff.mp hnd) t r (ih1 hnd t r h)

theorem applySeq_perm {apps apps' : List (String × Table)} (hp : apps.Perm apps')
    (hnd : (apps.map (·.1)).Nodup) (t : LTy) : applySeq apps t = applySeq apps' t := by
  have hnd' : (apps'.map (·.1)).Nodup := (hp.map (·.1)).nodup_iff.mp hnd
  rcases applySeq_ok_or_panic apps t with ⟨r, h⟩ | h
  · rw [h, applySeq_perm_ok hp hnd t r h]
  · rcases applySeq_ok_or_panic apps' t with ⟨r', h'⟩ | h'
    · have := applySeq_perm_ok hp.symm hnd' t r' h'
      rw [h] at this; cases this
    · rw [h, h']

/-! ### the translation `toTy` commutes with looking an object up in its scope -/

theorem lookupS_selfTable (w : String) (p : Path) (id : String) : ∀ (objs : LTy),
    lookupS id (selfTable w p objs) = (child id objs).map (fun _ => (⟨w, p, id⟩ : Addr)) := by
  intro objs
  induction objs with
  | cons l h t _ iht =>
    simp only [selfTable, labels, List.map, lookupS, child]
    by_cases he : id = l
    · subst he; simp
    · have : (id == l) = false := by simpa using he
      simp only [this, Bool.false_eq_true, ↓reduceIte]
      exact iht
  | _ => simp [selfTable, labels, lookupS, child]

theorem toKids_lookup (id : String) : ∀ (objs : LTy) (env : List (String × Ty)),
    toTy.toKids objs = some env → lookupS id env = (child id objs).bind toTy := by
  intro objs
  induction objs with
  | nil => intro env h; cases h; rfl
  | cons l h t _ iht =>
    intro env he
    simp only [toTy.toKids] at he
    cases hh : toTy h with
    | none => rw [hh] at he; cases he
    | some h' =>
      cases ht : toTy.toKids t with
      | none => rw [hh, ht] at he; cases he
      | some t' =>
        rw [hh, ht] at he
        cases he
        simp only [lookupS, child]
        split
        · exact hh.symm
        · exact iht t' ht
  | _ => intro env h; cases h

/-- applying a namespace again with ANOTHER table overwrites: the result is what applying the second
    table to the original tree gives (no occurrence keeps its old link, wherever it sits) -/
theorem applyNs_overwrite (w : String) (ns : String) (t : LTy) (tb1 tb2 : Table) (p : Path) (t1 t2 : LTy)
    (h1 : applyNs w tb1 ns p t = .ok t1) (h2 : applyNs w tb2 ns p t1 = .ok t2) : applyNs w tb2 ns p t = .ok t2 := by
  obtain ⟨_, rfl⟩ := (applyNs_eq_ok none (fun _ => rfl)).mp h1
  rw [applyNs_mapLinks w ns (relink_linkOnly tb1 ns),
    show relink tb2 ns ∘ relink tb1 ns = relink tb2 ns from funext (relink_relink tb1 tb2 ns)] at h2
  rw [applyNs_eq w ns t tb2 none p (fun _ => rfl)]
  exact h2

/-- a successful pass is a fixed point of itself: applying the same namespace (same table) again
    changes nothing and cannot panic -/
theorem applyNs_idem (w : String) (ns : String) (t : LTy) (tbl : Table) (p : Path) (t' : LTy)
    (h : applyNs w tbl ns p t = .ok t') : applyNs w tbl ns p t' = .ok t' := by
  obtain ⟨hf, rfl⟩ := (applyNs_eq_ok none (fun _ => rfl)).mp h
  rw [applyNs_mapLinks w ns (relink_linkOnly tbl ns), hf, cond_true,
    show relink tbl ns ∘ relink tbl ns = relink tbl ns from funext (relink_relink tbl tbl ns)]

theorem fix_preserved (ns : String) (tbl : Table) : ∀ (apps : List (String × Table)) (t r : LTy),
    applyNs "" tbl ns [] t = .ok t → (∀ b ∈ apps, b.1 = ns → b.2 = tbl) →
    applySeq apps t = .ok r → applyNs "" tbl ns [] r = .ok r
  | [], t, r, hfix, _, h => by simp only [applySeq] at h; cases h; exact hfix
  | (n2, tb2) :: rest, t, r, hfix, hcons, h => by
    simp only [applySeq] at h
    obtain ⟨m, hm, e⟩ := bind_eq_ok h
    have hrest : ∀ b ∈ rest, b.1 = ns → b.2 = tbl := fun b hb => hcons b (List.mem_cons_of_mem _ hb)
    by_cases hn : n2 = ns
    · have htb : tb2 = tbl := hcons (n2, tb2) (List.mem_cons_self ..) hn
      subst hn; subst htb
      rw [hfix] at hm; cases hm
      exact fix_preserved n2 tb2 rest t r hfix hrest e
    · obtain ⟨a', ha1, ha2⟩ := applyNs_comm "" (fun h => hn h.symm) t tbl tb2 [] t m hfix hm
      rw [hm] at ha1; cases ha1
      exact fix_preserved ns tbl rest m r ha2 hrest e

/-- after any sequence of passes in which a namespace is always applied with the same table, the
    tree is a fixed point of every pass of the sequence -/
theorem applySeq_fix : ∀ (apps : List (String × Table)) (t r : LTy) (ns : String) (tbl : Table),
    applySeq apps t = .ok r → (ns, tbl) ∈ apps → (∀ b ∈ apps, b.1 = ns → b.2 = tbl) →
    applyNs "" tbl ns [] r = .ok r
  | [], _, _, _, _, _, hmem, _ => by cases hmem
  | (n2, tb2) :: rest, t, r, ns, tbl, h, hmem, hcons => by
    simp only [applySeq] at h
    obtain ⟨m, hm, e⟩ := bind_eq_ok h
    have hrest : ∀ b ∈ rest, b.1 = ns → b.2 = tbl := fun b hb => hcons b (List.mem_cons_of_mem _ hb)
    by_cases hn : n2 = ns
    · have htb : tb2 = tbl := hcons (n2, tb2) (List.mem_cons_self ..) hn
      subst hn; subst htb
      exact fix_preserved n2 tb2 rest m r (applyNs_idem "" n2 t tb2 [] m hm) hrest e
    · rcases List.mem_cons.mp hmem with he | hm'
      · cases he; exact absurd rfl hn
      · exact applySeq_fix rest m r ns tbl e hm' hrest

end Arca.Link
