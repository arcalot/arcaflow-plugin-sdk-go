import ArcaModel.Lemmas.Out
/-
  Characterisations of the traversal helpers. Each traversal is, one element at a time, a chain of
  binds (`forIdx_cons`, `forKV_cons`, `forSV_cons`); hence success means that every element
  succeeded, and an error is the error of one element (`for*_err`); the first element that fails
  gives the error (`for*_err_first`).
-/
namespace Arca
open Out

/-- two lists related element by element (core Lean has no `List.Forall₂`) -/
inductive Forall2 {α β} (R : α → β → Prop) : List α → List β → Prop
  | nil : Forall2 R [] []
  | cons {a b as bs} : R a b → Forall2 R as bs → Forall2 R (a :: as) (b :: bs)

theorem Forall2.length_eq {α β} {R : α → β → Prop} {as : List α} {bs : List β} (h : Forall2 R as bs) :
    as.length = bs.length := by
  induction h with
  | nil => rfl
  | cons _ _ ih => simp [ih]

theorem Forall2.refl {α} {R : α → α → Prop} (h : ∀ a, R a a) : ∀ (l : List α), Forall2 R l l
  | [] => .nil
  | a :: l => .cons (h a) (Forall2.refl h l)

theorem Forall2.imp {α β} {R S : α → β → Prop} (h : ∀ a b, R a b → S a b) {as : List α} {bs : List β}
    (hf : Forall2 R as bs) : Forall2 S as bs := by
  induction hf with
  | nil => exact .nil
  | cons hab _ ih => exact .cons (h _ _ hab) ih

theorem Forall2.flip {α β} {R : α → β → Prop} {as : List α} {bs : List β}
    (hf : Forall2 R as bs) : Forall2 (fun b a => R a b) bs as := by
  induction hf with
  | nil => exact .nil
  | cons hab _ ih => exact .cons hab ih

theorem Forall2.append {α β} {R : α → β → Prop} {as as' : List α} {bs bs' : List β}
    (h1 : Forall2 R as bs) (h2 : Forall2 R as' bs') : Forall2 R (as ++ as') (bs ++ bs') := by
  induction h1 with
  | nil => exact h2
  | cons hab _ ih => exact .cons hab ih

inductive AllIdx (f : Nat → V → Out V) : Nat → List V → List V → Prop
  | nil {n} : AllIdx f n [] []
  | cons {n x y xs ys} : f n x = .ok y → AllIdx f (n + 1) xs ys → AllIdx f n (x :: xs) (y :: ys)

theorem forIdx_ok_iff {f : Nat → V → Out V} : ∀ {n : Nat} {xs ys : List V},
    forIdx f n xs = .ok ys ↔ AllIdx f n xs ys := by
  intro n xs
  induction xs generalizing n with
  | nil =>
    intro ys
    rw [forIdx]
    exact ⟨fun h => by cases h; exact .nil, fun h => by cases h; rfl⟩
  | cons x xs ih =>
    intro ys
    rw [forIdx_cons]
    constructor
    · intro h
      obtain ⟨y, hx, h⟩ := bind_eq_ok h
      obtain ⟨ys', hr, h⟩ := bind_eq_ok h
      cases h
      exact .cons hx (ih.mp hr)
    · rintro (_ | ⟨hx, hr⟩)
      rw [hx, ih.mpr hr]; rfl

theorem AllIdx.length {f : Nat → V → Out V} {n : Nat} {xs ys : List V} (h : AllIdx f n xs ys) :
    ys.length = xs.length := by
  induction h with
  | nil => rfl
  | cons _ _ ih => simp [ih]

theorem forIdx_err {f : Nat → V → Out V} {e : Err} {n : Nat} {xs : List V} (h : forIdx f n xs = .err e) :
    ∃ i a, xs[i]? = some a ∧ f (n + i) a = .err e := by
  induction xs generalizing n with
  | nil => rw [forIdx] at h; cases h
  | cons a xs ih =>
    rw [forIdx_cons] at h
    rcases bind_eq_err h with ha | ⟨_, _, h⟩
    · exact ⟨0, a, rfl, ha⟩
    · rcases bind_eq_err h with hr | ⟨_, _, h⟩
      · obtain ⟨i, b, hi, hb⟩ := ih hr
        exact ⟨i + 1, b, hi, Nat.add_right_comm n 1 i ▸ hb⟩
      · cases h

theorem forIdx_err_first {f : Nat → V → Out V} {n : Nat} {pre : List V} {x : V} {post : List V} {pre' : List V} {e : Err}
    (hpre : AllIdx f n pre pre') (hx : f (n + pre.length) x = .err e) :
    forIdx f n (pre ++ x :: post) = .err e := by
  induction hpre with
  | @nil n =>
    have hx : f n x = .err e := hx
    rw [List.nil_append, forIdx_cons, hx]; rfl
  | @cons n a b as bs ha _ ih =>
    have hx' : f (n + 1 + as.length) x = .err e := by rw [Nat.add_right_comm]; exact hx
    rw [List.cons_append, forIdx_cons, ha, ih hx']; rfl

inductive AllKV (f : V → V → Out (V × V)) : List (V × V) → List (V × V) → Prop
  | nil : AllKV f [] []
  | cons {k v kv rest rest'} : f k v = .ok kv → AllKV f rest rest' → AllKV f ((k, v) :: rest) (kv :: rest')

theorem forKV_ok_iff {f : V → V → Out (V × V)} : ∀ {kvs kvs' : List (V × V)},
    forKV f kvs = .ok kvs' ↔ AllKV f kvs kvs' := by
  intro kvs
  induction kvs with
  | nil =>
    intro kvs'
    rw [forKV]
    exact ⟨fun h => by cases h; exact .nil, fun h => by cases h; rfl⟩
  | cons p rest ih =>
    obtain ⟨k, v⟩ := p
    intro kvs'
    rw [forKV_cons]
    constructor
    · intro h
      obtain ⟨kv, hx, h⟩ := bind_eq_ok h
      obtain ⟨rest', hr, h⟩ := bind_eq_ok h
      cases h
      exact .cons hx (ih.mp hr)
    · rintro (_ | ⟨hx, hr⟩)
      rw [hx, ih.mpr hr]; rfl

theorem forKV_err {f : V → V → Out (V × V)} {e : Err} {kvs : List (V × V)} (h : forKV f kvs = .err e) :
    ∃ k a, (k, a) ∈ kvs ∧ f k a = .err e := by
  induction kvs with
  | nil => rw [forKV] at h; cases h
  | cons p rest ih =>
    obtain ⟨k, a⟩ := p
    rw [forKV_cons] at h
    rcases bind_eq_err h with ha | ⟨_, _, h⟩
    · exact ⟨k, a, List.mem_cons_self, ha⟩
    · rcases bind_eq_err h with hr | ⟨_, _, h⟩
      · obtain ⟨k', b, hi, hb⟩ := ih hr
        exact ⟨k', b, List.mem_cons_of_mem _ hi, hb⟩
      · cases h

theorem forKV_err_first {f : V → V → Out (V × V)} {pre : List (V × V)} {k v : V} {post : List (V × V)}
    {pre' : List (V × V)} {e : Err} (hpre : AllKV f pre pre') (hx : f k v = .err e) :
    forKV f (pre ++ (k, v) :: post) = .err e := by
  induction hpre with
  | nil => rw [List.nil_append, forKV_cons, hx]; rfl
  | cons ha _ ih => rw [List.cons_append, forKV_cons, ha, ih]; rfl

inductive AllSV (f : String → V → Out V) : List (String × V) → List (String × V) → Prop
  | nil : AllSV f [] []
  | cons {k v v' rest rest'} : f k v = .ok v' → AllSV f rest rest' → AllSV f ((k, v) :: rest) ((k, v') :: rest')

theorem forSV_ok_iff {f : String → V → Out V} : ∀ {kvs kvs' : List (String × V)},
    forSV f kvs = .ok kvs' ↔ AllSV f kvs kvs' := by
  intro kvs
  induction kvs with
  | nil =>
    intro kvs'
    rw [forSV]
    exact ⟨fun h => by cases h; exact .nil, fun h => by cases h; rfl⟩
  | cons p rest ih =>
    obtain ⟨k, v⟩ := p
    intro kvs'
    rw [forSV_cons]
    constructor
    · intro h
      obtain ⟨v', hx, h⟩ := bind_eq_ok h
      obtain ⟨rest', hr, h⟩ := bind_eq_ok h
      cases h
      exact .cons hx (ih.mp hr)
    · rintro (_ | ⟨hx, hr⟩)
      rw [hx, ih.mpr hr]; rfl

theorem allSV_keys {f : String → V → Out V} {m m' : List (String × V)} (h : AllSV f m m') :
    m'.map Prod.fst = m.map Prod.fst := by
  induction h with
  | nil => rfl
  | cons _ _ ih => simp [ih]

theorem AllSV.of_mem_left {f : String → V → Out V} {m m' : List (String × V)} (h : AllSV f m m') :
    ∀ kv, kv ∈ m → ∃ v', f kv.1 kv.2 = .ok v' := by
  induction h with
  | nil => intro kv hkv; cases hkv
  | cons hf _ ih =>
    intro kv hkv
    rcases List.mem_cons.mp hkv with rfl | hkv
    · exact ⟨_, hf⟩
    · exact ih kv hkv

theorem AllSV.of_mem_right {f : String → V → Out V} {m m' : List (String × V)} (h : AllSV f m m') :
    ∀ kv, kv ∈ m' → ∃ v, (kv.1, v) ∈ m ∧ f kv.1 v = .ok kv.2 := by
  induction h with
  | nil => intro kv hkv; cases hkv
  | cons hf _ ih =>
    intro kv hkv
    rcases List.mem_cons.mp hkv with rfl | hkv
    · exact ⟨_, List.mem_cons_self, hf⟩
    · obtain ⟨v, hv, hfv⟩ := ih kv hkv
      exact ⟨v, List.mem_cons_of_mem _ hv, hfv⟩

theorem forSV_err {f : String → V → Out V} {e : Err} {kvs : List (String × V)} (h : forSV f kvs = .err e) :
    ∃ k a, (k, a) ∈ kvs ∧ f k a = .err e := by
  induction kvs with
  | nil => rw [forSV] at h; cases h
  | cons p rest ih =>
    obtain ⟨k, a⟩ := p
    rw [forSV_cons] at h
    rcases bind_eq_err h with ha | ⟨_, _, h⟩
    · exact ⟨k, a, List.mem_cons_self, ha⟩
    · rcases bind_eq_err h with hr | ⟨_, _, h⟩
      · obtain ⟨k', b, hi, hb⟩ := ih hr
        exact ⟨k', b, List.mem_cons_of_mem _ hi, hb⟩
      · cases h

theorem forSV_err_first {f : String → V → Out V} {pre : List (String × V)} {k : String} {v : V}
    {post : List (String × V)} {pre' : List (String × V)} {e : Err} (hpre : AllSV f pre pre') (hx : f k v = .err e) :
    forSV f (pre ++ (k, v) :: post) = .err e := by
  induction hpre with
  | nil => rw [List.nil_append, forSV_cons, hx]; rfl
  | cons ha _ ih => rw [List.cons_append, forSV_cons, ha, ih]; rfl

end Arca
