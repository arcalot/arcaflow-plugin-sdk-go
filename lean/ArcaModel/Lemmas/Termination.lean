import ArcaModel.Lemmas.Out
/-
  Fuel: more fuel never changes a result that was reached (`run_mono`, for `C04_fuel_mono`).
  Every layer of `run` hands on the `fuel` of a recursive call, so `Out.le` (Out.lean), taken
  pointwise on the recursive calls (`RecLe`), lifts through each layer (`le_run*`); `run_le_succ`
  is then an induction on the budget.
-/
namespace Arca

namespace Out
theorem le_of_eq {α} {a b : Out α} (h : a = b) : a.le b := Or.inr h
end Out

open Out

def RecLe (rec rec' : Rec) : Prop := ∀ op env t v, (rec op env t v).le (rec' op env t v)

theorem le_runList {rec rec' : Rec} (h : RecLe rec rec') (op : Op) (env : Env) (item : Ty) (a b : Option Int) (v : V) :
    (runList rec op env item a b v).le (runList rec' op env item a b v) := by
  unfold runList
  split
  · exact le_refl _
  · cases op <;> simp only
    · exact le_bind_right (fun _ => le_bind_left (le_forIdx (fun i e => le_addSeg _ (h _ _ _ _)) _ _))
    · exact le_bind_right (fun _ => le_bind_left (le_forIdx (fun i e => le_addSeg _ (h _ _ _ _)) _ _))
    · exact le_bind_right (fun _ => le_bind (le_forIdx (fun i e => le_addSeg _ (h _ _ _ _)) _ _)
        (fun _ => le_bind_left (le_forIdx (fun i e => le_addSeg _ (h _ _ _ _)) _ _)))
    · exact le_bind_left (le_forIdx (fun i e => le_addSeg _ (h _ _ _ _)) _ _)

theorem le_entryKV {rec rec' : Rec} (h : RecLe rec rec') (op : Op) (env : Env) (kt vt : Ty) (k e : V) :
    (entryKV rec op env kt vt k e).le (entryKV rec' op env kt vt k e) := by
  unfold entryKV
  exact le_bind (le_addSeg _ (h _ _ _ _)) (fun _ => le_bind_left (le_addSeg _ (h _ _ _ _)))

theorem le_runMap {rec rec' : Rec} (h : RecLe rec rec') (op : Op) (env : Env) (kt vt : Ty) (a b : Option Int) (v : V) :
    (runMap rec op env kt vt a b v).le (runMap rec' op env kt vt a b v) := by
  unfold runMap
  split
  · exact le_refl _
  · refine le_bind_right (fun _ => ?_)
    cases op <;> simp only
    · exact le_bind_left (le_forKV (le_entryKV h _ _ _ _) _)
    · exact le_bind_left (le_forKV (le_entryKV h _ _ _ _) _)
    · exact le_bind (le_forKV (le_entryKV h _ _ _ _) _) (fun _ => le_bind_left (le_forKV (le_entryKV h _ _ _ _) _))
    · exact le_bind_left (le_forKV (le_entryKV h _ _ _ _) _)

theorem le_objEntryU {rec rec' : Rec} (h : RecLe rec rec') (env : Env) (props : List (String × PropT))
    (k : String) (d : V) : (objEntryU rec env props k d).le (objEntryU rec' env props k d) := by
  unfold objEntryU
  split
  · exact le_refl _
  · split
    · exact le_refl _
    · exact le_addSeg _ (h _ _ _ _)

theorem le_objRaw {rec rec' : Rec} (h : RecLe rec rec') (env : Env) (props : List (String × PropT)) (v : V) :
    (objRaw rec env props v).le (objRaw rec' env props v) := by
  unfold objRaw
  split
  · split
    · split
      · exact le_refl _
      · exact le_bind_left (le_rewrapP (h _ _ _ _))
    · exact le_refl _
  · split
    · exact le_refl _
    · split
      · exact le_refl _
      · exact le_bind_right (fun _ => le_forSV (le_objEntryU h _ _) _)

theorem le_objCompatMap {rec rec' : Rec} (h : RecLe rec rec') (env : Env) (props : List (String × PropT))
    (m : List (String × V)) : (objCompatMap rec env props m).le (objCompatMap rec' env props m) := by
  unfold objCompatMap
  refine le_bind_left (le_forSV (fun k e => ?_) _)
  split
  · exact le_refl _
  · exact le_addSeg _ (le_bind_left (le_rewrapC (h _ _ _ _)))

theorem le_objEntry {rec rec' : Rec} (h : RecLe rec rec') (op : Op) (env : Env) (props : List (String × PropT))
    (k : String) (e : V) : (objEntry rec op env props k e).le (objEntry rec' op env props k e) := by
  unfold objEntry
  split
  · exact le_refl _
  · exact le_addSeg _ (h _ _ _ _)

theorem le_runObj {rec rec' : Rec} (h : RecLe rec rec') (op : Op) (env : Env) (id : String)
    (props : List (String × PropT)) (v : V) : (runObj rec op env id props v).le (runObj rec' op env id props v) := by
  unfold runObj
  cases op <;> simp only
  · exact le_bind_left (le_objRaw h _ _ _)
  · split
    · split
      · exact le_refl _
      · exact le_bind_right (fun _ => le_bind_left (le_forSV (le_objEntry h _ _ _) _))
    · exact le_refl _
  · split
    · split
      · exact le_refl _
      · exact le_bind_right (fun _ => le_bind_left (le_forSV (le_objEntry h _ _ _) _))
    · exact le_refl _
  · split
    · split
      · exact le_refl _
      · exact le_objCompatMap h _ _ _
    · exact le_bind_left (le_rewrapC (h _ _ _ _))

theorem le_oneOfSelect {rec rec' : Rec} (h : RecLe rec rec') (env : Env) (intKey : Bool) (disc : String)
    (inlined : Bool) (members : List (Key × Ty)) (compat : Bool) (m : List (String × V)) :
    (oneOfSelect rec env intKey disc inlined members compat m).le
      (oneOfSelect rec' env intKey disc inlined members compat m) := by
  unfold oneOfSelect
  simp only
  split
  · exact le_refl _
  · split
    · exact le_refl _
    · split
      · exact le_bind_left (le_rewrapC (h _ _ _ _))
      · exact le_refl _

theorem le_oneOfUnser {rec rec' : Rec} (h : RecLe rec rec') (x : Ext) (env : Env) (intKey : Bool) (disc : String)
    (inlined : Bool) (members : List (Key × Ty)) (v : V) :
    (oneOfUnser rec x env intKey disc inlined members v).le (oneOfUnser rec' x env intKey disc inlined members v) := by
  unfold oneOfUnser
  split
  · exact le_refl _
  · split
    · exact le_refl _
    · split
      · exact le_refl _
      · split
        · exact le_refl _
        · simp only
          refine le_bind_right (fun key => ?_)
          split
          · exact le_refl _
          · split
            · exact le_refl _
            · exact le_bind_left (h _ _ _ _)

theorem le_runOneOf {rec rec' : Rec} (h : RecLe rec rec') (x : Ext) (op : Op) (env : Env) (intKey : Bool)
    (disc : String) (inlined : Bool) (members : List (Key × Ty)) (v : V) :
    (runOneOf rec x op env intKey disc inlined members v).le
      (runOneOf rec' x op env intKey disc inlined members v) := by
  unfold runOneOf
  cases op <;> simp only
  · exact le_oneOfUnser h _ _ _ _ _ _ _
  · split
    · split
      · exact le_refl _
      · exact le_bind (le_oneOfSelect h _ _ _ _ _ _ _) (fun _ => le_bind_left (le_addSeg _ (h _ _ _ _)))
    · exact le_refl _
  · split
    · split
      · exact le_refl _
      · exact le_bind (le_oneOfSelect h _ _ _ _ _ _ _) (fun _ => le_bind_left (h _ _ _ _))
    · exact le_refl _
  · split
    · split
      · exact le_refl _
      · exact le_bind_left (le_oneOfSelect h _ _ _ _ _ _ _)
    · exact le_refl _

theorem le_anyConvert : ∀ (n : Nat) (v : V), (anyConvert n v).le (anyConvert (n + 1) v)
  | 0, _ => by simp only [anyConvert]; exact fuel_le _
  | n + 1, v => by
    have ih := le_anyConvert n
    unfold anyConvert
    split
    · exact le_refl _
    · exact le_refl _
    · exact le_refl _
    · exact le_refl _
    · exact le_bind_left (le_forIdx (fun i x => le_addSeg _ (ih x)) _ _)
    · exact le_bind_left (le_forIdx (fun i x => le_addSeg _ (ih x)) _ _)
    · exact le_bind_left (le_forKV (fun k x => le_bind (le_addSeg _ (ih k)) (fun _ => le_bind_left (le_addSeg _ (ih x)))) _)
    · exact le_refl _

theorem le_anyCompat : ∀ (n : Nat) (v : V), (anyCompat n v).le (anyCompat (n + 1) v)
  | 0, _ => by simp only [anyCompat]; exact fuel_le _
  | n + 1, v => by
    have ih := le_anyCompat n
    unfold anyCompat
    split
    · exact le_bind_left (le_forKV (fun k e => le_bind_left (le_rewrapC (ih e))) _)
    · exact le_bind_left (le_forKV (fun k e => le_bind_left (le_rewrapC (ih e))) _)
    · refine le_bind_left (le_forKV (fun k e => ?_) _)
      split
      · split
        · exact le_refl _
        · exact le_bind_left (le_rewrapC (ih e))
      · split
        · exact le_refl _
        · exact le_bind_left (le_rewrapC (ih e))
      · exact le_refl _
    · exact le_bind_left (le_forIdx (fun _ e => le_rewrapC (ih e)) _ _)
    · exact le_bind_left (le_anyConvert _ _)

theorem le_runAny (op : Op) (n : Nat) (v : V) : (runAny op n v).le (runAny op (n + 1) v) := by
  unfold runAny
  cases op <;> simp only
  · exact le_anyConvert _ _
  · exact le_bind_left (le_anyConvert _ _)
  · exact le_anyConvert _ _
  · exact le_anyCompat _ _

theorem run_le_succ (x : Ext) : ∀ (n : Nat), RecLe (run x n) (run x (n + 1))
  | 0 => fun _ _ _ _ => by simp only [run]; exact fuel_le _
  | n + 1 => fun op env t v => by
    have ih := run_le_succ x n
    rw [run, run]
    cases t with
    | list => exact le_runList ih _ _ _ _ _ _
    | map => exact le_runMap ih _ _ _ _ _ _ _
    | obj => exact le_runObj ih _ _ _ _ _
    | oneOf => exact le_runOneOf ih _ _ _ _ _ _ _ _
    | ref id =>
      simp only
      split
      · exact le_refl _
      · exact ih _ _ _ _
    | scope objs root =>
      simp only
      split
      · exact le_refl _
      · exact ih _ _ _ _
    | any => exact le_runAny _ _ _
    | _ => exact le_refl _

theorem run_le (x : Ext) {n m : Nat} (h : n ≤ m) : RecLe (run x n) (run x m) := by
  induction h with
  | refl => exact fun _ _ _ _ => le_refl _
  | step _ ih => exact fun op env t v => le_trans (ih op env t v) (run_le_succ x _ op env t v)

theorem run_mono_le (x : Ext) {fuel n : Nat} (hle : fuel ≤ n) {op : Op} {env : Env} {t : Ty} {v : V} {o : Out V}
    (h : run x fuel op env t v = o) (hne : o ≠ .fuel) : run x n op env t v = o :=
  eq_of_le (run_le x hle op env t v) h hne

theorem run_mono (x : Ext) (fuel k : Nat) (op : Op) (env : Env) (t : Ty) (v : V) (o : Out V)
    (h : run x fuel op env t v = o) (hne : o ≠ .fuel) : run x (fuel + k) op env t v = o :=
  run_mono_le x (Nat.le_add_right fuel k) h hne

end Arca
