import ArcaModel.Lemmas.StructRoundTrip
import ArcaModel.Props.StructMap
/-
  The end-to-end round trip of ONE struct-mapped object, given the round trip of its property types.
-/
namespace Arca
namespace SM

/-- the end-to-end statement for one schema under a recursive call. The last clause - a plain leaf
    comes back IDENTICAL - is what an object needs of a treat-empty-as-default property: whether
    the value reads as unset (`readBack`) must not change on the way (`rt_obj_inl` uses it for the
    discriminator too); `Eqv` alone would allow a leaf to change. -/
def RTAt (rec : SRec) (t : STy) : Prop :=
  ∀ v s, rec .U t v = .ok s →
    rec .V t s = .ok (.val unitV) ∧
    ∃ w s', rec .S t s = .ok (.val w) ∧ rec .U t (.val w) = .ok s' ∧ Eqv t s s' ∧
      rec .S t s' = .ok (.val w) ∧ rec .V t s' = .ok (.val unitV) ∧ (plainLeaf t = true → s' = s)


theorem hasKey_of_mem {α} {k : String} {a : α} {m : List (String × α)} (h : (k, a) ∈ m) : hasKey k m = true :=
  hasKey_eq_true_iff.mpr ⟨a, h⟩

theorem exact_not_ptr {f : Field} {src : GoTy} (hex : exactField f src = true) (hp : ptrLike f = false) : f.ty = src := by
  simp only [exactField, Bool.or_eq_true, beq_iff_eq, Bool.and_eq_true] at hex
  rcases hex with hex | ⟨⟨hex, _⟩, _⟩
  · exact hex
  · simp [ptrLike, hex] at hp

/-- what stands for the entry `kv` of the map read back from the struct built from `m` once it has
    been through the wire and back (`p`, `f`: the entry's property and field) -/
structure Reread (m : List (String × SV)) (p : SProp) (f : Field) (kv : String × SV) (b : SV) : Prop where
  shaped : shaped (reflTy p.ty) b = true
  eqv : Eqv p.ty kv.2 b
  /-- it is read back from the second struct as it is -/
  stable : readBack f p (some b) = some b
  /-- the zero value read from an untouched field comes back as it is -/
  zero : lookupS kv.1 m = none → b = kv.2

/-- The converted map of the second Unserialize is `(expectedBack st props m).map B ++ X`: the entries
    read back from the struct built from `m`, converted again (`B`), and restored entries `X` -
    entries of `m` that the read dropped. -/
structure Reconv (st : StructTy) (props : List (String × SProp)) (m : List (String × SV)) (B : String × SV → SV)
    (X : List (String × SV)) : Prop where
  again : ∀ kv, kv ∈ expectedBack st props m → ∀ p f, (kv.1, p) ∈ props → fieldFor st kv.1 = some f →
    Reread m p f kv (B kv)
  nodup : (keysOf X).Nodup
  sub : ∀ kx, kx ∈ X → kx ∈ m
  dropped : ∀ kx, kx ∈ X → ∀ p f, (kx.1, p) ∈ props → fieldFor st kx.1 = some f → readBack f p (some kx.2) = none

theorem expectedBack_def (st : StructTy) (props : List (String × SProp)) (m : List (String × SV)) :
    expectedBack st props m = props.filterMap fun kp =>
      match fieldFor st kp.1 with
      | some f => (readBack f kp.2 (lookupS kp.1 m)).map fun x => (kp.1, x)
      | none => none := rfl

theorem mem_expectedBack {st : StructTy} {props : List (String × SProp)} (hwf : WFObj st props)
    {m : List (String × SV)} {k : String} {p : SProp} {f : Field} (hkp : (k, p) ∈ props) (hf : fieldFor st k = some f)
    {y : SV} (h : readBack f p (lookupS k m) = some y) : (k, y) ∈ expectedBack st props m :=
  lookupS_mem (by rw [lookupS_expectedBack st props m hwf k p hkp f hf, h])

theorem keysOf_expectedBack_nodup {st : StructTy} {props : List (String × SProp)} (hwf : WFObj st props)
    (hex : exactObjB st props = true) {m : List (String × SV)} (hm : ConvertedMap props m) :
    (keysOf (expectedBack st props m)).Nodup := by
  obtain ⟨_, hr⟩ := (fromStruct_ok_iff st _ props _).mp
    (C01_struct_fromStruct_toStruct st props m _ hwf hex hm (toStruct_wf hwf hm.declared))
  rw [hr]; exact (keysOf_filterMap_readOpt st _ props).nodup hwf.keys

section
variable {st : StructTy} {props : List (String × SProp)} {m X : List (String × SV)} {B : String × SV → SV}

/-- The second converted map, property by property: the value was kept and converted again, or
    dropped and restored, or dropped. -/
theorem reconv_cases (h : Reconv st props m B X) (hwf : WFObj st props) (hm : (keysOf m).Nodup)
    {k : String} {p : SProp} {f : Field} (hkp : (k, p) ∈ props) (hf : fieldFor st k = some f) :
    (∃ y, readBack f p (lookupS k m) = some y ∧
      lookupS k ((expectedBack st props m).map (fun kv => (kv.1, B kv)) ++ X) = some (B (k, y))) ∨
    (∃ y, lookupS k m = some y ∧ readBack f p (some y) = none ∧
      lookupS k ((expectedBack st props m).map (fun kv => (kv.1, B kv)) ++ X) = some y) ∨
    (readBack f p (lookupS k m) = none ∧
      lookupS k ((expectedBack st props m).map (fun kv => (kv.1, B kv)) ++ X) = none) := by
  rw [lookupS_append, lookupS_map_val B, lookupS_expectedBack st props m hwf k p hkp f hf]
  cases hr : readBack f p (lookupS k m) with
  | some y => exact .inl ⟨y, rfl, rfl⟩
  | none =>
    cases hx : lookupS k X with
    | none => exact .inr (.inr ⟨rfl, rfl⟩)
    | some y =>
      exact .inr (.inl ⟨y, lookupS_of_mem_nodup hm (h.sub _ (lookupS_mem hx)), h.dropped _ (lookupS_mem hx) p f hkp hf, rfl⟩)

theorem reconv_converted (h : Reconv st props m B X) (hwf : WFObj st props) (hex : exactObjB st props = true)
    (hm : ConvertedMap props m) :
    ConvertedMap props ((expectedBack st props m).map (fun kv => (kv.1, B kv)) ++ X) := by
  refine ⟨?_, ?_, ?_⟩
  · simp only [keysOf, List.map_append]
    refine List.nodup_append.mpr ⟨by rw [← keysOf, keysOf_map_val]; exact keysOf_expectedBack_nodup hwf hex hm, h.nodup, ?_⟩
    intro a ha b hb hab
    subst hab
    rw [← keysOf, keysOf_map_val] at ha
    obtain ⟨kx, hkx, rfl⟩ := List.mem_map.mp hb
    obtain ⟨p, hp⟩ := Option.isSome_iff_exists.mp (hm.declared kx (h.sub kx hkx))
    obtain ⟨f, hf, _⟩ := propOK_field (hwf.prop (kx.1, p) (lookupS_mem hp))
    refine (lookupS_eq_none_iff _ _).mp ?_ ha
    rw [lookupS_expectedBack st props m hwf kx.1 p (lookupS_mem hp) f hf,
      lookupS_of_mem_nodup hm.keys (h.sub kx hkx)]
    exact h.dropped kx hkx p f (lookupS_mem hp) hf
  · intro kv hkv
    rcases List.mem_append.mp hkv with hkv | hkv
    · obtain ⟨kv0, hkv0, rfl⟩ := List.mem_map.mp hkv
      obtain ⟨p, _, hkp, _⟩ := expectedBack_mem hkv0
      exact hasKey_of_mem hkp
    · exact hm.declared kv (h.sub kv hkv)
  · intro kv hkv p hp
    rcases List.mem_append.mp hkv with hkv | hkv
    · obtain ⟨kv0, hkv0, rfl⟩ := List.mem_map.mp hkv
      obtain ⟨f, hf, _⟩ := propOK_field (hwf.prop (kv0.1, p) (lookupS_mem hp))
      exact (h.again kv0 hkv0 p f (lookupS_mem hp) hf).shaped
    · exact hm.shaped kv (h.sub kv hkv) p hp

/-- the second struct is read back as the first one was, entry by entry converted again -/
theorem reconv_back (h : Reconv st props m B X) (hwf : WFObj st props) (hm : (keysOf m).Nodup) :
    expectedBack st props ((expectedBack st props m).map (fun kv => (kv.1, B kv)) ++ X) =
      (expectedBack st props m).map fun kv => (kv.1, B kv) := by
  conv => rhs; rw [expectedBack_def, List.map_filterMap]
  rw [expectedBack_def]
  apply filterMap_congr'
  intro kp hkp
  obtain ⟨f, hf, _⟩ := propOK_field (hwf.prop kp hkp)
  simp only [hf]
  rcases reconv_cases h hwf hm hkp hf with ⟨y, hr, ho⟩ | ⟨y, ho, hr, ho'⟩ | ⟨hr, ho⟩
  · rw [ho, hr, (h.again _ (mem_expectedBack hwf hkp hf hr) kp.2 f hkp hf).stable]; rfl
  · rw [ho', ho, hr]; rfl
  · rw [ho, hr, readBack_none_of_none hr]; rfl

theorem lookupS_applyEntries_unmapped {nm : String} (hun : ∀ kp, kp ∈ props → fieldName? st kp.1 ≠ some nm)
    (mm acc : List (String × SV)) : lookupS nm (applyEntries st props mm acc) = lookupS nm acc := by
  rw [lookupS_applyEntries, lastTarget_none]
  intro kv _ n' y hes hnn
  obtain ⟨f, p, hf, hp, hn', _, _⟩ := entrySet_some hes
  exact hun (kv.1, p) (lookupS_mem hp) (by simp [fieldName?, hf, ← hn', hnn])

/-- the two structs differ only where a treat-empty-as-default value was dropped -/
theorem reconv_eqv (h : Reconv st props m B X) (hwf : WFObj st props) (hex : exactObjB st props = true)
    (hm : ConvertedMap props m)
    (hdis : ∀ kp, kp ∈ props → ∀ v, lookupS kp.1 m = some v → kp.2.disabled = false) (id : String) (ptrT : Bool) :
    Eqv (.obj id st ptrT props) (wrapT ptrT st.name (applyEntries st props m (zeroFields st)))
      (wrapT ptrT st.name (applyEntries st props ((expectedBack st props m).map (fun kv => (kv.1, B kv)) ++ X)
        (zeroFields st))) := by
  refine .obj (by rw [keysOf_applyEntries, keysOf_zeroFields]) (by rw [keysOf_applyEntries, keysOf_applyEntries])
    (fun nm hun => by rw [lookupS_applyEntries_unmapped hun, lookupS_applyEntries_unmapped hun]) ?_
  intro kp hkp f fv fv' hf hl1 hl2
  obtain ⟨f', hf', hexp, _, _⟩ := propOK_field (hwf.prop kp hkp)
  rw [hf] at hf'; cases hf'
  have hexf := exact_of_mem hex hkp hf
  rw [lookupS_applied hwf hex hm hkp hf] at hl1
  rw [lookupS_applied hwf hex (reconv_converted h hwf hex hm) hkp hf] at hl2
  cases hl1; cases hl2
  rcases reconv_cases h hwf hm.keys hkp hf with ⟨y, hr, ho'⟩ | ⟨y, ho, _, ho'⟩ | ⟨hr, ho'⟩
  · have hb := h.again _ (mem_expectedBack hwf hkp hf hr) kp.2 f hkp hf
    rw [ho']
    cases ho : lookupS kp.1 m with
    | none =>
      -- the untouched field holds its zero value, which came back as it is
      rw [ho] at hr
      obtain ⟨rfl, hnp, _, _⟩ := readBack_none_some hr
      have hz : B (kp.1, f.zero) = f.zero := hb.zero ho
      simp only [hz, exact_not_ptr hexf hnp, if_true]
      exact .same
    | some v =>
      rw [ho] at hr
      obtain ⟨hy, _⟩ := readBack_some hr
      subst hy
      by_cases hft : f.ty = reflTy kp.2.ty
      · simp only [hft, if_true]; exact .val hb.eqv
      · simp only [hft, if_false]; exact .ptr hb.eqv
  · rw [ho', ho]; exact .same
  · rw [ho']
    cases ho : lookupS kp.1 m with
    | none => exact .same
    | some v =>
      -- a supplied value that the read dropped: a zero value under treat-empty-as-default
      rw [ho] at hr
      have he : kp.2.emptyIsDefault = true := by
        rcases readBack_some_none hr with he | hd
        · exact he
        · rw [hdis kp hkp v ho] at hd; cases hd
      have hrf := readField_stored hexf hexp kp.2.disabled kp.2.emptyIsDefault (v := v)
        (hm.shaped (kp.1, v) (lookupS_mem ho) kp.2 (lookupS_of_mem_nodup hwf.keys hkp))
      have hc : ((kp.2.disabled || kp.2.emptyIsDefault) && reflTy kp.2.ty != .iface && v.isZero) = true := by
        simpa [readBack, and_assoc] using hr
      rw [hc, he] at hrf
      exact .absent he hrf

end

theorem mem_rulesOf {props : List (String × SProp)} {k : String} {p : SProp} (h : (k, p) ∈ props) :
    (k, p.rules) ∈ rulesOf props := List.mem_map.mpr ⟨(k, p), h, rfl⟩

theorem interdeps_append_irrelevant {α} {rules : List (String × PropT)} {l X : List (String × α)}
    (hX : ∀ k, hasKey k X = true → ruleRelevant rules k = false)
    (h : interdeps rules (fun k => hasKey k l) = .ok ()) : interdeps rules (fun k => hasKey k (l ++ X)) = .ok () := by
  refine interdeps_stable _ _ _ (fun k hrel => ?_) (fun ip _ _ hset => by rw [hasKey_append, hset]; rfl) h
  rw [hasKey_append]
  cases hx : hasKey k X with
  | false => simp
  | true => rw [hX k hx] at hrel; cases hrel

section
variable {st : StructTy} {props : List (String × SProp)} {m : List (String × SV)}

/-- the map read back from the struct is accepted by the presence rules like the converted map: the
    presence of a property that matters to a rule does not change through the struct -/
theorem interdeps_expectedBack (hwf : WFObj st props) (hrt : ∀ kp, kp ∈ props → rtPropB st props kp = true)
    (hdecl : ∀ kv, kv ∈ m → hasKey kv.1 props = true)
    (hdis : ∀ kp, kp ∈ props → ∀ v, lookupS kp.1 m = some v → kp.2.disabled = false)
    (hi : interdeps (rulesOf props) (fun k => hasKey k m) = .ok ()) :
    interdeps (rulesOf props) (fun k => hasKey k (expectedBack st props m)) = .ok () := by
  refine interdeps_stable _ _ _ ?_ ?_ hi
  · intro k hrel
    cases hk : lookupS k props with
    | some p =>
      have hkp := lookupS_mem hk
      obtain ⟨f, hf, _, hspec, _⟩ := rtPropB_spec (hrt (k, p) hkp)
      obtain ⟨hpl, hne⟩ := hspec hrel
      simp only [hasKey, lookupS_expectedBack st props m hwf k p hkp f hf]
      cases hlm : lookupS k m with
      | none => simp [ptrLike_readBack_none hpl]
      | some v => simp [readBack_some_of_not_eid hne (hdis (k, p) hkp v hlm)]
    | none =>
      have hnk : hasKey k props = false := by simp [hasKey, hk]
      have h1 : hasKey k m = false := by
        cases hkm : hasKey k m with
        | false => rfl
        | true => obtain ⟨v, hv⟩ := hasKey_eq_true_iff.mp hkm; rw [hdecl _ hv] at hnk; cases hnk
      have h2 : hasKey k (expectedBack st props m) = false := by
        cases hkm : hasKey k (expectedBack st props m) with
        | false => rfl
        | true =>
          obtain ⟨y, hy⟩ := hasKey_eq_true_iff.mp hkm
          obtain ⟨p, _, hkp, _⟩ := expectedBack_mem hy
          rw [hasKey_of_mem hkp] at hnk; cases hnk
      rw [h1, h2]
  · intro ip hip hreq hset
    obtain ⟨kp, hkp, rfl⟩ := List.mem_map.mp hip
    obtain ⟨f, hf, hspec, _, _⟩ := rtPropB_spec (hrt kp hkp)
    have hne : kp.2.emptyIsDefault = false := by
      cases he : kp.2.emptyIsDefault with
      | false => rfl
      | true => have := (hspec he).2.2; simp only [] at hreq; rw [this] at hreq; cases hreq
    simp only [hasKey] at hset ⊢
    obtain ⟨v, hv⟩ := Option.isSome_iff_exists.mp hset
    rw [lookupS_expectedBack st props m hwf kp.1 kp.2 hkp f hf, hv, readBack_some_of_not_eid hne (hdis kp hkp v hv)]
    rfl

theorem dflStep_of_not_back {n : Nat} (hwf : WFObj st props) (hrt : ∀ kp, kp ∈ props → rtPropB st props kp = true)
    (hdis : ∀ kp, kp ∈ props → ∀ v, lookupS kp.1 m = some v → kp.2.disabled = false)
    (habs : ∀ kp, kp ∈ props → hasKey kp.1 m = false → dflStep (fieldSkips st kp.1) (n + 1) kp.2 = .ok none)
    {kp : String × SProp} (hkp : kp ∈ props) (hk : hasKey kp.1 (expectedBack st props m) = false) :
    dflStep (fieldSkips st kp.1) (n + 1) kp.2 = .ok none := by
  obtain ⟨f, hf, hspec, _, _⟩ := rtPropB_spec (hrt kp hkp)
  have hnone : readBack f kp.2 (lookupS kp.1 m) = none := by
    rw [← lookupS_expectedBack st props m hwf kp.1 kp.2 hkp f hf]
    simpa [hasKey] using hk
  cases hlm : lookupS kp.1 m with
  | none => exact habs kp hkp (by simp [hasKey, hlm])
  | some v =>
    rw [hlm] at hnone
    rcases readBack_some_none hnone with he | hd
    · obtain ⟨hpl, hd, _⟩ := hspec he
      exact dflStep_plainLeaf hpl hd
    · rw [hdis kp hkp v hlm] at hd; cases hd

end

theorem runObjS_S_wrapT {rec : SRec} {fuel : Nat} {st : StructTy} {ptrT : Bool} {props : List (String × SProp)}
    {fs raw : List (String × SV)} {wl : List (String × V)} (hfrom : fromStruct st props fs = .ok raw)
    (hs : forSVS (entryVS rec .S props) raw = .ok (wl.map fun kw => (kw.1, SV.val kw.2)))
    (hi : interdeps (rulesOf props) (fun k => hasKey k raw) = .ok ()) :
    runObjS rec fuel .S st ptrT props (wrapT ptrT st.name fs) = .ok (.val (toStrAny wl)) := by
  simp only [runObjS, unwrapT_wrapT, Out.bind, hfrom, hs, forSVS_asVal, hi]

theorem sobjRaw_toStrAny (rec : SRec) (fuel : Nat) (st : StructTy) (props : List (String × SProp)) (l : List (String × V)) :
    sobjRaw rec fuel st props (.val (toStrAny l)) =
      if !(decide (l.map (·.1)).Nodup) then .cerr else
      if l.any (fun kv => !(hasKey kv.1 props)) then .cerr else
      (applyDefaultsS st fuel props l).bind fun m => forSVS (entryUS rec props) m := by
  simp only [sobjRaw, rawEntries_toStrAny, strKeys_toStrAny]

theorem sobjRaw_toStrAny_ok {rec : SRec} {fuel : Nat} {st : StructTy} {props : List (String × SProp)}
    {l : List (String × V)} {m : List (String × SV)} (hf : forSVS (entryUS rec props) l = .ok m)
    (hn : (keysOf m).Nodup) (hd : ∀ kv, kv ∈ m → hasKey kv.1 props = true)
    (hno : ∀ kp, kp ∈ props → hasKey kp.1 l = true ∨ dflStep (fieldSkips st kp.1) fuel kp.2 = .ok none) :
    sobjRaw rec fuel st props (.val (toStrAny l)) = .ok m := by
  have hk : keysOf m = keysOf l := forSVS_keys hf
  have h2 : (l.any fun kv => !hasKey kv.1 props) = false := by
    rw [List.any_eq_false]
    intro kv hkv
    obtain ⟨kv', hkv', hk'⟩ := List.mem_map.mp (hk ▸ List.mem_map.mpr ⟨kv, hkv, rfl⟩ : kv.1 ∈ keysOf m)
    simp [← hk', hd kv' hkv']
  rw [hk, keysOf] at hn
  simp only [sobjRaw_toStrAny, hn, h2, decide_true, Bool.not_true, Bool.false_eq_true, if_false,
    applyDefaultsS_noadd st fuel props l hno, Out.bind, hf]

theorem entryVS_ok_iff {rec : SRec} {op : SOp} {props : List (String × SProp)} {k : String} {p : SProp}
    (hl : lookupS k props = some p) {e r : SV} : entryVS rec op props k e = .ok r ↔ rec op p.ty e = .ok r := by
  cases h : rec op p.ty e <;> simp [entryVS, hl, h, Out.addSeg]

theorem entryUS_ok_iff {rec : SRec} {props : List (String × SProp)} {k : String} {p : SProp}
    (hl : lookupS k props = some p) {d : V} {r : SV} :
    entryUS rec props k d = .ok r ↔ p.disabled = false ∧ rec .U p.ty (.val d) = .ok r := by
  cases hd : p.disabled <;> cases h : rec .U p.ty (.val d) <;> simp [entryUS, hl, hd, h, Out.addSeg, Out.cerrAt]

/-- what the round trip does to one entry `kv` of the map read from the struct: it validates,
    serializes to `a`, `a` unserializes to `b`, which serializes to `a` again -/
structure EntryOK (rec : SRec) (props : List (String × SProp)) (kv : String × SV) (a : V) (b : SV) : Prop where
  v : entryVS rec .V props kv.1 kv.2 = .ok (.val unitV)
  s : entryVS rec .S props kv.1 kv.2 = .ok (.val a)
  u : entryUS rec props kv.1 a = .ok b
  s' : entryVS rec .S props kv.1 b = .ok (.val a)

theorem entry_ok (x : Ext) (n : Nat) {st : StructTy} {props : List (String × SProp)} (hwf : WFObj st props)
    (hrt : ∀ kp, kp ∈ props → rtPropB st props kp = true)
    (ih : ∀ kp, kp ∈ props → RTAt (srun x (n + 2)) kp.2.ty)
    {m : List (String × SV)}
    (hent : ∀ kv, kv ∈ m → ∃ p v0, lookupS kv.1 props = some p ∧ p.disabled = false ∧ srun x (n + 2) .U p.ty v0 = .ok kv.2)
    (habs : ∀ kp, kp ∈ props → hasKey kp.1 m = false → dflStep (fieldSkips st kp.1) (n + 2) kp.2 = .ok none)
    (hi : interdeps (rulesOf props) (fun k => hasKey k m) = .ok ())
    {kv : String × SV} (hkv : kv ∈ expectedBack st props m) :
    ∃ a b, EntryOK (srun x (n + 2)) props kv a b ∧
      ∀ p f, (kv.1, p) ∈ props → fieldFor st kv.1 = some f → Reread m p f kv b := by
  obtain ⟨p, f, hkp, hf, hrb⟩ := expectedBack_mem hkv
  have hl : lookupS kv.1 props = some p := lookupS_of_mem_nodup hwf.keys hkp
  obtain ⟨f', hf', hspec, _, hzero⟩ := rtPropB_spec (hrt (kv.1, p) hkp)
  rw [hf] at hf'; cases hf'
  suffices ∃ a b, EntryOK (srun x (n + 2)) props kv a b ∧ Reread m p f kv b by
    obtain ⟨a, b, h1, h2⟩ := this
    refine ⟨a, b, h1, fun p' f' hkp' hf' => ?_⟩
    rw [hf] at hf'; cases hf'
    cases mem_props_unique hwf.keys hkp hkp'
    exact h2
  obtain ⟨k, y⟩ := kv
  cases hlm : lookupS k m with
  | some v =>
    rw [hlm] at hrb
    obtain ⟨rfl, _⟩ := readBack_some hrb
    obtain ⟨p', v0, hl', hdis, hu⟩ := hent (k, y) (lookupS_mem hlm)
    rw [hl] at hl'; cases hl'
    obtain ⟨hV, w, s', hS, hU', hE, hS', _, hpl⟩ := ih (k, p) hkp v0 y hu
    refine ⟨w, s', ⟨(entryVS_ok_iff hl).mpr hV, (entryVS_ok_iff hl).mpr hS, (entryUS_ok_iff hl).mpr ⟨hdis, hU'⟩,
      (entryVS_ok_iff hl).mpr hS'⟩, srun_U_shaped x _ _ _ _ hU', hE, ?_, fun hnone => by rw [hlm] at hnone; cases hnone⟩
    cases he : p.emptyIsDefault with
    | false => exact readBack_some_of_not_eid he hdis s'
    | true => rw [hpl (hspec he).1, hrb]
  | none =>
    -- the property was absent: the field's zero value is read, which the property's type accepts
    rw [hlm] at hrb
    obtain ⟨rfl, hnp, hne, hdis⟩ := readBack_none_some hrb
    have hno : hasKey k m = false := by simp [hasKey, hlm]
    have hreq : p.rules.required = false := by
      have := (C03_rules_iff _ _).mp hi (k, p.rules) (mem_rulesOf hkp)
      simp only [RuleHolds, hno, Bool.false_eq_true, if_false] at this
      exact this.1
    obtain ⟨t, z, hty, hz, hzf⟩ := hzero hnp hne hdis hreq (dflStep_none_default (habs (k, p) hkp hno))
    obtain ⟨h1, h2, h3⟩ := zeroFine_srun x n hzf
    rw [← hty] at h1 h2 h3
    simp only [hz]
    exact ⟨z, .val z, ⟨(entryVS_ok_iff hl).mpr h1, (entryVS_ok_iff hl).mpr h2, (entryUS_ok_iff hl).mpr ⟨hdis, h3⟩,
      (entryVS_ok_iff hl).mpr h2⟩, srun_U_shaped x _ _ _ _ h3, .refl, readBack_some_of_not_eid hne hdis _, fun _ => rfl⟩

/-- The end-to-end round trip of one struct-mapped object, given that of its property types - with
    EXTRA entries appended to the serialized form before it is unserialized again: entries of
    treat-empty-as-default properties that the read from the struct dropped, carrying a value that
    unserializes to the value held by the struct (an inlined one-of restores its discriminator so).
    Also reported: the converted map `m` of the first Unserialize, which keys the serialized form
    has, and that its values are the serialized values of `m`. -/
theorem rt_obj_ext (x : Ext) (n : Nat) (id : String) {st : StructTy} (ptrT : Bool) {props : List (String × SProp)}
    (hwf : WFObj st props) (hex : exactObjB st props = true)
    (hrt : ∀ kp, kp ∈ props → rtPropB st props kp = true)
    (ih : ∀ kp, kp ∈ props → RTAt (srun x (n + 2)) kp.2.ty) (v s : SV) (extra : List (String × V))
    (hU : runObjS (srun x (n + 2)) (n + 2) .U st ptrT props v = .ok s)
    (hx : ∀ m, sobjRaw (srun x (n + 2)) (n + 2) st props v = .ok m →
      (keysOf extra).Nodup ∧ ∀ ka, ka ∈ extra → ∃ p f y, (ka.1, p) ∈ props ∧ fieldFor st ka.1 = some f ∧
        lookupS ka.1 m = some y ∧ srun x (n + 2) .U p.ty (.val ka.2) = .ok y ∧ readBack f p (some y) = none) :
    runObjS (srun x (n + 2)) (n + 2) .V st ptrT props s = .ok (.val unitV) ∧
    ∃ m wl s', sobjRaw (srun x (n + 2)) (n + 2) st props v = .ok m ∧
      runObjS (srun x (n + 2)) (n + 2) .S st ptrT props s = .ok (.val (toStrAny wl)) ∧
      (∀ k p f, (k, p) ∈ props → fieldFor st k = some f → hasKey k wl = (readBack f p (lookupS k m)).isSome) ∧
      (∀ k a y, lookupS k wl = some a → lookupS k m = some y →
        ∃ p, lookupS k props = some p ∧ srun x (n + 2) .S p.ty y = .ok (.val a)) ∧
      runObjS (srun x (n + 2)) (n + 2) .U st ptrT props (.val (toStrAny (wl ++ extra))) = .ok s' ∧
      Eqv (.obj id st ptrT props) s s' ∧
      runObjS (srun x (n + 2)) (n + 2) .S st ptrT props s' = .ok (.val (toStrAny wl)) := by
  obtain ⟨m, fs, hm, hi, hts, rfl⟩ := runObjS_U_ok_iff.mp hU
  obtain ⟨hnd, hent, habs⟩ := sobjRaw_facts hm
  obtain ⟨hxnd, hxe⟩ := hx m hm
  have hcm : ConvertedMap props m := ⟨hnd, sobjRaw_declared hm, fun kv hkv p hp => by
    obtain ⟨p', v0, hl', _, hu⟩ := hent kv hkv
    rw [hp] at hl'; cases hl'
    exact srun_U_shaped x _ _ _ _ hu⟩
  -- a disabled property is never in the converted map (Unserialize refuses it)
  have hdis : ∀ kp, kp ∈ props → ∀ v, lookupS kp.1 m = some v → kp.2.disabled = false := by
    intro kp hkp v hv
    obtain ⟨p', _, hl', hd, _⟩ := hent (kp.1, v) (lookupS_mem hv)
    rw [lookupS_of_mem_nodup hwf.keys (show (kp.1, kp.2) ∈ props from hkp)] at hl'
    cases hl'; exact hd
  have hts' := toStruct_wf hwf hcm.declared
  rw [hts'] at hts; cases hts
  have hfrom := C01_struct_fromStruct_toStruct st props m _ hwf hex hcm hts'
  have hiraw := interdeps_expectedBack hwf hrt hcm.declared hdis hi
  -- the entries of the map read back: serialized by `A`, converted again by `B`. `Reconv` wants
  -- FUNCTIONS of the entry, so `A`, `B` (and `X` below) are made total with `okGet` / `getD`; what
  -- they return outside `expectedBack st props m` / `extra` is junk that nothing looks at
  let A : String × SV → V := fun kv =>
    match okGet (entryVS (srun x (n + 2)) .S props kv.1 kv.2) with
    | .val a => a
    | _ => .nil
  let B : String × SV → SV := fun kv => okGet (entryUS (srun x (n + 2)) props kv.1 (A kv))
  have hAB : ∀ kv, kv ∈ expectedBack st props m → EntryOK (srun x (n + 2)) props kv (A kv) (B kv) ∧
      ∀ p f, (kv.1, p) ∈ props → fieldFor st kv.1 = some f → Reread m p f kv (B kv) := by
    intro kv hkv
    obtain ⟨a, b, h, hr⟩ := entry_ok x n hwf hrt ih hent habs hi hkv
    have ha : A kv = a := by simp only [A, h.s, okGet]
    have hb : B kv = b := by simp only [B, ha, h.u, okGet]
    rw [ha, hb]; exact ⟨h, hr⟩
  -- the extra entries convert to what the converted map held under their keys, which the read dropped
  let X : List (String × SV) := extra.map fun ka => (ka.1, (lookupS ka.1 m).getD default)
  have hX : ∀ ka, ka ∈ extra → ∃ p f y, (ka.1, p) ∈ props ∧ fieldFor st ka.1 = some f ∧ lookupS ka.1 m = some y ∧
      entryUS (srun x (n + 2)) props ka.1 ka.2 = .ok y ∧ readBack f p (some y) = none ∧ p.emptyIsDefault = true := by
    intro ka hka
    obtain ⟨p, f, y, hkp, hf, hly, hu, hrb⟩ := hxe ka hka
    have hd : p.disabled = false := hdis (ka.1, p) hkp y hly
    exact ⟨p, f, y, hkp, hf, hly, (entryUS_ok_iff (lookupS_of_mem_nodup hwf.keys hkp)).mpr ⟨hd, hu⟩, hrb,
      (readBack_some_none hrb).resolve_right (by simp [hd])⟩
  have hrc : Reconv st props m B X := by
    refine ⟨fun kv hkv => (hAB kv hkv).2, by rw [keysOf_map_val]; exact hxnd, ?_, ?_⟩
    · intro kx hkx
      obtain ⟨ka, hka, rfl⟩ := List.mem_map.mp hkx
      obtain ⟨_, _, y, _, _, hly, _⟩ := hX ka hka
      rw [hly]; exact lookupS_mem hly
    · intro kx hkx p f hkp hf
      obtain ⟨ka, hka, rfl⟩ := List.mem_map.mp hkx
      obtain ⟨p', f', y, hkp', hf', hly, _, hrb, _⟩ := hX ka hka
      rw [hf] at hf'; cases hf'
      cases mem_props_unique hwf.keys hkp hkp'
      rw [hly]; exact hrb
  have hcm' := reconv_converted hrc hwf hex hcm
  have hfrom' := C01_struct_fromStruct_toStruct st props _ _ hwf hex hcm' (toStruct_wf hwf hcm'.declared)
  rw [reconv_back hrc hwf hnd] at hfrom'
  -- the second Unserialize: every entry converts, no default is added, the presence rules still hold
  have hraw2 : sobjRaw (srun x (n + 2)) (n + 2) st props
      (.val (toStrAny ((expectedBack st props m).map (fun kv => (kv.1, A kv)) ++ extra))) =
      .ok ((expectedBack st props m).map (fun kv => (kv.1, B kv)) ++ X) := by
    refine sobjRaw_toStrAny_ok (forSVS_append_ok
      (forSVS_map_pointwise (g1 := A) (g2 := B) _ (fun kv hkv => (hAB kv hkv).1.u))
      (forSVS_pointwise extra (g2 := fun ka => (lookupS ka.1 m).getD default) (fun ka hka => by
        obtain ⟨_, _, y, _, _, hly, he, _⟩ := hX ka hka; rw [hly]; exact he)))
      hcm'.keys hcm'.declared (fun kp hkp => ?_)
    rw [hasKey_append, hasKey_map_val]
    cases hk : hasKey kp.1 (expectedBack st props m) with
    | true => exact .inl rfl
    | false => exact .inr (dflStep_of_not_back hwf hrt hdis habs hkp hk)
  have him' : interdeps (rulesOf props) (fun k => hasKey k
      ((expectedBack st props m).map (fun kv => (kv.1, B kv)) ++ X)) = .ok () := by
    refine interdeps_append_irrelevant (fun k hk => ?_) (by simpa only [hasKey_map_val] using hiraw)
    obtain ⟨_, hy⟩ := hasKey_eq_true_iff.mp hk
    obtain ⟨ka, hka, heq⟩ := List.mem_map.mp hy
    cases heq
    obtain ⟨p, _, _, hkp, _, _, _, _, he⟩ := hX ka hka
    obtain ⟨_, _, _, hspec, _⟩ := rtPropB_spec (hrt (ka.1, p) hkp)
    cases hrel : ruleRelevant (rulesOf props) ka.1 with
    | false => rfl
    | true => rw [(hspec hrel).2] at he; cases he
  refine ⟨?_, m, _, _, hm, runObjS_S_wrapT hfrom ?_ hiraw, ?_, ?_,
    runObjS_U_ok_iff.mpr ⟨_, _, hraw2, him', toStruct_wf hwf hcm'.declared, rfl⟩, reconv_eqv hrc hwf hex hcm hdis id ptrT,
    runObjS_S_wrapT hfrom' ?_ (by simpa only [hasKey_map_val] using hiraw)⟩
  · simp only [runObjS, unwrapT_wrapT, Out.bind, hfrom, hiraw,
      forSVS_pointwise _ (g2 := fun _ => SV.val unitV) (fun kv hkv => (hAB kv hkv).1.v)]
  · rw [List.map_map]
    exact forSVS_pointwise _ (g2 := fun kv => SV.val (A kv)) (fun kv hkv => (hAB kv hkv).1.s)
  · -- which keys the serialized form has
    intro k p f hkp hf
    rw [hasKey_map_val]
    simp only [hasKey, lookupS_expectedBack st props m hwf k p hkp f hf]
  · -- its values are the serialized values of the converted map
    intro k a y hla hly
    rw [lookupS_map_val A] at hla
    cases hlraw : lookupS k (expectedBack st props m) with
    | none => rw [hlraw] at hla; cases hla
    | some y' =>
      rw [hlraw] at hla
      cases hla
      have hmem := lookupS_mem hlraw
      obtain ⟨p, f, hkp, hf, hrb⟩ := expectedBack_mem hmem
      rw [hly] at hrb
      obtain ⟨rfl, _⟩ := readBack_some hrb
      have hl : lookupS k props = some p := lookupS_of_mem_nodup hwf.keys hkp
      exact ⟨p, hl, (entryVS_ok_iff hl).mp (hAB (k, y') hmem).1.s⟩
  · rw [List.map_map]
    exact forSVS_map_pointwise (g1 := B) (g2 := fun kv => SV.val (A kv)) _ (fun kv hkv => (hAB kv hkv).1.s')

/-- the end-to-end round trip of one struct-mapped object, given that of its property types -/
theorem rt_obj (x : Ext) (n : Nat) (id : String) {st : StructTy} (ptrT : Bool) {props : List (String × SProp)}
    (hwf : WFObj st props) (hex : exactObjB st props = true)
    (hrt : ∀ kp, kp ∈ props → rtPropB st props kp = true)
    (ih : ∀ kp, kp ∈ props → RTAt (srun x (n + 2)) kp.2.ty) (v s : SV)
    (hU : runObjS (srun x (n + 2)) (n + 2) .U st ptrT props v = .ok s) :
    runObjS (srun x (n + 2)) (n + 2) .V st ptrT props s = .ok (.val unitV) ∧
    ∃ w s', runObjS (srun x (n + 2)) (n + 2) .S st ptrT props s = .ok (.val w) ∧
      runObjS (srun x (n + 2)) (n + 2) .U st ptrT props (.val w) = .ok s' ∧
      Eqv (.obj id st ptrT props) s s' ∧
      runObjS (srun x (n + 2)) (n + 2) .S st ptrT props s' = .ok (.val w) := by
  obtain ⟨hV, _, wl, s', _, hS, _, _, hU2, hE, hS2⟩ := rt_obj_ext x n id ptrT hwf hex hrt ih v s [] hU
    (fun _ _ => ⟨List.nodup_nil, fun _ h => by cases h⟩)
  rw [List.append_nil] at hU2
  exact ⟨hV, _, s', hS, hU2, hE, hS2⟩

end SM
end Arca
