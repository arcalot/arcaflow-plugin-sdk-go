import ArcaModel.Lemmas.PermEq
import ArcaModel.Props.C02
/-
  The schema operations respect `V.PermEq` and reorderings of the schema's tables (C12, deep order
  independence): per-kind lemmas with the recursive call as a parameter, related on the two sides
  for an abstract relation `T` on schemas; then the induction on the fuel for the value side
  (`T := Eq`). Lemmas/PermEqTy.lean instantiates the same lemmas for `Ty.PermEq`.
-/
namespace Arca

/-- inputs of a recursive call: the same value, or a genuine Go value and a reordering of it
    (the first alternative covers the defaults a schema supplies, about which nothing is assumed) -/
def InRel (x y : V) : Prop := x = y ∨ (x ≈ᵥ y ∧ x.DistinctKeys)

theorem InRel.permEq {x y : V} (h : InRel x y) : x ≈ᵥ y := by
  rcases h with rfl | h
  · exact .refl _
  · exact h.1

def SIn (a b : String × V) : Prop := a.1 = b.1 ∧ InRel a.2 b.2

theorem SIn.sEntryEq {a b : String × V} (h : SIn a b) : SEntryEq a b := ⟨h.1, h.2.permEq⟩

/-- What the induction on the fuel provides about the recursive call in the environments `env`,
    `env'` of the two sides: on schemas related by `T` and inputs related by `I` the outcomes are
    related. `I` holds of a genuine Go value and a reordering of it; what else it holds of (the
    defaults a schema supplies) is up to the instance. -/
structure RecRel (rec : Rec) (env env' : Env) (T : Ty → Ty → Prop) (I : V → V → Prop) : Prop where
  call : ∀ (op : Op) {t t' : Ty} {v w : V}, T t t' → I v w → Out.Rel V.PermEq (rec op env t v) (rec op env' t' w)
  input : ∀ {v w : V}, v ≈ᵥ w → v.DistinctKeys → I v w

/-- ... and an unserialized `map[string]any` has distinct keys if the input had -/
def RecTop (rec : Rec) : Prop :=
  ∀ env t v, v.TopDistinct → Out.OnOk V.TopDistinct (rec .U env t v)

theorem Out.Rel.same {α} (o : Out α) : Out.Rel (fun _ _ => True) o o := Out.Rel.rfl' (fun _ => trivial) o

theorem Out.Rel.of_not_ok {α β} {R : α → β → Prop} {o : Out α} {o' : Out β} (h1 : ∀ a, o ≠ .ok a) (h2 : ∀ b, o' ≠ .ok b) :
    Out.Rel R o o' :=
  Out.Rel.of_ok (fun a ha => absurd ha (h1 a)) (fun b hb => absurd hb (h2 b))

section kinds
variable {rec : Rec} {env env' : Env} {T : Ty → Ty → Prop} {I : V → V → Prop}

theorem RecRel.permEq (hrec : RecRel rec env env' T I) (op : Op) {t t' : Ty} {v w : V} (ht : T t t')
    (h : v ≈ᵥ w) (hd : v.DistinctKeys) : Out.Rel V.PermEq (rec op env t v) (rec op env' t' w) :=
  hrec.call op ht (hrec.input h hd)

theorem V.DistinctKeys.sliceElems {v : V} (h : v.DistinctKeys) {xs : List V} (hs : v.sliceElems? = some xs) :
    ∀ x, x ∈ xs → x.DistinctKeys := by
  cases h <;> simp only [V.sliceElems?, Option.some.injEq, reduceCtorEq] at hs
  · subst hs
    intro x hx
    obtain ⟨n, _, rfl⟩ := List.mem_map.mp hx
    exact .int _ _
  · subst hs; assumption

theorem runList_rel (hrec : RecRel rec env env' T I) (op : Op) {item item' : Ty} (hi : T item item')
    (a b : Option Int) {v w : V} (h : v ≈ᵥ w) (hd : v.DistinctKeys) :
    Out.Rel V.PermEq (runList rec op env item a b v) (runList rec op env' item' a b w) := by
  unfold runList
  rcases h.sliceElems.cases with ⟨h1, h2⟩ | ⟨xs, ys, h1, h2, hs⟩ <;> rw [h1, h2]
  · exact Out.Rel.cerr_cerr
  · have hin : Forall2 I xs ys := hs.imp_mem fun x _ hx hxy => hrec.input hxy (hd.sliceElems h1 x hx)
    have trav : ∀ op', Out.Rel ListEq (forIdx (fun i e => (rec op' env item e).addSeg (idxSeg i)) 0 xs)
        (forIdx (fun i e => (rec op' env' item' e).addSeg (idxSeg i)) 0 ys) := fun op' =>
      forIdx_rel (R := I) (fun _ _ _ hxy => (hrec.call op' hi hxy).addSeg _ _) hin 0
    cases op <;> simp only [hs.length_eq]
    · exact (Out.Rel.same _).bind fun _ _ _ =>
        (trav .U).bind fun _ _ hy => Out.Rel.ok_ok.mpr (V.permEq_list_of hy)
    · exact (Out.Rel.same _).bind fun _ _ _ => (trav .V).bind fun _ _ _ => Out.Rel.rfl' V.PermEq.refl _
    · exact (Out.Rel.same _).bind fun _ _ _ => (trav .V).bind fun _ _ _ =>
        (trav .S).bind fun _ _ hy => Out.Rel.ok_ok.mpr (V.permEq_list_of hy)
    · exact (trav .C).bind fun _ _ _ => Out.Rel.rfl' V.PermEq.refl _

theorem entryKV_rel (hrec : RecRel rec env env' T I) (op : Op) {kt kt' vt vt' : Ty} (hk : T kt kt') (hv : T vt vt')
    {a b : V × V} (h : I a.1 b.1 ∧ I a.2 b.2) :
    Out.Rel EntryEq (entryKV rec op env kt vt a.1 a.2) (entryKV rec op env' kt' vt' b.1 b.2) := by
  unfold entryKV
  exact ((hrec.call op hk h.1).addSeg _ _).bind fun _ _ hk' =>
    ((hrec.call op hv h.2).addSeg _ _).bind fun _ _ he => Out.Rel.ok_ok.mpr ⟨hk', he⟩

theorem runMap_rel (hrec : RecRel rec env env' T I) (op : Op) {kt kt' vt vt' : Ty} (hk : T kt kt') (hv : T vt vt')
    (hkt : kt.keyTy = kt'.keyTy) (hva : vt.reflectsAny = vt'.reflectsAny) (a b : Option Int)
    {v w : V} (h : v ≈ᵥ w) (hd : v.DistinctKeys) :
    Out.Rel V.PermEq (runMap rec op env kt vt a b v) (runMap rec op env' kt' vt' a b w) := by
  unfold runMap
  rcases h.mapEntries.cases with ⟨h1, h2⟩ | ⟨⟨sh, kvs⟩, ⟨_, kvs'⟩, h1, h2, ⟨⟩, hm⟩ <;> rw [h1, h2]
  · exact Out.Rel.cerr_cerr
  · rw [mapEntries_eq h1] at hd
    have hin : PermRel (fun a b => I a.1 b.1 ∧ I a.2 b.2) kvs kvs' := hm.imp_mem fun a _ ha hab =>
      ⟨hrec.input hab.1 (hd.entries a ha).1, hrec.input hab.2 (hd.entries a ha).2⟩
    have trav : ∀ op', Out.Rel MapEq (forKV (entryKV rec op' env kt vt) kvs) (forKV (entryKV rec op' env' kt' vt') kvs') :=
      fun op' => forKV_permRel (fun _ _ hab => entryKV_rel hrec op' hk hv hab) hin
    simp only [hm.length_eq]
    refine (Out.Rel.same _).bind fun _ _ _ => ?_
    cases op <;> simp only []
    · refine (trav .U).bind fun es es' hes => ?_
      rw [dupKey_mapEq hes, hkt, hva]
      exact .ite (fun _ => Out.Rel.cerr_cerr) fun _ => Out.Rel.ok_ok.mpr (V.permEq_map_of hes)
    · exact (trav .V).bind fun _ _ _ => Out.Rel.rfl' V.PermEq.refl _
    · exact (trav .V).bind fun _ _ _ => (trav .S).bind fun _ _ hes => Out.Rel.ok_ok.mpr (V.permEq_map_of hes)
    · exact (trav .C).bind fun _ _ _ => Out.Rel.rfl' V.PermEq.refl _

def SRel (I : V → V → Prop) (a b : String × V) : Prop := a.1 = b.1 ∧ I a.2 b.2

theorem SRel.of_sMapEq (hrec : RecRel rec env env' T I) {m m' : List (String × V)} (h : SMapEq m m')
    (hd : ∀ kv, kv ∈ m → kv.2.DistinctKeys) : PermRel (SRel I) m m' :=
  h.imp_mem fun a _ ha hab => ⟨hab.1, hrec.input hab.2 (hd a ha)⟩

theorem hasKey_permRel {α β} {R : String × α → String × β → Prop} {m : List (String × α)} {m' : List (String × β)}
    (h : PermRel R m m') (hk : ∀ a b, R a b → a.1 = b.1) (k : String) : hasKey k m = hasKey k m' := by
  rw [hasKey_eq_any, hasKey_eq_any]
  exact h.any_eq (fun a b hab => by rw [hk a b hab])

/-- defaults are appended for the same absent properties, whatever the order of the supplied ones -/
theorem applyDefaults_sRel : ∀ (props : List (String × PropT)),
    (∀ np, np ∈ props → ∀ d, np.2.defaultV = some (some d) → I d d) → ∀ {m m' : List (String × V)},
    PermRel (SRel I) m m' → Out.Rel (PermRel (SRel I)) (applyDefaults props m) (applyDefaults props m')
  | [], _, _, _, h => Out.Rel.ok_ok.mpr h
  | (id, p) :: rest, hdf, m, m', h => by
    have ih {m m'} := applyDefaults_sRel rest (fun np hnp => hdf np (List.mem_cons_of_mem _ hnp)) (m := m) (m' := m')
    simp only [applyDefaults]
    rw [hasKey_permRel h (fun _ _ hab => hab.1) id]
    split
    · exact ih h
    · cases hdv : p.defaultV with
      | none => exact ih h
      | some o =>
        cases o with
        | none => exact Out.Rel.panic_panic
        | some d => exact ih (h.append (.cons ⟨rfl, hdf _ (List.mem_cons_self ..) d hdv⟩ .nil))

/-- is a required property absent or nil? (the second half of `validateMapTypesCompatibility`) -/
def reqMissing (props : List (String × PropT)) (m : List (String × V)) : Bool :=
  props.any (fun kp => kp.2.required &&
    (match lookupS kp.1 m with | none => true | some .nil => true | _ => false))

/-- what the object lemmas need of the property tables of the two sides -/
structure PropsAgree (T : Ty → Ty → Prop) (I : V → V → Prop) (props props' : List (String × PropT)) : Prop where
  lookup : ∀ k, ORel (fun p p' => T p.ty p'.ty ∧ p.disabled = p'.disabled) (lookupS k props) (lookupS k props')
  length_eq : props.length = props'.length
  defaults : ∀ {m m' : List (String × V)}, PermRel (SRel I) m m' →
    Out.Rel (PermRel (SRel I)) (applyDefaults props m) (applyDefaults props' m')
  rules : ∀ isSet, Out.Rel (fun _ _ => True) (interdeps props isSet) (interdeps props' isSet)
  required : ∀ m, reqMissing props m = reqMissing props' m

theorem PropsAgree.hasKey {props props' : List (String × PropT)} (hp : PropsAgree T I props props') (k : String) :
    hasKey k props = hasKey k props' := (hp.lookup k).isSome_eq

theorem PropsAgree.single {props props' : List (String × PropT)} (hp : PropsAgree T I props props') :
    (∃ name p p', props = [(name, p)] ∧ props' = [(name, p')] ∧ T p.ty p'.ty ∧ p.disabled = p'.disabled) ∨
      ((∀ name p, props ≠ [(name, p)]) ∧ ∀ name p, props' ≠ [(name, p)]) := by
  have hlen := hp.length_eq
  match props, props', hlen, hp.lookup with
  | [(name, p)], [(name', p')], _, hl =>
    have := hl name
    simp only [lookupS, beq_self_eq_true, if_true] at this
    split at this
    · rename_i e
      exact .inl ⟨name, p, p', rfl, by rw [eq_of_beq e], this.1, this.2⟩
    · exact this.elim
  | [], [], _, _ => exact .inr ⟨fun _ _ => nofun, fun _ _ => nofun⟩
  | _ :: _ :: _, _ :: _ :: _, _, _ => exact .inr ⟨fun _ _ => nofun, fun _ _ => nofun⟩

theorem objEntryU_rel (hrec : RecRel rec env env' T I) {props props' : List (String × PropT)}
    (hp : PropsAgree T I props props') {a b : String × V} (h : SRel I a b) :
    Out.Rel (fun r r' => SEntryEq (a.1, r) (b.1, r')) (objEntryU rec env props a.1 a.2) (objEntryU rec env' props' b.1 b.2) := by
  obtain ⟨k, _⟩ := a
  obtain ⟨_, _⟩ := b
  obtain ⟨⟨⟩, hv⟩ := h
  unfold objEntryU
  rcases (hp.lookup k).cases with ⟨h1, h2⟩ | ⟨p, p', h1, h2, hty, hdis⟩ <;> rw [h1, h2]
  · exact Out.Rel.cerr_cerr
  · simp only [← hdis]
    exact .ite (fun _ => Out.Rel.err_err) fun _ => ((hrec.call .U hty hv).addSeg _ _).imp fun _ _ hr => ⟨rfl, hr⟩

theorem objEntry_rel (hrec : RecRel rec env env' T I) {props props' : List (String × PropT)}
    (hp : PropsAgree T I props props') (op : Op) {a b : String × V} (h : SRel I a b) :
    Out.Rel (fun r r' => SEntryEq (a.1, r) (b.1, r')) (objEntry rec op env props a.1 a.2) (objEntry rec op env' props' b.1 b.2) := by
  obtain ⟨k, _⟩ := a
  obtain ⟨_, _⟩ := b
  obtain ⟨⟨⟩, hv⟩ := h
  unfold objEntry
  rcases (hp.lookup k).cases with ⟨h1, h2⟩ | ⟨p, p', h1, h2, hty, _⟩ <;> rw [h1, h2]
  · exact Out.Rel.cerr_cerr
  · exact ((hrec.call op hty hv).addSeg _ _).imp fun _ _ hr => ⟨rfl, hr⟩

theorem objRaw_rel (hrec : RecRel rec env env' T I) {props props' : List (String × PropT)}
    (hp : PropsAgree T I props props') {v w : V} (h : v ≈ᵥ w) (hd : v.DistinctKeys) :
    Out.Rel SMapEq (objRaw rec env props v) (objRaw rec env' props' w) := by
  unfold objRaw
  rcases h.mapEntries.cases with ⟨h1, h2⟩ | ⟨⟨sh, kvs⟩, ⟨_, kvs'⟩, h1, h2, ⟨⟩, hm⟩ <;> rw [h1, h2] <;> simp only
  · -- the single-property shorthand
    rcases hp.single with ⟨name, p, p', rfl, rfl, hty, hdis⟩ | ⟨hn, hn'⟩
    · simp only [← hdis]
      exact .ite (fun _ => Out.Rel.plain_plain) fun _ =>
        (hrec.permEq .U hty h hd).rewrapP.bind fun _ _ hr => Out.Rel.ok_ok.mpr (.cons ⟨rfl, hr⟩ .nil)
    · split
      · exact absurd rfl (hn _ _)
      · exact Out.Rel.cerr_cerr
  · rw [mapEntries_eq h1] at hd
    rcases (strKeys_rel hm).cases with ⟨hk, hk'⟩ | ⟨m, m', hk, hk', hmm⟩ <;> rw [hk, hk'] <;> simp only
    · exact Out.Rel.cerr_cerr
    · rw [hmm.any_eq (q := fun kv => !(hasKey kv.1 props')) fun _ _ hab => by rw [hab.1, hp.hasKey]]
      exact .ite (fun _ => Out.Rel.cerr_cerr) fun _ =>
        (hp.defaults (SRel.of_sMapEq hrec hmm (hd.strView hk).2)).bind fun _ _ h1 =>
          forSV_permRel (fun _ _ hab => objEntryU_rel hrec hp hab) h1

theorem objCompatMap_eq (rec : Rec) (env : Env) (props : List (String × PropT)) (m : List (String × V)) :
    objCompatMap rec env props m =
      (forSV (fun k e =>
        match lookupS k props with
        | none => .cerr
        | some p =>
          ((rewrapC (rec .C env p.ty e)).bind fun _ => if p.disabled then .cerr else done).addSeg k) m).bind fun _ =>
        if reqMissing props m then .cerr else done := rfl

theorem reqMissing_sMapEq (props : List (String × PropT)) {m m' : List (String × V)} (h : SMapEq m m')
    (hnd : (m.map Prod.fst).Nodup) : reqMissing props m = reqMissing props m' := by
  unfold reqMissing
  congr 1
  funext kp
  congr 1
  rcases (lookupS_sMapEq h hnd kp.1).cases with ⟨h1, h2⟩ | ⟨_, _, h1, h2, hl⟩ <;> rw [h1, h2]
  cases hl <;> rfl

theorem objCompatMap_rel (hrec : RecRel rec env env' T I) {props props' : List (String × PropT)}
    (hp : PropsAgree T I props props') {m m' : List (String × V)} (h : SMapEq m m') (hnd : (m.map Prod.fst).Nodup)
    (hd : ∀ kv, kv ∈ m → kv.2.DistinctKeys) :
    Out.Rel V.PermEq (objCompatMap rec env props m) (objCompatMap rec env' props' m') := by
  rw [objCompatMap_eq, objCompatMap_eq, reqMissing_sMapEq props h hnd, hp.required]
  refine (forSV_permRel (S := SEntryEq) ?_ (SRel.of_sMapEq hrec h hd)).bind fun _ _ _ => Out.Rel.rfl' V.PermEq.refl _
  rintro ⟨k, _⟩ ⟨_, _⟩ ⟨⟨⟩, hv⟩
  rcases (hp.lookup k).cases with ⟨h1, h2⟩ | ⟨p, p', h1, h2, hty, hdis⟩ <;> simp only [h1, h2]
  · exact Out.Rel.cerr_cerr
  · rw [hdis]
    exact ((hrec.call .C hty hv).rewrapC.bind fun _ _ _ => Out.Rel.rfl' (fun _ => ⟨rfl, V.PermEq.refl _⟩) _).addSeg _ _

theorem runObj_rel (hrec : RecRel rec env env' T I) {id : String} {props props' : List (String × PropT)}
    (hp : PropsAgree T I props props') (hself : T (.obj id props) (.obj id props')) (op : Op)
    {v w : V} (h : v ≈ᵥ w) (hd : v.DistinctKeys) :
    Out.Rel V.PermEq (runObj rec op env id props v) (runObj rec op env' id props' w) := by
  cases op
  case U =>
    simp only [runObj]
    refine (objRaw_rel hrec hp h hd).bind fun m m' hm => ?_
    rw [funext (hasKey_sMapEq hm)]
    exact (hp.rules _).bind fun _ _ _ => Out.Rel.ok_ok.mpr (toStrAny_sMapEq hm)
  case V | S =>
    simp only [runObj]
    refine h.strView_match hd (fun m m' hmm _ hdm => ?_) Out.Rel.cerr_cerr
    rw [funext (hasKey_sMapEq hmm)]
    refine (hp.rules _).bind fun _ _ _ => ?_
    refine (forSV_permRel (S := SEntryEq) (fun _ _ hab => objEntry_rel hrec hp _ hab)
      (SRel.of_sMapEq hrec hmm hdm)).bind fun _ _ hr => ?_
    exact .ite (fun _ => Out.Rel.rfl' V.PermEq.refl _) fun _ => Out.Rel.ok_ok.mpr (toStrAny_sMapEq hr)
  case C =>
    simp only [runObj]
    exact h.strView_match hd (fun _ _ hmm hnd hdm => objCompatMap_rel hrec hp hmm hnd hdm)
      ((hrec.permEq .U hself h hd).rewrapC.bind fun _ _ _ => Out.Rel.rfl' V.PermEq.refl _)

theorem clone_sMapEq {m m' : List (String × V)} (h : SMapEq m m') (inlined : Bool) (disc : String) :
    SMapEq (if inlined then m else eraseKey disc m) (if inlined then m' else eraseKey disc m') := by
  cases inlined
  · exact eraseKey_sMapEq h disc
  · exact h

/-- the typed discriminator of a native one-of value -/
def typedKey (intKey : Bool) (o : Option V) : Option Key :=
  match o with
  | some (.int .int64 n) => if intKey then some (.i n) else none
  | some (.str s) => if intKey then none else some (.s s)
  | _ => none

theorem oneOfSelect_eq (rec : Rec) (env : Env) (intKey : Bool) (disc : String) (inlined : Bool)
    (members : List (Key × Ty)) (compat : Bool) (m : List (String × V)) :
    oneOfSelect rec env intKey disc inlined members compat m =
      match typedKey intKey (lookupS disc m) with
      | none => .cerr
      | some key =>
        match lookupK key members with
        | none => .cerr
        | some mt =>
          if compat then
            (rewrapC (rec .C env mt (toStrAny (if inlined then m else eraseKey disc m)))).bind fun _ =>
              .ok (key, mt, if inlined then m else eraseKey disc m)
          else .ok (key, mt, if inlined then m else eraseKey disc m) := rfl

theorem typedKey_rel (intKey : Bool) {o o' : Option V} (h : ORel V.PermEq o o') : typedKey intKey o = typedKey intKey o' := by
  rcases h.cases with ⟨rfl, rfl⟩ | ⟨_, _, rfl, rfl, h⟩
  · rfl
  · cases h <;> rfl

def SelRel (T : Ty → Ty → Prop) (s s' : Key × Ty × List (String × V)) : Prop :=
  s.1 = s'.1 ∧ T s.2.1 s'.2.1 ∧ SMapEq s.2.2 s'.2.2 ∧ (toStrAny s.2.2).DistinctKeys

theorem oneOfSelect_rel (hrec : RecRel rec env env' T I) (intKey : Bool) (disc : String) (inlined : Bool)
    {ms ms' : List (Key × Ty)} (hms : ∀ k, ORel T (lookupK k ms) (lookupK k ms')) (compat : Bool)
    {m m' : List (String × V)} (h : SMapEq m m') (hnd : (m.map Prod.fst).Nodup) (hd : ∀ kv, kv ∈ m → kv.2.DistinctKeys) :
    Out.Rel (SelRel T) (oneOfSelect rec env intKey disc inlined ms compat m)
      (oneOfSelect rec env' intKey disc inlined ms' compat m') := by
  rw [oneOfSelect_eq, oneOfSelect_eq, typedKey_rel intKey (lookupS_sMapEq h hnd disc)]
  cases typedKey intKey (lookupS disc m') with
  | none => exact Out.Rel.cerr_cerr
  | some key =>
    rcases (hms key).cases with ⟨h1, h2⟩ | ⟨mt, mt', h1, h2, hmt⟩ <;> simp only [h1, h2]
    · exact Out.Rel.cerr_cerr
    · have hc := clone_sMapEq h inlined disc
      have hdc := clone_distinct hnd hd inlined disc
      cases compat
      · exact Out.Rel.ok_ok.mpr ⟨rfl, hmt, hc, hdc⟩
      · exact (hrec.permEq .C hmt (toStrAny_sMapEq hc) hdc).rewrapC.bind fun _ _ _ =>
          Out.Rel.ok_ok.mpr ⟨rfl, hmt, hc, hdc⟩

theorem bind_ne_ok {α β} (o : Out α) (f : α → Out β) (hf : ∀ a b, f a ≠ .ok b) : ∀ b, o.bind f ≠ .ok b := by
  intro b; cases o <;> simp [Out.bind, hf]

/-- the discriminator is written back into an unserialized `map[string]any` -/
theorem setDisc_rel {disc : String} {d : V} {r r' : V} (hr : r ≈ᵥ r') (hrt : r.TopDistinct) :
    Out.Rel V.PermEq
      (match (generalizing := false) r with
        | .map ⟨.string, true⟩ rk =>
          (match strKeys? rk with
            | some rm => .ok (toStrAny (setKey disc d rm))
            | none => .cerr)
        | _ => .ok r)
      (match (generalizing := false) r' with
        | .map ⟨.string, true⟩ rk =>
          (match strKeys? rk with
            | some rm => .ok (toStrAny (setKey disc d rm))
            | none => .cerr)
        | _ => .ok r') := by
  refine hr.strAny_match (fun rk rk' e hrm => ?_) (Out.Rel.ok_ok.mpr hr)
  rcases (strKeys_rel hrm).cases with ⟨hk, hk'⟩ | ⟨rm, rm', hk, hk', hrmm⟩ <;> rw [hk, hk']
  · exact Out.Rel.cerr_cerr
  · have hrnd : (rm.map Prod.fst).Nodup := by
      subst e; rw [← strKeysOf_of_strKeys hk]; exact hrt
    exact Out.Rel.ok_ok.mpr (toStrAny_sMapEq (setKey_sMapEq hrmm hrnd disc (.refl _)))

theorem oneOfUnser_nonmap {rec : Rec} {x : Ext} {env : Env} {intKey : Bool} {disc : String} {inlined : Bool}
    {ms : List (Key × Ty)} {v : V} (h : v.mapEntries? = none) (r : V) :
    oneOfUnser rec x env intKey disc inlined ms v ≠ .ok r := by
  unfold oneOfUnser
  split
  · simp [Out.plain]
  · rw [h]; simp [Out.cerr]

theorem oneOfUnser_rel (hrec : RecRel rec env env' T I) (htop : RecTop rec) (x : Ext) (intKey : Bool)
    (disc : String) (inlined : Bool) {ms ms' : List (Key × Ty)} (hms : ∀ k, ORel T (lookupK k ms) (lookupK k ms'))
    {v w : V} (h : v ≈ᵥ w) (hd : v.DistinctKeys) :
    Out.Rel V.PermEq (oneOfUnser rec x env intKey disc inlined ms v)
      (oneOfUnser rec x env' intKey disc inlined ms' w) := by
  rcases h.mapEntries.cases with ⟨h1, h2⟩ | ⟨⟨sh, kvs⟩, ⟨_, kvs'⟩, h1, h2, ⟨⟩, hm⟩
  · exact Out.Rel.of_not_ok (oneOfUnser_nonmap h1) (oneOfUnser_nonmap h2)
  obtain rfl := mapEntries_eq h1
  obtain rfl := mapEntries_eq h2
  unfold oneOfUnser
  simp only [V.mapEntries?]
  refine .ite (fun _ => Out.Rel.cerr_cerr) fun _ => ?_
  · rcases (strKeys_rel hm).cases with ⟨hk, hk'⟩ | ⟨m, m', hk, hk', hmm⟩ <;> simp only [hk, hk']
    · refine Out.Rel.of_not_ok ?_ ?_ <;>
      · intro r
        split
        · simp [Out.cerr]
        · exact bind_ne_ok _ _ (fun _ _ => by simp [Out.cerr]) r
    · obtain ⟨hnd, hdv⟩ := hd.strView hk
      rw [find_isDiscKey disc hk, find_isDiscKey disc hk']
      rcases (lookupS_sMapEq hmm hnd disc).cases with ⟨hl1, hl2⟩ | ⟨d, d', hl1, hl2, hl⟩ <;> rw [hl1, hl2]
      · exact Out.Rel.cerr_cerr
      · simp only [Option.map_some, hl.intInputMapper, hl.stringInputMapper]
        refine Out.Rel.bind (R := Eq) (Out.Rel.rfl' (fun _ => rfl) _) fun key _ ek => ?_
        subst ek
        rcases (hms key).cases with ⟨h1, h2⟩ | ⟨mt, mt', h1, h2, hmt⟩ <;> simp only [h1, h2]
        · exact Out.Rel.cerr_cerr
        · have hdc := clone_distinct hnd hdv inlined disc
          refine (hrec.permEq .U hmt (toStrAny_sMapEq (clone_sMapEq hmm inlined disc)) hdc).bind'
            fun r r' hr1 _ hr => ?_
          exact setDisc_rel hr (htop env mt _ hdc.top r hr1)

theorem runOneOf_rel (hrec : RecRel rec env env' T I) (htop : RecTop rec) (x : Ext) (op : Op) (intKey : Bool)
    (disc : String) (inlined : Bool) {ms ms' : List (Key × Ty)} (hms : ∀ k, ORel T (lookupK k ms) (lookupK k ms'))
    {v w : V} (h : v ≈ᵥ w) (hd : v.DistinctKeys) :
    Out.Rel V.PermEq (runOneOf rec x op env intKey disc inlined ms v)
      (runOneOf rec x op env' intKey disc inlined ms' w) := by
  cases op
  case U => exact oneOfUnser_rel hrec htop x intKey disc inlined hms h hd
  case V =>
    simp only [runOneOf]
    refine h.strView_match hd (fun m m' hmm hnd hdm => ?_) Out.Rel.cerr_cerr
    refine (oneOfSelect_rel hrec intKey disc inlined hms false hmm hnd hdm).bind ?_
    rintro ⟨k, t, c⟩ ⟨_, t', c'⟩ ⟨⟨⟩, ht, hc, hdc⟩
    exact ((hrec.permEq .V ht (toStrAny_sMapEq hc) hdc).addSeg _ _).bind fun _ _ _ => Out.Rel.rfl' V.PermEq.refl _
  case S =>
    simp only [runOneOf]
    refine h.strView_match hd (fun m m' hmm hnd hdm => ?_) Out.Rel.cerr_cerr
    refine (oneOfSelect_rel hrec intKey disc inlined hms false hmm hnd hdm).bind ?_
    rintro ⟨k, t, c⟩ ⟨_, t', c'⟩ ⟨⟨⟩, ht, hc, hdc⟩
    refine (hrec.permEq .S ht (toStrAny_sMapEq hc) hdc).bind fun r r' hr => ?_
    refine hr.strAny_match (fun rk rk' _ hrm => ?_) Out.Rel.panic_panic
    rcases (strKeys_rel hrm).cases with ⟨hk, hk'⟩ | ⟨rm, rm', hk, hk', hrmm⟩ <;> simp only [hk, hk']
    · exact Out.Rel.cerr_cerr
    · rw [hasKey_sMapEq hrmm disc]
      exact Out.Rel.ok_ok.mpr (toStrAny_sMapEq (by split; exact hrmm; exact hrmm.append (SMapEq.refl _)))
  case C =>
    simp only [runOneOf]
    exact h.strView_match hd (fun m m' hmm hnd hdm =>
      (oneOfSelect_rel hrec intKey disc inlined hms true hmm hnd hdm).bind fun _ _ _ =>
        Out.Rel.rfl' V.PermEq.refl _) Out.Rel.cerr_cerr

end kinds

/-- `AnySchema.checkAndConvert` respects `PermEq` (no distinctness needed: it never looks a key up) -/
theorem anyConvert_rel : ∀ (n : Nat) {v w : V}, v ≈ᵥ w → Out.Rel V.PermEq (anyConvert n v) (anyConvert n w)
  | 0, _, _, _ => Out.Rel.fuel_fuel
  | n + 1, v, w, h => by
    have ih : ∀ {a b : V}, a ≈ᵥ b → Out.Rel V.PermEq (anyConvert n a) (anyConvert n b) := anyConvert_rel n
    -- a list or a map, bare or under a named type, is converted by the same branch
    have hlist : ∀ {xs ys : List V}, ListEq xs ys →
        Out.Rel V.PermEq (anyConvert (n + 1) (.list xs)) (anyConvert (n + 1) (.list ys)) := fun hl =>
      (forIdx_rel (R := V.PermEq) (fun _ _ _ hxy => (ih hxy).addSeg _ _) hl 0).bind fun _ _ hy =>
        Out.Rel.ok_ok.mpr (V.permEq_list_of hy)
    have hmap : ∀ (sh : MapShape) {kvs kvs' : List (V × V)}, MapEq kvs kvs' →
        Out.Rel V.PermEq (anyConvert (n + 1) (.map sh kvs)) (anyConvert (n + 1) (.map sh kvs')) := by
      intro sh kvs kvs' hm
      refine Out.Rel.bind (forKV_permRel (R := EntryEq) (S := EntryEq) (fun _ _ hab => ?_) hm) fun es es' hes => ?_
      · exact ((ih hab.1).addSeg _ _).bind fun _ _ hk =>
          ((ih hab.2).addSeg _ _).bind fun _ _ he => Out.Rel.ok_ok.mpr ⟨hk, he⟩
      · rw [dupKey_mapEq hes]
        exact .ite (fun _ => Out.Rel.cerr_cerr) fun _ => Out.Rel.ok_ok.mpr (V.permEq_map_of hes)
    cases h with
    | listNil => exact hlist .nil
    | listCons a b => exact hlist (.cons a (V.permEq_list_iff.mp b))
    | mapNil sh => exact hmap sh .nil
    | @mapCons sh _ _ _ _ _ _ _ a b c => exact hmap sh (V.permEq_map_iff.mp (.mapCons a b c)).2
    | named h' =>
      cases h' with
      | listNil => exact hlist .nil
      | listCons a b => exact hlist (.cons a (V.permEq_list_iff.mp b))
      | mapNil sh => exact hmap sh .nil
      | @mapCons sh _ _ _ _ _ _ _ a b c => exact hmap sh (V.permEq_map_iff.mp (.mapCons a b c)).2
      | named _ => exact Out.Rel.cerr_cerr
      | _ => exact Out.Rel.rfl' V.PermEq.refl _
    | _ => exact Out.Rel.rfl' V.PermEq.refl _

/-- keys a `map[any]any` may have under the any-schema's compatibility check -/
def anyKeyOK (u : V) : Bool := match u with | .int .int64 _ | .str _ => true | _ => false

theorem anyCompat_anyMap_eq (n : Nat) (kvs : List (V × V)) :
    anyCompat (n + 1) (.map ⟨.any, true⟩ kvs) =
      (forKV (fun k e =>
        if anyKeyOK k.under then
          (if kvs.any (fun kv => kindTag kv.1 != kindTag k && anyKeyOK kv.1.under) then .cerr
           else (rewrapC (anyCompat n e)).bind fun _ => .ok (k, e))
        else .cerr) kvs).bind fun _ => done := by
  simp only [anyCompat]
  congr 1
  congr 1
  funext k e
  have : ∀ u : V, ∀ (A B : Out (V × V)), (match u with | .int .int64 _ | .str _ => A | _ => B) = if anyKeyOK u then A else B := by
    intro u A B
    cases u <;> try rfl
    rename_i k _; cases k <;> rfl
  exact this _ _ _

theorem V.PermEq.anyKeyOK_under {v w : V} (h : v ≈ᵥ w) : anyKeyOK v.under = anyKeyOK w.under := by
  cases h with
  | named h' => cases h' <;> rfl
  | _ => rfl

/-- `AnySchema.ValidateCompatibility` on data respects `PermEq` -/
theorem anyCompat_rel : ∀ (n : Nat) {v w : V}, v ≈ᵥ w → Out.Rel V.PermEq (anyCompat n v) (anyCompat n w)
  | 0, _, _, _ => Out.Rel.fuel_fuel
  | n + 1, v, w, h => by
    have ih : ∀ {a b : V}, a ≈ᵥ b → Out.Rel V.PermEq (anyCompat n a) (anyCompat n b) := anyCompat_rel n
    have hdef : ∀ {a b : V}, a ≈ᵥ b → Out.Rel V.PermEq ((anyConvert (n + 1) a).bind fun _ => done)
        ((anyConvert (n + 1) b).bind fun _ => done) :=
      fun hab => (anyConvert_rel (n + 1) hab).bind fun _ _ _ => Out.Rel.rfl' V.PermEq.refl _
    have hlist : ∀ {xs ys : List V}, ListEq xs ys →
        Out.Rel V.PermEq (anyCompat (n + 1) (.list xs)) (anyCompat (n + 1) (.list ys)) := by
      intro xs ys hl
      refine Out.Rel.bind (forIdx_rel (R := V.PermEq) (S := V.PermEq) (fun _ _ _ hxy => (ih hxy).rewrapC) hl 0) fun _ _ _ => ?_
      cases hl with
      | nil => exact Out.Rel.rfl' V.PermEq.refl _
      | @cons a b as bs hab hrest =>
        simp only
        rw [hrest.any_eq (q := fun e => kindTag e != kindTag b) (fun c d h => by rw [h.kindTag, hab.kindTag])]
        exact Out.Rel.rfl' V.PermEq.refl _
    -- `map[string]any`, `map[int64]any`
    have hplain : ∀ {kvs kvs' : List (V × V)}, MapEq kvs kvs' → Out.Rel V.PermEq
        ((forKV (fun k e => (rewrapC (anyCompat n e)).bind fun _ => .ok (k, e)) kvs).bind fun _ => done)
        ((forKV (fun k e => (rewrapC (anyCompat n e)).bind fun _ => .ok (k, e)) kvs').bind fun _ => done) := by
      intro kvs kvs' hm
      refine Out.Rel.bind (forKV_permRel (R := EntryEq) (S := EntryEq) ?_ hm) fun _ _ _ => Out.Rel.rfl' V.PermEq.refl _
      exact fun _ _ hab => (ih hab.2).rewrapC.bind fun _ _ _ => Out.Rel.ok_ok.mpr hab
    have hmap : ∀ (sh : MapShape) {kvs kvs' : List (V × V)}, MapEq kvs kvs' →
        Out.Rel V.PermEq (anyCompat (n + 1) (.map sh kvs)) (anyCompat (n + 1) (.map sh kvs')) := by
      intro sh kvs kvs' hm
      obtain ⟨key, va⟩ := sh
      cases va
      · cases key <;> exact hdef (V.permEq_map_of hm)
      · cases key
        · -- map[any]any
          rw [anyCompat_anyMap_eq, anyCompat_anyMap_eq]
          refine Out.Rel.bind (forKV_permRel (R := EntryEq) (S := EntryEq) ?_ hm) fun _ _ _ => Out.Rel.rfl' V.PermEq.refl _
          intro a b hab
          rw [hab.1.anyKeyOK_under]
          rw [hm.any_eq (q := fun kv => kindTag kv.1 != kindTag b.1 && anyKeyOK kv.1.under)
            (fun c d hcd => by rw [hcd.1.kindTag, hab.1.kindTag, hcd.1.anyKeyOK_under])]
          split
          · split
            · exact Out.Rel.cerr_cerr
            · exact (ih hab.2).rewrapC.bind fun _ _ _ => Out.Rel.ok_ok.mpr hab
          · exact Out.Rel.cerr_cerr
        · exact hplain hm
        · exact hplain hm
        · exact hdef (V.permEq_map_of hm)
    cases h with
    | listNil => exact hlist .nil
    | listCons a b => exact hlist (.cons a (V.permEq_list_iff.mp b))
    | mapNil sh => exact hmap sh .nil
    | mapCons a b c => exact hmap _ (V.permEq_map_iff.mp (.mapCons a b c)).2
    | named h' => exact hdef (.named h')
    | _ => exact Out.Rel.rfl' V.PermEq.refl _

theorem runAny_rel (op : Op) (n : Nat) {v w : V} (h : v ≈ᵥ w) : Out.Rel V.PermEq (runAny op n v) (runAny op n w) := by
  cases op <;> simp only [runAny]
  · exact anyConvert_rel n h
  · exact (anyConvert_rel n h).bind fun _ _ _ => Out.Rel.rfl' V.PermEq.refl _
  · exact anyConvert_rel n h
  · exact anyCompat_rel n h

/-! ### an unserialized `map[string]any` has distinct keys -/

theorem strKeysOf_sublist_keys : ∀ (kvs : List (V × V)),
    ((strKeysOf kvs).map Key.s).Sublist (kvs.filterMap fun kv => kv.1.key?)
  | [] => .slnil
  | (k, v) :: rest => by
    have ih := strKeysOf_sublist_keys rest
    cases k with
    | str s => exact ih.cons_cons _
    | _ =>
      simp only [strKeysOf, List.filterMap_cons, V.strKey?]
      split
      · exact ih
      · exact ih.cons _

theorem V.topDistinct_of_dupKey {sh : MapShape} {kvs : List (V × V)} (h : dupKey kvs = false) :
    (V.map sh kvs).TopDistinct :=
  (((dupKey_false_iff kvs).mp h).sublist (strKeysOf_sublist_keys kvs)).of_map Key.s fun _ _ hne e => hne (congrArg _ e)

theorem applyDefaults_nodup : ∀ (props : List (String × PropT)) {m : List (String × V)}, (m.map Prod.fst).Nodup →
    Out.OnOk (fun m1 => (m1.map Prod.fst).Nodup) (applyDefaults props m)
  | [], _, hnd => .ok hnd
  | (id, p) :: rest, m, hnd => by
    simp only [applyDefaults]
    refine .ite (fun _ => applyDefaults_nodup rest hnd) fun hk => ?_
    cases p.defaultV with
    | none => exact applyDefaults_nodup rest hnd
    | some o =>
      cases o with
      | none => exact .panic
      | some d =>
        refine applyDefaults_nodup rest ?_
        rw [List.map_append]
        exact (List.perm_append_singleton id _).nodup_iff.mpr
          (List.nodup_cons.mpr ⟨fun hm => hk ((hasKey_iff_mem id m).mpr hm), hnd⟩)

theorem objRaw_keys_nodup {rec : Rec} {env : Env} {props : List (String × PropT)} {v : V} (htd : v.TopDistinct) :
    Out.OnOk (fun m => (m.map Prod.fst).Nodup) (objRaw rec env props v) := by
  unfold objRaw
  split
  · split
    · exact .ite (fun _ => .err) fun _ => .bind fun _ _ => .ok (List.pairwise_singleton _ _)
    · exact .err
  · rename_i sh kvs hme
    rw [mapEntries_eq hme] at htd
    split
    · exact .err
    · rename_i skvs hsk
      refine .ite (fun _ => .err) fun _ => .bind fun m1 h1 m h2 => ?_
      rw [allSV_keys (forSV_ok_iff.mp h2)]
      exact applyDefaults_nodup props (by rw [← strKeysOf_of_strKeys hsk]; exact htd) m1 h1

theorem V.topDistinct_nonmap {v : V} (h : v.mapEntries? = none) : v.TopDistinct := by
  cases v <;> simp_all [V.mapEntries?, V.TopDistinct]

theorem oneOfUnser_top {rec : Rec} (htop : RecTop rec) {x : Ext} {env : Env} {intKey : Bool} {disc : String}
    {inlined : Bool} {members : List (Key × Ty)} {v : V} (htd : v.TopDistinct) :
    Out.OnOk V.TopDistinct (oneOfUnser rec x env intKey disc inlined members v) := by
  unfold oneOfUnser
  split
  · exact .err
  · split
    · exact .err
    · rename_i sh kvs hme
      rw [mapEntries_eq hme] at htd
      refine .ite (fun _ => .err) fun _ => ?_
      split
      · exact .err
      · refine .bind fun key _ => ?_
        split
        · exact .err
        · rename_i m hsk
          have hnd : (m.map Prod.fst).Nodup := by rw [← strKeysOf_of_strKeys hsk]; exact htd
          split
          · exact .err
          · rename_i mt _
            have hclone : (toStrAny (if inlined then m else eraseKey disc m)).TopDistinct :=
              V.topDistinct_toStrAny.mpr (by cases inlined; exact eraseKey_keys_nodup hnd disc; exact hnd)
            refine .bind fun r0 hr0 => ?_
            have hr0t : r0.TopDistinct := htop env mt _ hclone r0 hr0
            split
            · split
              · rename_i rm hrk
                exact .ok (V.topDistinct_toStrAny.mpr
                  (setKey_keys_nodup (by rw [← strKeysOf_of_strKeys hrk]; exact hr0t) disc _))
              · exact .err
            · exact .ok hr0t

theorem anyConvert_top : ∀ (n : Nat) (v : V), Out.OnOk V.TopDistinct (anyConvert n v)
  | 0, _ => .fuel
  | n + 1, v => by
    unfold anyConvert
    -- `v.under` is an int, a float, a string, a bool, a list, a byte string, a map, or none of these
    split
    · refine .ite (fun _ => .ok trivial) fun _ => ?_
      split
      · exact .err
      · exact .bind fun _ _ => .ok trivial
    · split
      · exact .ok trivial
      · split
        · exact .err
        · exact .ok trivial
    · exact .ok trivial
    · exact .ok trivial
    · exact .bind fun _ _ => .ok trivial
    · exact .bind fun _ _ => .ok trivial
    · exact .bind fun _ _ => .ite (fun _ => .err) fun hdup => .ok (V.topDistinct_of_dupKey (by simpa using hdup))
    · exact .err

theorem run_topDistinct (x : Ext) : ∀ (n : Nat), RecTop (run x n)
  | 0 => fun _ _ _ _ => .fuel
  | n + 1 => by
    have ih := run_topDistinct x n
    intro env t v htd
    cases t
    case int a b u => intro r h; obtain ⟨_, _, _, rfl⟩ := (C02_int_unser_iff ..).mp h; trivial
    case float a b u => intro r h; obtain ⟨_, _, _, rfl⟩ := (C02_float_unser_iff ..).mp h; trivial
    case str a b p => intro r h; obtain ⟨_, _, _, rfl⟩ := (C02_str_unser_iff ..).mp h; trivial
    case bool => intro r h; obtain ⟨_, _, rfl⟩ := (C02_bool_unser_iff ..).mp h; trivial
    case pattern => intro r h; obtain ⟨_, _, _, rfl⟩ := (C02_pattern_unser_iff ..).mp h; trivial
    case enumInt vals u => intro r h; obtain ⟨_, _, _, rfl⟩ := (C02_enumInt_unser_iff ..).mp h; trivial
    case enumStr vals => intro r h; obtain ⟨_, _, _, rfl⟩ := (C02_enumStr_unser_iff ..).mp h; trivial
    case list item a b => intro r h; obtain ⟨_, _, _, _, _, rfl⟩ := (C02_list_unser_iff ..).mp h; trivial
    case map kt vt a b =>
      intro r h
      obtain ⟨_, _, _, _, _, _, hdup, rfl⟩ := (C02_map_unser_iff ..).mp h
      exact V.topDistinct_of_dupKey hdup
    case obj id props =>
      simp only [run, runObj]
      exact .bind fun m hm => .bind fun _ _ => .ok (V.topDistinct_toStrAny.mpr (objRaw_keys_nodup htd m hm))
    case oneOf ik disc inl members =>
      simp only [run, runOneOf]
      exact oneOfUnser_top ih htd
    case ref id =>
      simp only [run]
      split
      · exact .panic
      · exact ih _ _ _ htd
    case scope objs root =>
      simp only [run]
      split
      · exact .panic
      · exact ih _ _ _ htd
    case any =>
      simp only [run, runAny]
      exact anyConvert_top _ _

/-- the same schema and environment on both sides: the defaults need no assumption -/
theorem RecRel.of_value {rec : Rec}
    (h : ∀ op env t v w, v ≈ᵥ w → v.DistinctKeys → Out.Rel V.PermEq (rec op env t v) (rec op env t w)) (env : Env) :
    RecRel rec env env Eq InRel where
  call op t t' v w ht hvw := by
    cases ht
    rcases hvw with rfl | hvw
    · exact Out.Rel.rfl' V.PermEq.refl _
    · exact h op env t v w hvw.1 hvw.2
  input h hd := .inr ⟨h, hd⟩

theorem PropsAgree.refl (props : List (String × PropT)) : PropsAgree Eq InRel props props where
  lookup _ := ORel.rfl' (fun _ => ⟨rfl, rfl⟩) _
  length_eq := rfl
  defaults := applyDefaults_sRel props fun _ _ _ _ => .inl rfl
  rules _ := Out.Rel.same _
  required _ := rfl

/-- **Deep order independence.** On a genuine Go value (`DistinctKeys`) and any reordering of it
    (`PermEq`), every schema operation either succeeds on both with results equal up to order, or
    fails on both. -/
theorem run_permEq (x : Ext) (n : Nat) : ∀ (op : Op) (env : Env) (t : Ty) (v w : V), v ≈ᵥ w → v.DistinctKeys →
    Out.Rel V.PermEq (run x n op env t v) (run x n op env t w) := by
  induction n with
  | zero => intros; exact Out.Rel.fuel_fuel
  | succ n run_permEq =>
    intro op env t v w h hd
    have ih := RecRel.of_value run_permEq
    cases t <;> simp only [run]
    case int a b u => exact Out.Rel.of_eq V.PermEq.refl (h.runInt op a b u)
    case float a b u => exact Out.Rel.of_eq V.PermEq.refl (h.runFloat x op a b u)
    case str a b p => exact Out.Rel.of_eq V.PermEq.refl (h.runStr x op a b p)
    case bool => exact Out.Rel.of_eq V.PermEq.refl (h.runBool op)
    case pattern => exact Out.Rel.of_eq V.PermEq.refl (h.runPattern x op)
    case enumInt vals u => exact Out.Rel.of_eq V.PermEq.refl (h.runEnumInt op vals u)
    case enumStr vals => exact Out.Rel.of_eq V.PermEq.refl (h.runEnumStr x op vals)
    case list item a b => exact runList_rel (ih env) op rfl a b h hd
    case map kt vt a b => exact runMap_rel (ih env) op rfl rfl rfl rfl a b h hd
    case obj id props => exact runObj_rel (ih env) (.refl props) rfl op h hd
    case oneOf ik disc inl members =>
      exact runOneOf_rel (ih env) (run_topDistinct x n) x op ik disc inl (fun _ => ORel.rfl' (fun _ => rfl) _) h hd
    case ref id =>
      cases lookupS id env with
      | none => exact Out.Rel.panic_panic
      | some o => exact run_permEq op env o v w h hd
    case scope objs root =>
      cases lookupS root objs with
      | none => exact Out.Rel.panic_panic
      | some o => exact run_permEq op objs o v w h hd
    case any => exact runAny_rel op (n + 1) h

end Arca
