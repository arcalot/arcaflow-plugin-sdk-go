import ArcaModel.Model.Value
/-
  Decidable equality of Go values, for the kernel evaluation of closed equations between values
  (the result of a concrete `run`): `V` is nested through `List`, for which `deriving DecidableEq`
  has no handler, so a Boolean comparison by structural recursion is proved equivalent to `=`.
  The instances are scoped: `open ValueDecEq` where such an equation is checked by `decide +kernel`.
-/
namespace Arca

namespace V

mutual
def beq : V → V → Bool
  | .nil, .nil => true
  | .bool a, .bool b => a == b
  | .int k n, .int k' n' => k == k' && n == n'
  | .float k n, .float k' n' => k == k' && n == n'
  | .str s, .str s' => s == s'
  | .bytes b, .bytes b' => b == b'
  | .list xs, .list ys => beqList xs ys
  | .map sh kvs, .map sh' kvs' => sh == sh' && beqKvs kvs kvs'
  | .named v, .named v' => beq v v'
  | .regex s, .regex s' => s == s'
  | .opaque, .opaque => true
  | _, _ => false
def beqList : List V → List V → Bool
  | [], [] => true
  | x :: xs, y :: ys => beq x y && beqList xs ys
  | _, _ => false
def beqKvs : List (V × V) → List (V × V) → Bool
  | [], [] => true
  | (k, x) :: xs, (k', y) :: ys => beq k k' && beq x y && beqKvs xs ys
  | _, _ => false
end

mutual
theorem beq_refl : ∀ a : V, beq a a = true
  | .nil | .opaque => rfl
  | .bool _ | .str _ | .bytes _ | .regex _ => by simp [beq]
  | .int _ _ | .float _ _ => by simp [beq]
  | .list xs => by rw [beq]; exact beqList_refl xs
  | .map _ kvs => by simp [beq, beqKvs_refl kvs]
  | .named v => by rw [beq]; exact beq_refl v
theorem beqList_refl : ∀ xs : List V, beqList xs xs = true
  | [] => rfl
  | x :: xs => by simp [beqList, beq_refl x, beqList_refl xs]
theorem beqKvs_refl : ∀ kvs : List (V × V), beqKvs kvs kvs = true
  | [] => rfl
  | (k, x) :: kvs => by simp [beqKvs, beq_refl k, beq_refl x, beqKvs_refl kvs]
end

mutual
theorem eq_of_beq : ∀ a b : V, beq a b = true → a = b
  | .nil, b, h => by cases b <;> first | rfl | cases h
  | .opaque, b, h => by cases b <;> first | rfl | cases h
  | .bool _, b, h => by cases b <;> first | cases h | rw [LawfulBEq.eq_of_beq h]
  | .str _, b, h => by cases b <;> first | cases h | rw [LawfulBEq.eq_of_beq h]
  | .bytes _, b, h => by cases b <;> first | cases h | rw [LawfulBEq.eq_of_beq h]
  | .regex _, b, h => by cases b <;> first | cases h | rw [LawfulBEq.eq_of_beq h]
  | .int _ _, b, h => by
    cases b <;> first | cases h | (rw [beq, Bool.and_eq_true] at h; rw [LawfulBEq.eq_of_beq h.1, LawfulBEq.eq_of_beq h.2])
  | .float _ _, b, h => by
    cases b <;> first | cases h | (rw [beq, Bool.and_eq_true] at h; rw [LawfulBEq.eq_of_beq h.1, LawfulBEq.eq_of_beq h.2])
  | .list xs, b, h => by cases b <;> first | cases h | rw [eq_of_beqList xs _ h]
  | .map _ kvs, b, h => by
    cases b <;> first | cases h | (rw [beq, Bool.and_eq_true] at h; rw [LawfulBEq.eq_of_beq h.1, eq_of_beqKvs kvs _ h.2])
  | .named v, b, h => by cases b <;> first | cases h | rw [eq_of_beq v _ h]
theorem eq_of_beqList : ∀ xs ys : List V, beqList xs ys = true → xs = ys
  | [], [], _ => rfl
  | [], _ :: _, h | _ :: _, [], h => by cases h
  | x :: xs, y :: ys, h => by
    simp [beqList] at h
    rw [eq_of_beq x y h.1, eq_of_beqList xs ys h.2]
theorem eq_of_beqKvs : ∀ xs ys : List (V × V), beqKvs xs ys = true → xs = ys
  | [], [], _ => rfl
  | [], _ :: _, h | _ :: _, [], h => by cases h
  | (k, x) :: xs, (k', y) :: ys, h => by
    simp [beqKvs] at h
    rw [eq_of_beq k k' h.1.1, eq_of_beq x y h.1.2, eq_of_beqKvs xs ys h.2]
end

theorem ne_of_beq {a b : V} (h : beq a b = false) : a ≠ b :=
  fun e => by rw [e, beq_refl] at h; cases h

end V

namespace ValueDecEq

scoped instance : DecidableEq V := fun a b =>
  if h : V.beq a b = true then isTrue (V.eq_of_beq a b h)
  else isFalse fun e => h (e ▸ V.beq_refl a)

scoped instance {α} [DecidableEq α] : DecidableEq (Out α)
  | .ok a, .ok b => if h : a = b then isTrue (h ▸ rfl) else isFalse fun e => h (Out.ok.inj e)
  | .err a, .err b => if h : a = b then isTrue (h ▸ rfl) else isFalse fun e => h (Out.err.inj e)
  | .panic, .panic | .fuel, .fuel => isTrue rfl
  | .ok _, .err _ | .ok _, .panic | .ok _, .fuel | .err _, .ok _ | .err _, .panic | .err _, .fuel
  | .panic, .ok _ | .panic, .err _ | .panic, .fuel | .fuel, .ok _ | .fuel, .err _ | .fuel, .panic =>
    isFalse nofun

end ValueDecEq

end Arca
