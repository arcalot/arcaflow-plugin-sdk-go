import ArcaModel.Model.Compat
import ArcaModel.Lemmas.Terminates
/-
  Schema-mode ValidateCompatibility: what `compatS` does for each kind of consumer, and that it
  terminates whenever the CONSUMER's reference graph is acyclic, whatever the producer is: every
  recursive call of `compatS` descends in the consumer schema.
-/
namespace Arca
open Out

section
variable (n : Nat) (es eo : Env) (o : Ty)

theorem compatS_int (a b : Option Int) (u : Option Units) : compatS (n + 1) es eo (.int a b u) o =
    match o with
    | .enumInt _ _ => .ok ()
    | .int omin omax _ => if rangeDisjoint a b omin omax then .cerr else .ok ()
    | _ => .cerr := rfl

theorem compatS_float (a b : Option Nat) (u : Option Units) : compatS (n + 1) es eo (.float a b u) o =
    match o with
    | .float omin omax _ => if fRangeDisjoint a b omin omax then .cerr else .ok ()
    | _ => .cerr := rfl

theorem compatS_str (a b : Option Int) (p : Option String) : compatS (n + 1) es eo (.str a b p) o =
    match o with
    | .enumStr _ => .ok ()
    | .str omin omax _ => if rangeDisjoint a b omin omax then .cerr else .ok ()
    | _ => .cerr := rfl

theorem compatS_bool : compatS (n + 1) es eo .bool o = match o with | .bool => .ok () | _ => .cerr := by
  rfl

theorem compatS_pattern : compatS (n + 1) es eo .pattern o = match o with | .pattern => .ok () | _ => .cerr := by
  rfl

theorem compatS_enumInt (vals : List Int) (u : Option Units) : compatS (n + 1) es eo (.enumInt vals u) o =
    match o with
    | .enumInt ovals _ => if ovals.all vals.contains then .ok () else .cerr
    | _ => .cerr := rfl

theorem compatS_enumStr (vals : List String) : compatS (n + 1) es eo (.enumStr vals) o =
    match o with
    | .enumStr ovals => if ovals.all vals.contains then .ok () else .cerr
    | _ => .cerr := rfl

theorem compatS_list (item : Ty) (a b : Option Int) : compatS (n + 1) es eo (.list item a b) o =
    match o with
    | .list oitem omin omax => if rangeDisjoint a b omin omax then .cerr else compatS n es eo item oitem
    | _ => .cerr := rfl

theorem compatS_map (sk sv : Ty) (a b : Option Int) : compatS (n + 1) es eo (.map sk sv a b) o =
    match o with
    | .map k' v' omin omax =>
      (rewrapC (compatS n es eo sk k')).bind fun _ =>
        (rewrapC (compatS n es eo sv v')).bind fun _ =>
          if rangeDisjoint a b omin omax then .cerr else .ok ()
    | _ => .cerr := rfl

theorem compatS_obj (sid : String) (sprops : List (String × PropT)) : compatS (n + 1) es eo (.obj sid sprops) o =
    match objOf eo o with
    | none => .cerr
    | some none => .panic
    | some (some (oid, oprops, eo')) =>
      if sid != oid then .cerr else
      (forAll (objPropCompat (fun a b => compatS n es eo' a b) sprops) oprops).bind fun _ =>
        if sprops.any (fun kp => kp.2.required && !(hasKey kp.1 oprops)) then .cerr else .ok () := rfl

theorem compatS_oneOf (sik : Bool) (sdisc : String) (inl : Bool) (smem : List (Key × Ty)) :
    compatS (n + 1) es eo (.oneOf sik sdisc inl smem) o =
    match o with
    | .oneOf oik odisc _ omem =>
      if sik != oik then .cerr else
      if sdisc != odisc then .cerr else
      forAll (oneOfMemberCompat (fun a b => compatS n es eo a b) omem) smem
    | _ => .cerr := rfl

theorem compatS_ref (id : String) : compatS (n + 1) es eo (.ref id) o =
    match lookupS id es with
    | none => .panic
    | some st =>
      match o with
      | .ref oid => match lookupS oid eo with
        | some ot => compatS n es eo st ot
        | none => .panic
      | _ => compatS n es eo st o := rfl

theorem compatS_scope (sobjs : Env) (sroot : String) : compatS (n + 1) es eo (.scope sobjs sroot) o =
    match lookupS sroot sobjs with
    | none => .panic
    | some st =>
      match o with
      | .scope oobjs oroot => match lookupS oroot oobjs with
        | some ot => compatS n sobjs oobjs st ot
        | none => .panic
      | _ => compatS n sobjs eo st o := rfl

theorem compatS_any : compatS (n + 1) es eo .any o =
    match o with
    | .pattern => .cerr
    | .ref oid => match lookupS oid eo with
      | some _ => .ok ()
      | none => .panic
    | .scope oobjs oroot => match lookupS oroot oobjs with
      | some _ => .ok ()
      | none => .panic
    | _ => .ok () := rfl

end

theorem forAll_cons {α} (f : α → Out Unit) (a : α) (rest : List α) :
    forAll f (a :: rest) = (f a).bind fun _ => forAll f rest := by
  rw [forAll]
  cases f a <;> rfl

theorem avoids_forAll {α} {s : Stuck} {f : α → Out Unit} : ∀ {xs : List α}, (∀ a, a ∈ xs → Avoids s (f a)) →
    Avoids s (forAll f xs)
  | [], _ => avoids_ok s _
  | a :: rest, h => by
    rw [forAll_cons]
    exact avoids_bind (h a (List.mem_cons_self ..)) fun _ _ => avoids_forAll fun b hb => h b (List.mem_cons_of_mem _ hb)

theorem forAll_ok_iff {α} {f : α → Out Unit} : ∀ {xs : List α}, forAll f xs = .ok () ↔ ∀ a, a ∈ xs → f a = .ok ()
  | [] => by simp [forAll]
  | a :: rest => by
    rw [forAll_cons, List.forall_mem_cons, ← forAll_ok_iff]
    cases f a <;> simp [Out.bind]

theorem compatS_halts : ∀ (n : Nat) {es : Env} {s : Ty} {d : Nat}, FinDepth es s d → d < n →
    ∀ (eo : Env) (o : Ty), Halts (compatS n es eo s o)
  | 0, _, _, _, _, hn, _, _ => absurd hn (Nat.not_lt_zero _)
  | n + 1, es, s, d, h, hn, eo, o => by
    have ih : ∀ {es s d'}, FinDepth es s d' → d' < d → ∀ eo o, Avoids .fuel (compatS n es eo s o) :=
      fun h hlt => compatS_halts n h (Nat.lt_of_lt_of_le hlt (Nat.le_of_lt_succ hn))
    show Avoids .fuel _
    cases h with
    | int => rw [compatS_int]; (repeat' split) <;> simp
    | float => rw [compatS_float]; (repeat' split) <;> simp
    | str => rw [compatS_str]; (repeat' split) <;> simp
    | bool => rw [compatS_bool]; split <;> simp
    | pattern => rw [compatS_pattern]; split <;> simp
    | enumInt => rw [compatS_enumInt]; (repeat' split) <;> simp
    | enumStr => rw [compatS_enumStr]; (repeat' split) <;> simp
    | any => rw [compatS_any]; (repeat' split) <;> simp
    | list hi hlt =>
      rw [compatS_list]
      split
      · simp [ih hi hlt]
      · simp
    | map hk hv hlt =>
      rw [compatS_map]
      split
      · simp [ih hk hlt, ih hv hlt]
      · simp
    | obj hp _ hlt =>
      rw [compatS_obj]
      split
      · simp
      · simp
      · refine avoids_ite.2 ⟨fun _ => avoids_cerr _, fun _ => avoids_bind (avoids_forAll fun kp _ => ?_) fun _ _ => by simp⟩
        unfold objPropCompat
        split
        · simp
        · rename_i sp hsp
          exact avoids_addSeg _ (ih (hp (kp.1, sp) (lookupS_mem hsp)) (by omega) _ _)
    | oneOf hm hlt =>
      rw [compatS_oneOf]
      split
      · refine avoids_ite.2 ⟨fun _ => avoids_cerr _, fun _ => avoids_ite.2 ⟨fun _ => avoids_cerr _, fun _ =>
          avoids_forAll fun km hkm => ?_⟩⟩
        unfold oneOfMemberCompat
        split
        · simp
        · exact avoids_rewrapC (ih (hm km hkm) hlt _ _)
      · simp
    | ref hl h' hlt =>
      rw [compatS_ref]
      simp only [hl]
      -- `o` is a reference that resolves, one that does not (a panic, which halts), or no reference
      (repeat' split) <;> first | exact ih h' hlt _ _ | simp
    | refNone hl => rw [compatS_ref]; simp [hl]
    | scope hl h' hlt =>
      rw [compatS_scope]
      simp only [hl]
      -- `o` is a scope whose root resolves, one whose root does not, or no scope
      (repeat' split) <;> first | exact ih h' hlt _ _ | simp
    | scopeNone hl => rw [compatS_scope]; simp [hl]

end Arca
