import ArcaModel.Lemmas.Units
/-
  A plain decimal integer string means the same number with and without a units definition:
  whenever `strconv.ParseInt(s, 10, 64)` and `UnitsDefinition.ParseInt(s)` both succeed they agree.
  (A sign makes the units parser fail; an unsigned digit string is matched by the base group with
  every multiplier group empty.)  Used by the round trip of int-keyed one-ofs whose inlined
  discriminator property carries units.
-/
namespace Arca
namespace UnitsPlain

/-- what `strconv.ParseInt` accepts: a digit string, possibly after one sign -/
theorem parseInt10_some {s : String} {n : Int} (h : parseInt10 s = some n) :
    (∃ c t, s.toList = c :: t ∧ (c = '-' ∨ c = '+') ∧ t ≠ [] ∧ AllDigits t) ∨
      (s.toList ≠ [] ∧ AllDigits s.toList) := by
  unfold parseInt10 at h
  dsimp only at h
  split at h
  · next v hv =>
    split at hv
    · next cs hs =>
      cases hr : readNat cs with
      | none => rw [hr] at hv; cases hv
      | some m => exact .inl ⟨'-', cs, hs, .inl rfl, (readNat_eq_some.mp hr).1, (readNat_eq_some.mp hr).2.1⟩
    · next cs hs =>
      cases hr : readNat cs with
      | none => rw [hr] at hv; cases hv
      | some m => exact .inl ⟨'+', cs, hs, .inr rfl, (readNat_eq_some.mp hr).1, (readNat_eq_some.mp hr).2.1⟩
    · cases hr : readNat s.toList with
      | none => rw [hr] at hv; cases hv
      | some m => exact .inr ⟨(readNat_eq_some.mp hr).1, (readNat_eq_some.mp hr).2.1⟩
  · cases h

theorem trimSpace_id {cs : List Char} (h1 : NoUniHead cs) (h2 : LastOK cs) : trimSpace cs = cs := by
  rw [trimSpace_eq, ltrim, h1.dropWhile, rtrim_of_lastOK h2]

theorem captures_signed (u : Units) {s : String} {c : Char} {t : List Char} (hs : s.toList = c :: t)
    (hc : c = '-' ∨ c = '+') (hne : t ≠ []) (hD : AllDigits t) : u.captures s = none := by
  have hcd : isDigit c = false ∧ isReWS c = false ∧ isUniSpace c = false := by
    rcases hc with rfl | rfl <;> decide
  have hl : LastOK (c :: t) := by
    rw [lastOK_iff, List.reverse_cons]
    exact (lastOK_iff.mp (lastOK_digits hD)).append_of_ne_nil
      (fun e => hne (List.reverse_eq_nil_iff.mp e)) _
  rw [Units.captures, hs, trimSpace_id (cs := c :: t) hcd.2.2 hl,
    skipWS_of_noWSHead (cs := c :: t) hcd.2.1, matchGroups_nondigit _ _ c t hcd.1 hcd.2.1]
  rfl

theorem matchBase_digits (names : List String) {ds : List Char} (hne : ds ≠ [])
    (hD : AllDigits ds) : matchBase names ds = some (String.ofList ds) := by
  have he : ds.isEmpty = false := List.isEmpty_eq_false_iff.mpr hne
  have ht := takeWhile_digits_append (r := []) hD trivial
  have hd := dropWhile_digits_append (r := []) hD trivial
  rw [List.append_nil] at ht hd
  rw [matchBase_eq, skipWS_of_noWSHead hD.digitHead.noWS, he, ht, hd]
  refine firstSome_countsDown_first (List.length_pos_iff.mpr hne) _ ?_
  rw [baseSplit, List.take_length, List.drop_length]
  rfl

theorem matchGroups_digits (base : List String) {ds : List Char} (hne : ds ≠ [])
    (hD : AllDigits ds) (gs : List (List String)) :
    matchGroups gs base ds = some (gs.map (fun _ => ""), String.ofList ds) := by
  induction gs with
  | nil => rw [matchGroups, matchBase_digits base hne hD]; rfl
  | cons names gs ih =>
    exact matchGroups_cons_skip names hD.digitHead.noWS ih

theorem captures_unsigned (u : Units) {s : String} (hne : s.toList ≠ []) (hD : AllDigits s.toList) :
    u.captures s = some (((sortDesc u.mults).map (·.2.all)).map (fun _ => ""), s) := by
  have hh := hD.digitHead
  rw [captures_eq_some,
    trimSpace_id (hh.imp fun _ => isDigit_not_uni) (lastOK_digits hD),
    skipWS_of_noWSHead hh.noWS, matchGroups_digits _ hne hD, String.ofList_toList]
  exact ⟨Bool.eq_false_iff.mpr fun h => hne (List.isEmpty_iff.mp h), rfl⟩

theorem parseGo_empties {α} (gs : List α) (ms : List Int) (acc : Int) :
    Units.parseInt.go (gs.map fun _ => "") ms acc = some acc := by
  induction gs generalizing ms with
  | nil => rfl
  | cons _ gs ih =>
    cases ms with
    | nil => rfl
    | cons m ms => rw [List.map_cons, go_cons]; exact ih ms

/-- whenever the plain and the units parser both accept a string they yield the same integer -/
theorem unitsParseInt_plain (u : Units) (s : String) (n k : Int)
    (hp : parseInt10 s = some n) (hu : u.parseInt s = some k) : k = n := by
  rw [parseInt_eq] at hu
  rcases parseInt10_some hp with ⟨c, t, hs, hc, hne, hD⟩ | ⟨hne, hD⟩
  · rw [captures_signed u hs hc hne hD] at hu
    cases hu
  · have he : s.isEmpty = false :=
      Bool.eq_false_iff.mpr fun h => hne ((isEmpty_iff_toList s).mp h)
    rw [captures_unsigned u hne hD] at hu
    dsimp only at hu
    rw [parseGo_empties] at hu
    dsimp only at hu
    rw [baseStage_noDot _ (no_dot_of_digits hD), capStep, he, hp] at hu
    obtain ⟨rfl, _⟩ := accInt_some hu
    rw [Int.zero_add, Int.mul_one]

end UnitsPlain
end Arca
