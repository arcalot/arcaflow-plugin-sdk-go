import ArcaModel.Lemmas.Assoc
/-
  Nesting depth of a Go value, and how it relates the value a schema is given to the values it
  hands to its sub-schemas: list elements, map keys and values are strictly shallower; what a
  one-of hands to the selected member is no deeper.
-/
namespace Arca

mutual
/-- nesting depth of a Go value: scalars 0, a container one more than its deepest element -/
def V.depth : V → Nat
  | .list xs => V.depthList xs + 1
  | .map _ kvs => V.depthKVs kvs + 1
  | .named v => v.depth + 1
  | .bytes _ => 1  -- `sliceElems?` hands out the bytes as elements: `depth_sliceElems`
  | _ => 0
termination_by structural v => v
def V.depthList : List V → Nat
  | [] => 0
  | x :: xs => max x.depth (V.depthList xs)
termination_by structural xs => xs
def V.depthKVs : List (V × V) → Nat
  | [] => 0
  | (k, v) :: rest => max (max k.depth v.depth) (V.depthKVs rest)
termination_by structural kvs => kvs
end

theorem depthList_le {xs : List V} {d : Nat} : V.depthList xs ≤ d ↔ ∀ x, x ∈ xs → x.depth ≤ d := by
  induction xs with
  | nil => simp [V.depthList]
  | cons a as ih => rw [List.forall_mem_cons, ← ih, V.depthList, Nat.max_le]

theorem depthKVs_le {kvs : List (V × V)} {d : Nat} :
    V.depthKVs kvs ≤ d ↔ ∀ kv, kv ∈ kvs → kv.1.depth ≤ d ∧ kv.2.depth ≤ d := by
  induction kvs with
  | nil => simp [V.depthKVs]
  | cons a as ih => rw [List.forall_mem_cons, ← ih, V.depthKVs, Nat.max_le, Nat.max_le]

theorem depthList_mem {xs : List V} {e : V} (h : e ∈ xs) : e.depth ≤ V.depthList xs :=
  depthList_le.1 (Nat.le_refl _) e h

theorem depthKVs_mem {kvs : List (V × V)} {k e : V} (h : (k, e) ∈ kvs) :
    k.depth ≤ V.depthKVs kvs ∧ e.depth ≤ V.depthKVs kvs :=
  depthKVs_le.1 (Nat.le_refl _) (k, e) h

theorem depth_sliceElems {v : V} {xs : List V} (h : v.sliceElems? = some xs) {e : V} (he : e ∈ xs) :
    e.depth + 1 ≤ v.depth := by
  cases v <;> simp only [V.sliceElems?, Option.some.injEq, reduceCtorEq] at h
  · subst h
    obtain ⟨n, _, rfl⟩ := List.mem_map.mp he
    simp [V.depth]
  · subst h
    have := depthList_mem he
    simp only [V.depth]; omega

theorem depth_mapEntries {v : V} {sh : MapShape} {kvs : List (V × V)} (h : v.mapEntries? = some (sh, kvs))
    {k e : V} (he : (k, e) ∈ kvs) : k.depth + 1 ≤ v.depth ∧ e.depth + 1 ≤ v.depth := by
  cases v <;> simp only [V.mapEntries?, Option.some.injEq, Prod.mk.injEq, reduceCtorEq] at h
  obtain ⟨rfl, rfl⟩ := h
  have := depthKVs_mem he
  simp only [V.depth]; omega

theorem depth_under (v : V) : v.under.depth ≤ v.depth := by
  cases v <;> simp [V.under, V.depth]

theorem depth_toStrAny_le {b : Nat} : ∀ {m : List (String × V)}, (∀ k e, (k, e) ∈ m → e.depth ≤ b) →
    (toStrAny m).depth ≤ b + 1
  | [], _ => by simp [toStrAny, V.depth, V.depthKVs]
  | (k, e) :: rest, h => by
    have h1 := h k e (List.mem_cons_self ..)
    have h2 := depth_toStrAny_le (m := rest) fun k e he => h k e (List.mem_cons_of_mem _ he)
    simp only [toStrAny, List.map_cons, V.depth, V.depthKVs] at h2 ⊢
    omega

/-- the map a one-of hands to the selected member -/
def oneOfClone (inlined : Bool) (disc : String) (m : List (String × V)) : List (String × V) :=
  if inlined then m else eraseKey disc m

theorem oneOfClone_mem {inlined : Bool} {disc : String} {m : List (String × V)} {kv : String × V}
    (h : kv ∈ oneOfClone inlined disc m) : kv ∈ m := by
  unfold oneOfClone at h
  split at h
  · exact h
  · exact (mem_eraseKey.mp h).1

/-- what a one-of hands to its member (the entries, discriminator possibly removed, as a
    `map[string]any`) is no deeper than the value it was given -/
theorem depth_clone_le {v : V} {sh : MapShape} {kvs : List (V × V)} (hv : v.mapEntries? = some (sh, kvs))
    {m : List (String × V)} (hm : strKeys? kvs = some m) (inlined : Bool) (disc : String) :
    (toStrAny (oneOfClone inlined disc m)).depth ≤ v.depth := by
  cases v <;> simp only [V.mapEntries?, Option.some.injEq, Prod.mk.injEq, reduceCtorEq] at hv
  obtain ⟨rfl, rfl⟩ := hv
  rw [V.depth]
  exact depth_toStrAny_le fun k e he => (depthKVs_mem (strKeys_mem hm (oneOfClone_mem he))).2

theorem mapEntries_strAny (kvs : List (V × V)) :
    (V.map ⟨.string, true⟩ kvs).mapEntries? = some (⟨.string, true⟩, kvs) := rfl

end Arca
