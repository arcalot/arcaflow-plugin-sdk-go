import ArcaModel.Model.Units
/-
  Lemmas for property C16 (units): characters, decimal digits, the backtracking matcher
  `matchGroups`/`matchBase` on the tokens of the unit grammar, the checked accumulation,
  `strings.TrimSpace`, well-formed definitions, the formatter. What the matcher accepts in general
  (a base count may carry a fraction) is in `UnitsFloat.lean`.
-/
namespace Arca

theorem isDigit_iff (c : Char) : isDigit c = true ↔ 48 ≤ c.toNat ∧ c.toNat ≤ 57 := by
  unfold isDigit
  simp only [Bool.and_eq_true, decide_eq_true_eq]
  rfl

theorem isReWS_cases {c : Char} (h : isReWS c = true) :
    c = ' ' ∨ c = '\t' ∨ c = '\n' ∨ c = '\x0c' ∨ c = '\r' := by
  simpa only [isReWS, Bool.or_eq_true, beq_iff_eq, or_assoc] using h

theorem isReWS_isUniSpace {c : Char} (h : isReWS c = true) : isUniSpace c = true := by
  rcases isReWS_cases h with rfl | rfl | rfl | rfl | rfl <;> decide

theorem isReWS_not_digit {c : Char} (h : isReWS c = true) : isDigit c = false := by
  rcases isReWS_cases h with rfl | rfl | rfl | rfl | rfl <;> decide

theorem isDigit_not_ws {c : Char} (h : isDigit c = true) : isReWS c = false :=
  Bool.eq_false_iff.mpr fun hw => by rw [isReWS_not_digit hw] at h; cases h

theorem isDigit_not_uni {c : Char} (h : isDigit c = true) : isUniSpace c = false := by
  rw [isDigit_iff] at h
  unfold isUniSpace
  simp only [Bool.or_eq_false_iff, Bool.and_eq_false_iff, decide_eq_false_iff_not,
    beq_eq_false_iff_ne]
  omega

theorem dot_not_digit : isDigit '.' = false := by decide
theorem dot_not_ws : isReWS '.' = false := by decide

def AllDigits (cs : List Char) : Prop := ∀ c ∈ cs, isDigit c = true

def AllWS (cs : List Char) : Prop := ∀ c ∈ cs, isReWS c = true

theorem allWS_nil : AllWS [] := fun _ hc => nomatch hc

def decVal (cs : List Char) : Nat := cs.foldl (fun acc c => acc * 10 + (c.toNat - 48)) 0

theorem decVal_nil : decVal [] = 0 := rfl

theorem decVal_eq_ofDigitChars (cs : List Char) : decVal cs = Nat.ofDigitChars 10 cs 0 := by
  unfold decVal Nat.ofDigitChars
  congr; funext a c; rw [Nat.mul_comm]; rfl

theorem readNatAux_eq_some {cs : List Char} {acc n : Nat} :
    readNatAux cs acc = some n ↔
      AllDigits cs ∧ cs.foldl (fun acc c => acc * 10 + (c.toNat - 48)) acc = n := by
  induction cs generalizing acc with
  | nil => simp [readNatAux, AllDigits]
  | cons c cs ih =>
    rw [readNatAux, AllDigits, List.forall_mem_cons, List.foldl_cons]
    by_cases hc : isDigit c = true
    · have hd : digitVal? c = some (c.toNat - 48) := if_pos hc
      rw [hd]
      exact ih.trans ⟨fun h => ⟨⟨hc, h.1⟩, h.2⟩, fun h => ⟨h.1.2, h.2⟩⟩
    · have hd : digitVal? c = none := if_neg hc
      rw [hd]
      exact ⟨(nomatch ·), fun h => absurd h.1.1 hc⟩

theorem readNat_eq_some {cs : List Char} {n : Nat} :
    readNat cs = some n ↔ cs ≠ [] ∧ AllDigits cs ∧ decVal cs = n := by
  cases cs with
  | nil => exact ⟨(nomatch ·), fun h => absurd rfl h.1⟩
  | cons c cs => exact readNatAux_eq_some.trans ⟨fun h => ⟨List.cons_ne_nil _ _, h⟩, (·.2)⟩

theorem toDigits_allDigits (n : Nat) : AllDigits (Nat.toDigits 10 n) :=
  fun _ hc => Nat.isDigit_of_mem_toDigits (by decide) (by decide) hc

theorem decVal_toDigits (n : Nat) : decVal (Nat.toDigits 10 n) = n := by
  rw [decVal_eq_ofDigitChars, Nat.ofDigitChars_ten_toDigits]

/-- `%d` of a non-negative integer is `Nat.toDigits 10` -/
theorem fmtInt_nonneg {c : Int} (h : 0 ≤ c) : (fmtInt c).toList = Nat.toDigits 10 c.toNat := by
  obtain ⟨n, rfl⟩ := Int.eq_ofNat_of_zero_le h
  exact Nat.toList_repr

def HeadIs (p : Char → Prop) : List Char → Prop
  | [] => True
  | c :: _ => p c

theorem HeadIs.of_forall {p : Char → Prop} {l : List Char} (h : ∀ c ∈ l, p c) : HeadIs p l := by
  cases l with
  | nil => trivial
  | cons c _ => exact h c (List.mem_cons_self ..)

theorem HeadIs.append {p : Char → Prop} {l r : List Char} (hl : HeadIs p l) (hr : HeadIs p r) :
    HeadIs p (l ++ r) := by
  cases l with
  | nil => exact hr
  | cons _ _ => exact hl

theorem HeadIs.append_of_ne_nil {p : Char → Prop} {l : List Char} (hl : HeadIs p l) (hne : l ≠ [])
    (r : List Char) : HeadIs p (l ++ r) := by
  cases l with
  | nil => exact absurd rfl hne
  | cons _ _ => exact hl

theorem HeadIs.imp {p q : Char → Prop} (hpq : ∀ c, p c → q c) {l : List Char} (h : HeadIs p l) :
    HeadIs q l := by
  cases l with
  | nil => trivial
  | cons c _ => exact hpq c h

theorem HeadIs.dropWhile {p : Char → Bool} {l : List Char} (h : HeadIs (p · = false) l) :
    l.dropWhile p = l := by
  cases l with
  | nil => rfl
  | cons c _ => exact List.dropWhile_cons_of_neg (by rw [show p c = false from h]; simp)

theorem HeadIs.takeWhile {p : Char → Bool} {l : List Char} (h : HeadIs (p · = false) l) :
    l.takeWhile p = [] := by
  cases l with
  | nil => rfl
  | cons c _ => exact List.takeWhile_cons_of_neg (by rw [show p c = false from h]; simp)

theorem headIs_dropWhile (p : Char → Bool) (l : List Char) : HeadIs (p · = false) (l.dropWhile p) := by
  induction l with
  | nil => trivial
  | cons c t ih =>
    cases hc : p c with
    | true => rw [List.dropWhile_cons_of_pos hc]; exact ih
    | false => rw [List.dropWhile_cons_of_neg (by rw [hc]; simp)]; exact hc

abbrev DigitHead := HeadIs (isDigit · = true)
abbrev NoDigitHead := HeadIs (isDigit · = false)
abbrev NoWSHead := HeadIs (isReWS · = false)

theorem DigitHead.noWS {l : List Char} (h : DigitHead l) : NoWSHead l := h.imp fun _ => isDigit_not_ws

theorem AllDigits.digitHead {ds : List Char} (h : AllDigits ds) : DigitHead ds := .of_forall h

theorem AllWS.noDigitHead {w : List Char} (h : AllWS w) : NoDigitHead w :=
  .of_forall fun c hc => isReWS_not_digit (h c hc)

theorem skipWS_of_noWSHead {cs : List Char} (h : NoWSHead cs) : skipWS cs = cs := h.dropWhile

theorem skipWS_ws_append {w : List Char} (hw : AllWS w) (r : List Char) : skipWS (w ++ r) = skipWS r :=
  List.dropWhile_append_of_pos hw

theorem skipWS_allWS {w : List Char} (hw : AllWS w) : skipWS w = [] := by
  have := skipWS_ws_append hw []
  rwa [List.append_nil] at this

theorem skipWS_split (x : List Char) : ∃ w, AllWS w ∧ x = w ++ skipWS x :=
  ⟨x.takeWhile isReWS, fun _ hc => List.all_eq_true.mp List.all_takeWhile _ hc,
    List.takeWhile_append_dropWhile.symm⟩

theorem skipWS_noWSHead (x : List Char) : NoWSHead (skipWS x) := headIs_dropWhile isReWS x

theorem allWS_of_skipWS_nil {x : List Char} (h : skipWS x = []) : AllWS x := by
  obtain ⟨w, hw, e⟩ := skipWS_split x
  rw [h, List.append_nil] at e
  rwa [e]

theorem takeWhile_digits_append {ds r : List Char} (hd : AllDigits ds) (hr : NoDigitHead r) :
    (ds ++ r).takeWhile isDigit = ds := by
  rw [List.takeWhile_append_of_pos hd, hr.takeWhile, List.append_nil]

theorem dropWhile_digits_append {ds r : List Char} (hd : AllDigits ds) (hr : NoDigitHead r) :
    (ds ++ r).dropWhile isDigit = r := by
  rw [List.dropWhile_append_of_pos hd, hr.dropWhile]

theorem allDigits_take_takeWhile (cs : List Char) (k : Nat) :
    AllDigits ((cs.takeWhile isDigit).take k) :=
  fun c hc => List.all_eq_true.mp List.all_takeWhile c (List.mem_of_mem_take hc)

theorem stripPrefix?_eq_some {p cs r : List Char} : stripPrefix? p cs = some r ↔ cs = p ++ r := by
  induction p generalizing cs with
  | nil => simp [stripPrefix?, eq_comm]
  | cons a p ih =>
    cases cs with
    | nil => simp [stripPrefix?]
    | cons c cs =>
      simp only [stripPrefix?, List.cons_append, List.cons.injEq]
      by_cases hac : a = c
      · subst hac; simp [ih]
      · have : (a == c) = false := by simpa using hac
        simp [this, hac, eq_comm]

theorem stripPrefix?_append (p r : List Char) : stripPrefix? p (p ++ r) = some r :=
  stripPrefix?_eq_some.mpr rfl

theorem firstSome_eq_findSome? {α β} (l : List α) (f : α → Option β) : firstSome l f = l.findSome? f := by
  induction l with
  | nil => rfl
  | cons x xs ih => rw [firstSome, List.findSome?_cons, ih]; cases f x <;> rfl

theorem firstSome_none {α β} (l : List α) (f : α → Option β) (h : ∀ x ∈ l, f x = none) :
    firstSome l f = none := by
  rw [firstSome_eq_findSome?]
  exact List.findSome?_eq_none_iff.mpr h

theorem firstSome_mem {α β} {l : List α} {f : α → Option β} {v : β} (h : firstSome l f = some v) :
    ∃ x ∈ l, f x = some v :=
  List.exists_of_findSome?_eq_some (firstSome_eq_findSome? l f ▸ h)

theorem firstSome_some {α β} (l : List α) (f : α → Option β) (v : β)
    (hall : ∀ x ∈ l, f x = none ∨ f x = some v) (hex : ∃ x ∈ l, f x = some v) :
    firstSome l f = some v := by
  obtain ⟨x, hx, hfx⟩ := hex
  cases h : firstSome l f with
  | none =>
    rw [firstSome_eq_findSome?, List.findSome?_eq_none_iff] at h
    rw [h x hx] at hfx
    cases hfx
  | some w =>
    obtain ⟨y, hy, hfy⟩ := firstSome_mem h
    rcases hall y hy with h' | h' <;> rw [h'] at hfy <;> cases hfy
    rfl

theorem mem_countsDown {k n : Nat} : k ∈ countsDown n ↔ 1 ≤ k ∧ k ≤ n := by
  induction n with
  | zero => simp [countsDown]; omega
  | succ n ih => simp only [countsDown, List.mem_cons, ih]; omega

/-- the first split tried is the longest one -/
theorem firstSome_countsDown_first {β} {n : Nat} (hn : 0 < n) (f : Nat → Option β) {v : β}
    (h : f n = some v) : firstSome (countsDown n) f = some v := by
  obtain ⟨m, rfl⟩ := Nat.exists_eq_succ_of_ne_zero (Nat.ne_of_gt hn)
  rw [countsDown, firstSome, h]

/-- if no shorter split succeeds, the loop is its first round -/
theorem firstSome_countsDown {β} {n : Nat} (hn : 0 < n) (f : Nat → Option β)
    (h : ∀ k, 1 ≤ k → k < n → f k = none) : firstSome (countsDown n) f = f n := by
  obtain ⟨m, rfl⟩ := Nat.exists_eq_succ_of_ne_zero (Nat.ne_of_gt hn)
  rw [countsDown, firstSome]
  cases f (m + 1) with
  | some b => rfl
  | none =>
    exact firstSome_none _ _ fun k hk => by
      rw [mem_countsDown] at hk
      exact h k hk.1 (by omega)

/-! ### the matcher with its inner closures named -/

/-- one name alternative: the name, the white space after it, then `K` on what is left -/
def nameAlt {β} (K : List Char → Option β) (r : List Char) (n : String) : Option β :=
  match stripPrefix? n.toList r with
  | some r' => K (skipWS r')
  | none => none

theorem nameAlt_some {β} {K : List Char → Option β} {r : List Char} {n : String} {v : β}
    (h : nameAlt K r n = some v) : ∃ r', r = n.toList ++ r' ∧ K (skipWS r') = some v := by
  unfold nameAlt at h
  split at h
  · next r' hs => exact ⟨r', stripPrefix?_eq_some.mp hs, h⟩
  · cases h

/-- the end of the pattern after the capture `cap`: nothing may be left -/
def endK (cap r : List Char) : Option String := if r.isEmpty then some (String.ofList cap) else none

/-- `\s*(|names)\s*$` after a captured number (inner closure of `matchBase`) -/
def tryTail (names : List String) (cap r : List Char) : Option String :=
  if (skipWS (skipWS r)).isEmpty then some (String.ofList cap) else
  firstSome names (nameAlt (endK cap) (skipWS r))

/-- one digit split of the base group (body of the `countsDown` loop of `matchBase`) -/
def baseSplit (names : List String) (ds rest : List Char) (k : Nat) : Option String :=
  match tryTail names (ds.take k) (ds.drop k ++ rest) with
  | some c => some c
  | none =>
    match ds.drop k ++ rest with
    | '.' :: r1 =>
      firstSome (countsDown (r1.takeWhile isDigit).length) fun j =>
        tryTail names (ds.take k ++ '.' :: (r1.takeWhile isDigit).take j)
          ((r1.takeWhile isDigit).drop j ++ r1.dropWhile isDigit)
    | _ => none

theorem matchBase_eq (names : List String) (cs : List Char) :
    matchBase names cs =
      if (skipWS cs).isEmpty then some "" else
      firstSome (countsDown (cs.takeWhile isDigit).length)
        (baseSplit names (cs.takeWhile isDigit) (cs.dropWhile isDigit)) := rfl

/-- the groups below one that captured `cap` -/
def groupK (gs : List (List String)) (base : List String) (cap r : List Char) :
    Option (List String × String) :=
  match matchGroups gs base r with
  | some (caps, b) => some (String.ofList cap :: caps, b)
  | none => none

/-- one digit split of a multiplier group -/
def groupSplit (names : List String) (gs : List (List String)) (base : List String)
    (ds rest : List Char) (k : Nat) : Option (List String × String) :=
  firstSome names (nameAlt (groupK gs base (ds.take k)) (skipWS (ds.drop k ++ rest)))

theorem matchGroups_cons_eq (names : List String) (gs : List (List String)) (base : List String)
    (cs : List Char) :
    matchGroups (names :: gs) base cs =
      match matchGroups gs base (skipWS cs) with
      | some (caps, b) => some ("" :: caps, b)
      | none =>
        firstSome (countsDown (cs.takeWhile isDigit).length)
          (groupSplit names gs base (cs.takeWhile isDigit) (cs.dropWhile isDigit)) := by
  rw [matchGroups]
  rfl

theorem baseSplit_none (names : List String) (ds rest : List Char) (k : Nat)
    (htry : tryTail names (ds.take k) (ds.drop k ++ rest) = none)
    (hfrac : ∀ r1, ds.drop k ++ rest = '.' :: r1 → NoDigitHead r1) :
    baseSplit names ds rest k = none := by
  unfold baseSplit
  rw [htry]
  dsimp only
  split
  · next r1 heq =>
    rw [(hfrac r1 heq).takeWhile]
    rfl
  · rfl

def NameChars (cs : List Char) : Prop := ∀ c ∈ cs, isDigit c = false ∧ isReWS c = false

def NameOK (n : String) : Prop := n.toList ≠ [] ∧ NameChars n.toList

/-- what may follow a name in a rendering: nothing, a digit (next count) or white space -/
abbrev TailOK := HeadIs fun c => isDigit c = true ∨ isReWS c = true

theorem NameChars.noDigitHead {nm : List Char} (h : NameChars nm) : NoDigitHead nm :=
  .of_forall fun c hc => (h c hc).1

theorem NameChars.noWSHead {nm : List Char} (h : NameChars nm) : NoWSHead nm :=
  .of_forall fun c hc => (h c hc).2

theorem matchBase_nondigit (base : List String) (c : Char) (t : List Char)
    (hd : isDigit c = false) (hw : isReWS c = false) : matchBase base (c :: t) = none := by
  rw [matchBase_eq, skipWS_of_noWSHead (cs := c :: t) hw,
    List.takeWhile_cons_of_neg (by rw [hd]; simp)]
  rfl

theorem matchGroups_nondigit (gs : List (List String)) (base : List String) (c : Char) (t : List Char)
    (hd : isDigit c = false) (hw : isReWS c = false) : matchGroups gs base (c :: t) = none := by
  induction gs with
  | nil => rw [matchGroups, matchBase_nondigit base c t hd hw]; rfl
  | cons names gs ih =>
    rw [matchGroups_cons_eq, skipWS_of_noWSHead (cs := c :: t) hw, ih,
      List.takeWhile_cons_of_neg (by rw [hd]; simp)]
    rfl

/-- a continuation that fails on an input starting inside a name -/
def FailsInName {β} (K : List Char → Option β) : Prop :=
  ∀ c t, isDigit c = false → isReWS c = false → K (c :: t) = none

theorem endK_failsInName (cap : List Char) : FailsInName (endK cap) := fun _ _ _ _ => rfl

theorem groupK_failsInName (gs : List (List String)) (base : List String) (cap : List Char) :
    FailsInName (groupK gs base cap) :=
  fun c t hd hw => by rw [groupK, matchGroups_nondigit gs base c t hd hw]

/-- no name starts with a digit -/
theorem nameAlt_digit {β} (K : List Char → Option β) {n : String} (hn : NameOK n) {d : Char}
    (hd : isDigit d = true) (r : List Char) : nameAlt K (d :: r) n = none := by
  obtain ⟨hne, hc⟩ := hn
  unfold nameAlt
  cases hl : n.toList with
  | nil => exact absurd hl hne
  | cons c p =>
    have hcd : c ≠ d := by
      rintro rfl
      rw [(hc c (by rw [hl]; exact List.mem_cons_self ..)).1] at hd
      cases hd
    rw [stripPrefix?, if_neg (by simpa using hcd)]

/-- on `nm ++ tail` a name alternative gets through exactly when the name is `nm`: any other name
    is no prefix, or what it leaves starts inside a name -/
theorem nameAlt_name {β} {K : List Char → Option β} (hK : FailsInName K) {n : String}
    {nm tail : List Char} (hn : NameChars n.toList) (hm : NameChars nm) (ht : TailOK tail) :
    nameAlt K (nm ++ tail) n = if n.toList = nm then K (skipWS tail) else none := by
  by_cases he : n.toList = nm
  · rw [if_pos he, nameAlt, he, stripPrefix?_append]
  rw [if_neg he, nameAlt]
  cases hs : stripPrefix? n.toList (nm ++ tail) with
  | none => rfl
  | some r =>
    rcases List.append_eq_append_iff.mp (stripPrefix?_eq_some.mp hs) with ⟨a, h1, h2⟩ | ⟨a, h1, h2⟩
    · -- n = nm ++ a, tail = a ++ r: the tail would start with a character of the name
      cases a with
      | nil => exact absurd (by rw [h1, List.append_nil]) he
      | cons c t =>
        have hc := hn c (by rw [h1]; simp)
        rw [h2] at ht
        rcases (show isDigit c = true ∨ isReWS c = true from ht) with ht | ht
        · rw [hc.1] at ht; cases ht
        · rw [hc.2] at ht; cases ht
    · -- nm = n ++ a, r = a ++ tail
      cases a with
      | nil => exact absurd (by rw [h1, List.append_nil]) he
      | cons c t =>
        have hc := hm c (by rw [h1]; simp)
        subst h2
        exact (congrArg K (skipWS_of_noWSHead (cs := c :: (t ++ tail)) hc.2)).trans
          (hK c _ hc.1 hc.2)

theorem firstSome_nameAlt {β} {K : List Char → Option β} (hK : FailsInName K) {names : List String}
    (hnames : ∀ n ∈ names, NameChars n.toList) {nm tail : List Char} (hm : NameChars nm)
    (ht : TailOK tail) :
    firstSome names (nameAlt K (nm ++ tail)) =
      if ∃ n ∈ names, n.toList = nm then K (skipWS tail) else none := by
  have halt := fun n hn => nameAlt_name hK (hnames n hn) hm ht
  by_cases hex : ∃ n ∈ names, n.toList = nm
  · rw [if_pos hex]
    cases hV : K (skipWS tail) with
    | none => exact firstSome_none _ _ fun n hn => by rw [halt n hn, hV]; exact ite_self _
    | some v =>
      obtain ⟨n0, hn0, e⟩ := hex
      refine firstSome_some _ _ v (fun n hn => ?_) ⟨n0, hn0, by rw [halt n0 hn0, if_pos e, hV]⟩
      rw [halt n hn, hV]
      split
      · exact .inr rfl
      · exact .inl rfl
  · rw [if_neg hex]
    exact firstSome_none _ _ fun n hn => by rw [halt n hn, if_neg fun e => hex ⟨n, hn, e⟩]

theorem isEmpty_append_of_ne_nil {l : List Char} (h : l ≠ []) (r : List Char) :
    (l ++ r).isEmpty = false :=
  List.isEmpty_eq_false_iff.mpr (List.append_ne_nil_of_left_ne_nil h r)

theorem tryTail_digit (names : List String) (cap : List Char) (d : Char) (r : List Char)
    (hd : isDigit d = true) (hnames : ∀ n ∈ names, NameOK n) : tryTail names cap (d :: r) = none := by
  have h1 : skipWS (d :: r) = d :: r := skipWS_of_noWSHead (cs := d :: r) (isDigit_not_ws hd)
  rw [tryTail, h1, h1]
  exact firstSome_none _ _ fun n hn => nameAlt_digit _ (hnames n hn) hd r

theorem tryTail_foreign (names : List String) (cap w1 nm tail : List Char)
    (hnames : ∀ n ∈ names, NameOK n ∧ n.toList ≠ nm) (hw : AllWS w1)
    (hnm : nm ≠ []) (hnmc : NameChars nm) (ht : TailOK tail) :
    tryTail names cap (w1 ++ (nm ++ tail)) = none := by
  have h0 : NoWSHead (nm ++ tail) := hnmc.noWSHead.append_of_ne_nil hnm _
  rw [tryTail, skipWS_ws_append hw, skipWS_of_noWSHead h0, skipWS_of_noWSHead h0,
    isEmpty_append_of_ne_nil hnm, if_neg Bool.false_ne_true,
    firstSome_nameAlt (endK_failsInName cap) (fun n hn => (hnames n hn).1.2) hnmc ht,
    if_neg fun ⟨n, hn, e⟩ => (hnames n hn).2 e]

/-! ### the digit run

  On `ds ++ rest`, where `ds` is the whole leading run of digits, the `countsDown` loops of the
  matcher can only succeed in their first round: a shorter count leaves a digit in front of the
  name, and no name starts with a digit. -/

theorem drop_digit {ds : List Char} (hD : AllDigits ds) {k : Nat} (hk : k < ds.length) :
    ∃ d dr, ds.drop k = d :: dr ∧ isDigit d = true := by
  cases h : ds.drop k with
  | nil => rw [List.drop_eq_nil_iff] at h; omega
  | cons d dr => exact ⟨d, dr, rfl, hD d (List.mem_of_mem_drop (by rw [h]; exact List.mem_cons_self ..))⟩

theorem matchBase_digitRun {names : List String} (hnames : ∀ n ∈ names, NameOK n)
    {ds rest : List Char} (hne : ds ≠ []) (hD : AllDigits ds) (hr : NoDigitHead rest) :
    matchBase names (ds ++ rest) = baseSplit names ds rest ds.length := by
  have hhead : DigitHead (ds ++ rest) := hD.digitHead.append_of_ne_nil hne _
  rw [matchBase_eq, skipWS_of_noWSHead hhead.noWS, takeWhile_digits_append hD hr,
    dropWhile_digits_append hD hr, isEmpty_append_of_ne_nil hne]
  refine (firstSome_countsDown (List.length_pos_iff.mpr hne) _ fun k _ hk => ?_)
  obtain ⟨d, dr, hdr, hd⟩ := drop_digit hD hk
  apply baseSplit_none
  · rw [hdr]; exact tryTail_digit names _ d _ hd hnames
  · intro r1 heq
    rw [hdr] at heq
    rw [(List.cons.inj heq).1, dot_not_digit] at hd
    cases hd

theorem matchGroups_digitRun {names : List String} (hnames : ∀ n ∈ names, NameOK n)
    (gs : List (List String)) (base : List String)
    {ds rest : List Char} (hne : ds ≠ []) (hD : AllDigits ds) (hr : NoDigitHead rest) :
    matchGroups (names :: gs) base (ds ++ rest) =
      match matchGroups gs base (ds ++ rest) with
      | some (caps, b) => some ("" :: caps, b)
      | none => firstSome names (nameAlt (groupK gs base ds) (skipWS rest)) := by
  have hhead : DigitHead (ds ++ rest) := hD.digitHead.append_of_ne_nil hne _
  rw [matchGroups_cons_eq, skipWS_of_noWSHead hhead.noWS, takeWhile_digits_append hD hr,
    dropWhile_digits_append hD hr]
  cases matchGroups gs base (ds ++ rest) with
  | some r => rfl
  | none =>
    refine (firstSome_countsDown (List.length_pos_iff.mpr hne) _ fun k _ hk => ?_).trans ?_
    · obtain ⟨d, dr, hdr, hd⟩ := drop_digit hD hk
      unfold groupSplit
      rw [hdr, List.cons_append, skipWS_of_noWSHead (cs := d :: _) (isDigit_not_ws hd)]
      exact firstSome_none _ _ fun n hn => nameAlt_digit _ (hnames n hn) hd _
    · rw [groupSplit, List.take_length, List.drop_length, List.nil_append]

/-! ### a token `digits spaces name tail` is matched by no group list that does not own the name -/

theorem matchBase_foreign (base : List String) (ds w1 nm tail : List Char)
    (hbase : ∀ n ∈ base, NameOK n ∧ n.toList ≠ nm)
    (hds : ds ≠ []) (hD : AllDigits ds) (hw : AllWS w1) (hnm : nm ≠ []) (hnmc : NameChars nm)
    (hdot : nm ≠ ['.']) (ht : TailOK tail) :
    matchBase base (ds ++ (w1 ++ (nm ++ tail))) = none := by
  have hrest : NoDigitHead (w1 ++ (nm ++ tail)) :=
    hw.noDigitHead.append (hnmc.noDigitHead.append_of_ne_nil hnm _)
  rw [matchBase_digitRun (fun n hn => (hbase n hn).1) hds hD hrest]
  apply baseSplit_none
  · rw [List.take_length, List.drop_length, List.nil_append]
    exact tryTail_foreign base _ w1 nm tail hbase hw hnm hnmc ht
  · -- a fraction would need `.` followed by a digit, but `.` can only be the first of several
    -- characters of the name
    intro r1 heq
    rw [List.drop_length, List.nil_append] at heq
    cases w1 with
    | cons w ws =>
      have := hw w (List.mem_cons_self ..)
      rw [(List.cons.inj heq).1, dot_not_ws] at this
      cases this
    | nil =>
      obtain ⟨c0, t0, rfl⟩ := List.exists_cons_of_ne_nil hnm
      obtain ⟨rfl, rfl⟩ := List.cons.inj heq
      have ht0 : NameChars t0 := fun c hc => hnmc c (List.mem_cons_of_mem _ hc)
      exact ht0.noDigitHead.append_of_ne_nil (fun e => hdot (by rw [e])) _

theorem matchGroups_foreign (gs : List (List String)) (base : List String) (ds w1 nm tail : List Char)
    (hgs : ∀ names ∈ gs, ∀ n ∈ names, NameOK n ∧ n.toList ≠ nm)
    (hbase : ∀ n ∈ base, NameOK n ∧ n.toList ≠ nm)
    (hds : ds ≠ []) (hD : AllDigits ds) (hw : AllWS w1) (hnm : nm ≠ []) (hnmc : NameChars nm)
    (hdot : nm ≠ ['.']) (ht : TailOK tail) :
    matchGroups gs base (ds ++ (w1 ++ (nm ++ tail))) = none := by
  induction gs with
  | nil =>
    rw [matchGroups, matchBase_foreign base ds w1 nm tail hbase hds hD hw hnm hnmc hdot ht]
    rfl
  | cons names gs ih =>
    have hnames := hgs names (List.mem_cons_self ..)
    rw [matchGroups_digitRun (fun n hn => (hnames n hn).1) gs base hds hD
        (hw.noDigitHead.append (hnmc.noDigitHead.append_of_ne_nil hnm _)),
      ih fun names hn => hgs names (List.mem_cons_of_mem _ hn)]
    dsimp only
    rw [skipWS_ws_append hw, skipWS_of_noWSHead (hnmc.noWSHead.append_of_ne_nil hnm _),
      firstSome_nameAlt (groupK_failsInName gs base ds) (fun n hn => (hnames n hn).1.2) hnmc ht,
      if_neg fun ⟨n, hn, e⟩ => (hnames n hn).2 e]

/-- one `count spaces name spaces` token: digit string, white space, the name used, white space -/
structure Piece where
  ds : List Char
  w1 : List Char
  nm : List Char
  w2 : List Char

def Piece.render (p : Piece) : List Char := p.ds ++ (p.w1 ++ (p.nm ++ p.w2))

def renderOpt : Option Piece → List Char
  | none => []
  | some p => p.render

/-- rendering of one optional token per multiplier group (in the order of the group list), then the
    optional base-unit token -/
def renderAll : List (Option Piece) → Option Piece → List Char
  | [], bp => renderOpt bp
  | o :: ps, bp => renderOpt o ++ renderAll ps bp

/-- the text the matcher should capture for a token -/
def capOf : Option Piece → String
  | none => ""
  | some p => String.ofList p.ds

theorem capOf_none : capOf none = "" := rfl

def PieceOK (names : List String) (p : Piece) : Prop :=
  p.ds ≠ [] ∧ AllDigits p.ds ∧ AllWS p.w1 ∧ AllWS p.w2 ∧ ∃ n ∈ names, n.toList = p.nm

def BasePieceOK (base : List String) (p : Piece) : Prop :=
  p.ds ≠ [] ∧ AllDigits p.ds ∧ AllWS p.w1 ∧ AllWS p.w2 ∧ (p.nm = [] ∨ ∃ n ∈ base, n.toList = p.nm)

inductive PiecesOK : List (List String) → List (Option Piece) → Prop
  | nil : PiecesOK [] []
  | cons {names : List String} {o : Option Piece} {gs : List (List String)}
      {ps : List (Option Piece)} :
      (∀ p, o = some p → PieceOK names p) → PiecesOK gs ps → PiecesOK (names :: gs) (o :: ps)

def BaseOK (base : List String) (bp : Option Piece) : Prop := ∀ p, bp = some p → BasePieceOK base p

theorem PiecesOK.cons_none {names : List String} {gs : List (List String)} {ps : List (Option Piece)}
    (h : PiecesOK gs ps) : PiecesOK (names :: gs) (none :: ps) :=
  .cons (fun _ e => nomatch e) h

theorem PiecesOK.cons_some {names : List String} {p : Piece} {gs : List (List String)}
    {ps : List (Option Piece)} (hp : PieceOK names p) (h : PiecesOK gs ps) :
    PiecesOK (names :: gs) (some p :: ps) :=
  .cons (fun _ e => Option.some.inj e ▸ hp) h

theorem baseOK_none {base : List String} : BaseOK base none := fun _ e => nomatch e

theorem baseOK_some {base : List String} {p : Piece} : BaseOK base (some p) ↔ BasePieceOK base p :=
  ⟨fun h => h p rfl, fun h _ e => Option.some.inj e ▸ h⟩

theorem PiecesOK.length_eq {gs : List (List String)} {ps : List (Option Piece)} (hv : PiecesOK gs ps) :
    ps.length = gs.length := by
  induction hv with
  | nil => rfl
  | cons _ _ ih => rw [List.length_cons, List.length_cons, ih]

theorem caps_allDigits {gs : List (List String)} {ps : List (Option Piece)} (hv : PiecesOK gs ps) :
    ∀ c ∈ ps.map capOf, AllDigits c.toList := by
  induction hv with
  | nil => exact fun _ hc => nomatch hc
  | @cons names o gs' ps' ho _ ih =>
    intro c hc
    rcases List.mem_cons.mp hc with rfl | hc
    · cases o with
      | none => exact fun _ hx => nomatch hx
      | some p => rw [capOf, String.toList_ofList]; exact (ho p rfl).2.1
    · exact ih c hc

theorem BaseOK.allDigits_capOf {base : List String} {bp : Option Piece} (hb : BaseOK base bp) :
    AllDigits (capOf bp).toList := by
  cases bp with
  | none => exact fun _ hx => nomatch hx
  | some p => rw [capOf, String.toList_ofList]; exact (hb p rfl).2.1

/-- what the matcher needs of the (sorted) group list: names are non-empty, free of digits and RE2
    white space; no multiplier name is "."; names of different units differ -/
def GroupsWF (gs : List (List String)) (base : List String) : Prop :=
  (∀ names ∈ gs, ∀ n ∈ names, NameOK n ∧ n.toList ≠ ['.']) ∧
  (∀ n ∈ base, NameOK n) ∧
  gs.Pairwise (fun a b => ∀ x ∈ a, ∀ y ∈ b, x ≠ y) ∧
  (∀ names ∈ gs, ∀ x ∈ names, ∀ y ∈ base, x ≠ y)

theorem GroupsWF.tail {names : List String} {gs : List (List String)} {base : List String}
    (h : GroupsWF (names :: gs) base) : GroupsWF gs base := by
  obtain ⟨h1, h2, h3, h4⟩ := h
  exact ⟨fun ns hn => h1 ns (List.mem_cons_of_mem _ hn), h2, (List.pairwise_cons.mp h3).2,
    fun ns hn => h4 ns (List.mem_cons_of_mem _ hn)⟩

theorem toList_ne_of_ne {x y : String} (h : x ≠ y) : x.toList ≠ y.toList :=
  fun e => h (String.toList_inj.mp e)

theorem render_digitHead {p : Piece} (hne : p.ds ≠ []) (hD : AllDigits p.ds) (r : List Char) :
    DigitHead (p.render ++ r) :=
  (hD.digitHead.append_of_ne_nil hne _).append_of_ne_nil
    (fun e => hne (List.append_eq_nil_iff.mp e).1) _

theorem renderAll_digitHead {gs : List (List String)} {ps : List (Option Piece)} {bp : Option Piece}
    (hv : PiecesOK gs ps) (hb : DigitHead (renderOpt bp)) : DigitHead (renderAll ps bp) := by
  induction hv with
  | nil => exact hb
  | @cons names o gs' ps' ho _ ih =>
    cases o with
    | none => exact ih
    | some p => exact render_digitHead (ho p rfl).1 (ho p rfl).2.1 _

theorem tryTail_own (base : List String) (cap w1 nm w2 : List Char) (hbase : ∀ n ∈ base, NameOK n)
    (hw1 : AllWS w1) (hw2 : AllWS w2) (hnm : nm = [] ∨ ∃ n ∈ base, n.toList = nm) :
    tryTail base cap (w1 ++ (nm ++ w2)) = some (String.ofList cap) := by
  rw [tryTail, skipWS_ws_append hw1]
  rcases hnm with rfl | ⟨n0, hn0, rfl⟩
  · rw [List.nil_append, skipWS_allWS hw2]
    rfl
  · obtain ⟨hne, hc⟩ := hbase n0 hn0
    have h0 : NoWSHead (n0.toList ++ w2) := hc.noWSHead.append_of_ne_nil hne _
    rw [skipWS_of_noWSHead h0, skipWS_of_noWSHead h0, isEmpty_append_of_ne_nil hne,
      if_neg Bool.false_ne_true,
      firstSome_nameAlt (endK_failsInName cap) (fun n hn => (hbase n hn).2) hc
        (.of_forall fun c hc => .inr (hw2 c hc)),
      if_pos ⟨n0, hn0, rfl⟩, skipWS_allWS hw2]
    rfl

theorem basePiece_rest_noDigitHead {base : List String} (hbase : ∀ n ∈ base, NameOK n)
    {w1 nm w2 : List Char} (hw1 : AllWS w1) (hw2 : AllWS w2)
    (hnm : nm = [] ∨ ∃ n ∈ base, n.toList = nm) : NoDigitHead (w1 ++ (nm ++ w2)) := by
  refine hw1.noDigitHead.append (.append ?_ hw2.noDigitHead)
  rcases hnm with rfl | ⟨n, hn, rfl⟩
  · trivial
  · exact (hbase n hn).2.noDigitHead

theorem matchBase_render (base : List String) (hbase : ∀ n ∈ base, NameOK n) (bp : Option Piece)
    (hb : BaseOK base bp) : matchBase base (renderOpt bp) = some (capOf bp) := by
  cases bp with
  | none => rfl
  | some p =>
    obtain ⟨hne, hD, hw1, hw2, hnm⟩ := hb p rfl
    rw [renderOpt, Piece.render,
      matchBase_digitRun hbase hne hD (basePiece_rest_noDigitHead hbase hw1 hw2 hnm), baseSplit,
      List.take_length, List.drop_length, List.nil_append,
      tryTail_own base p.ds p.w1 p.nm p.w2 hbase hw1 hw2 hnm]
    rfl

theorem matchGroups_cons_skip (names : List String) {gs : List (List String)} {base : List String}
    {r : List Char} {caps : List String} {b : String} (hr : NoWSHead r)
    (h : matchGroups gs base r = some (caps, b)) :
    matchGroups (names :: gs) base r = some ("" :: caps, b) := by
  rw [matchGroups_cons_eq, skipWS_of_noWSHead hr, h]

/-- a group matches its own token, captures the count and passes the rest on: the groups below
    cannot take the token, since none of them owns the name -/
theorem matchGroups_cons_own {names : List String} {gs : List (List String)} {base : List String}
    (hwf : GroupsWF (names :: gs) base) {p : Piece} (hp : PieceOK names p)
    {r : List Char} {caps : List String} {b : String} (hr : DigitHead r)
    (h : matchGroups gs base r = some (caps, b)) :
    matchGroups (names :: gs) base (p.render ++ r) = some (String.ofList p.ds :: caps, b) := by
  obtain ⟨hne, hD, hw1, hw2, n0, hn0, hnm⟩ := hp
  obtain ⟨hnames, hbaseOK, hsep, hsepB⟩ := hwf
  have hnamesOK := hnames names (List.mem_cons_self ..)
  have hnmne : p.nm ≠ [] := hnm ▸ (hnamesOK n0 hn0).1.1
  have hnmc : NameChars p.nm := hnm ▸ (hnamesOK n0 hn0).1.2
  have htail : TailOK (p.w2 ++ r) :=
    (HeadIs.of_forall fun c hc => Or.inr (hw2 c hc)).append (hr.imp fun _ => Or.inl)
  have hcs : p.render ++ r = p.ds ++ (p.w1 ++ (p.nm ++ (p.w2 ++ r))) := by
    simp only [Piece.render, List.append_assoc]
  have hforeign : matchGroups gs base (p.ds ++ (p.w1 ++ (p.nm ++ (p.w2 ++ r)))) = none := by
    apply matchGroups_foreign gs base p.ds p.w1 p.nm _ _ _ hne hD hw1 hnmne hnmc
      (hnm ▸ (hnamesOK n0 hn0).2) htail
    · exact fun names' hn' n hn => ⟨(hnames names' (List.mem_cons_of_mem _ hn') n hn).1,
        hnm ▸ toList_ne_of_ne (Ne.symm ((List.pairwise_cons.mp hsep).1 names' hn' n0 hn0 n hn))⟩
    · exact fun n hn => ⟨hbaseOK n hn,
        hnm ▸ toList_ne_of_ne (Ne.symm (hsepB names (List.mem_cons_self ..) n0 hn0 n hn))⟩
  rw [hcs, matchGroups_digitRun (fun n hn => (hnamesOK n hn).1) gs base hne hD
      (hw1.noDigitHead.append (hnmc.noDigitHead.append_of_ne_nil hnmne _)), hforeign]
  dsimp only
  rw [skipWS_ws_append hw1, skipWS_of_noWSHead (hnmc.noWSHead.append_of_ne_nil hnmne _)]
  rw [firstSome_nameAlt (groupK_failsInName gs base p.ds) (fun n hn => (hnamesOK n hn).1.2) hnmc htail,
    if_pos ⟨n0, hn0, hnm⟩, skipWS_ws_append hw2, skipWS_of_noWSHead hr.noWS, groupK, h]

theorem inInt64_nonneg {v : Int} (h : 0 ≤ v) : inInt64 v = decide (v ≤ maxInt64) := by
  unfold inInt64 minInt64 maxInt64
  rw [Bool.eq_iff_iff]
  simp only [Bool.and_eq_true, decide_eq_true_eq]
  omega

def capVal (c : String) : Int := (decVal c.toList : Int)

/-- the mathematical sum of captured counts times multipliers -/
def capSum : List String → List Int → Int
  | c :: cs, m :: ms => capVal c * m + capSum cs ms
  | _, _ => 0

theorem isEmpty_iff_toList (c : String) : c.isEmpty = true ↔ c.toList = [] := by
  rw [String.isEmpty_iff, String.toList_eq_nil_iff]

theorem capVal_nonneg (c : String) : 0 ≤ capVal c := Int.natCast_nonneg _

theorem capVal_of_isEmpty {c : String} (h : c.isEmpty = true) : capVal c = 0 := by
  rw [capVal, (isEmpty_iff_toList c).mp h]; rfl

theorem capVal_empty : capVal "" = 0 := capVal_of_isEmpty rfl

theorem parseInt10_cap (c : String) (hne : c.isEmpty = false) (hD : AllDigits c.toList) :
    parseInt10 c = if capVal c ≤ maxInt64 then some (capVal c) else none := by
  have hne' : c.toList ≠ [] := fun e => by rw [(isEmpty_iff_toList c).mpr e] at hne; cases hne
  have hm : ∀ cs, c.toList ≠ '-' :: cs := fun cs h =>
    absurd (hD '-' (h ▸ List.mem_cons_self ..)) (by decide)
  have hp : ∀ cs, c.toList ≠ '+' :: cs := fun cs h =>
    absurd (hD '+' (h ▸ List.mem_cons_self ..)) (by decide)
  unfold parseInt10
  dsimp only
  split
  · next v heq =>
    split at heq
    · next cs h => exact absurd h (hm cs)
    · next cs h => exact absurd h (hp cs)
    · rw [readNat_eq_some.mpr ⟨hne', hD, rfl⟩] at heq
      cases heq
      show (if inInt64 (capVal c) = true then some (capVal c) else none) = _
      simp only [inInt64_nonneg (capVal_nonneg c), decide_eq_true_eq]
  · next heq =>
    split at heq
    · next cs h => exact absurd h (hm cs)
    · next cs h => exact absurd h (hp cs)
    · rw [readNat_eq_some.mpr ⟨hne', hD, rfl⟩] at heq
      cases heq

theorem accInt_some {acc i m a : Int} (h : accInt acc i m = some a) :
    a = acc + i * m ∧ inInt64 a = true := by
  unfold accInt at h
  by_cases h1 : inInt64 (i * m) = true
  · by_cases h2 : inInt64 (acc + i * m) = true
    · simp [h1, h2] at h; subst h; exact ⟨rfl, h2⟩
    · simp [h1, h2] at h
  · simp [h1] at h

theorem accInt_nonneg {acc i m : Int} (hacc : 0 ≤ acc) (hp : 0 ≤ i * m) :
    accInt acc i m = if acc + i * m ≤ maxInt64 then some (acc + i * m) else none := by
  unfold accInt
  simp only [inInt64_nonneg hp, inInt64_nonneg (v := acc + i * m) (by omega)]
  by_cases h1 : i * m ≤ maxInt64 <;> by_cases h2 : acc + i * m ≤ maxInt64 <;> simp [h1, h2]
  omega

/-- one checked accumulation step `acc + count * m`; an empty capture leaves the sum alone -/
def capStep (acc : Int) (c : String) (m : Int) : Option Int :=
  if c.isEmpty then some acc else
  match parseInt10 c with
  | none => none
  | some i => accInt acc i m

theorem go_cons (c : String) (cs : List String) (m : Int) (ms : List Int) (acc : Int) :
    Units.parseInt.go (c :: cs) (m :: ms) acc =
      match capStep acc c m with
      | none => none
      | some a => Units.parseInt.go cs ms a := by
  rw [Units.parseInt.go, capStep]
  split
  · rfl
  · cases parseInt10 c <;> rfl

theorem capStep_some {acc m a : Int} {c : String} (hD : AllDigits c.toList)
    (hacc : inInt64 acc = true) (h : capStep acc c m = some a) :
    a = acc + capVal c * m ∧ inInt64 a = true := by
  unfold capStep at h
  split at h
  · next he =>
    cases h
    rw [capVal_of_isEmpty he, Int.zero_mul, Int.add_zero]
    exact ⟨rfl, hacc⟩
  · next he =>
    rw [parseInt10_cap c (by simpa using he) hD] at h
    by_cases hv : capVal c ≤ maxInt64
    · rw [if_pos hv] at h; exact accInt_some h
    · rw [if_neg hv] at h; cases h

theorem capStep_nonneg {acc m : Int} {c : String} (hD : AllDigits c.toList) (hm : 1 ≤ m)
    (hacc : 0 ≤ acc) (hacc' : acc ≤ maxInt64) :
    capStep acc c m =
      if acc + capVal c * m ≤ maxInt64 then some (acc + capVal c * m) else none := by
  unfold capStep
  split
  · next he => rw [capVal_of_isEmpty he, Int.zero_mul, Int.add_zero, if_pos hacc']
  · next he =>
    have hV := capVal_nonneg c
    have hP : capVal c * 1 ≤ capVal c * m := Int.mul_le_mul_of_nonneg_left hm hV
    rw [parseInt10_cap c (by simpa using he) hD]
    by_cases hv : capVal c ≤ maxInt64
    · rw [if_pos hv]; exact accInt_nonneg hacc (by omega)
    · rw [if_neg hv, if_neg (by omega)]

/-- the accumulation never wraps: a result is the exact sum, and lies in int64 -/
theorem go_some (caps : List String) (ms : List Int) (acc v : Int)
    (hcaps : ∀ c ∈ caps, AllDigits c.toList) (hacc : inInt64 acc = true)
    (h : Units.parseInt.go caps ms acc = some v) :
    v = acc + capSum caps ms ∧ inInt64 v = true := by
  induction caps generalizing ms acc with
  | nil => cases h; exact ⟨(Int.add_zero _).symm, hacc⟩
  | cons c cs ih =>
    cases ms with
    | nil => cases h; exact ⟨(Int.add_zero _).symm, hacc⟩
    | cons m ms =>
      rw [go_cons] at h
      split at h
      · cases h
      · next a ha =>
        obtain ⟨rfl, hin⟩ := capStep_some (hcaps c (List.mem_cons_self ..)) hacc ha
        rw [capSum, ← Int.add_assoc]
        exact ih ms _ (fun x hx => hcaps x (List.mem_cons_of_mem _ hx)) hin h

theorem capSum_nonneg (caps : List String) (ms : List Int) (hms : ∀ m ∈ ms, 1 ≤ m) :
    0 ≤ capSum caps ms := by
  induction caps generalizing ms with
  | nil => exact Int.le_refl 0
  | cons c cs ih =>
    cases ms with
    | nil => exact Int.le_refl 0
    | cons m ms =>
      have h1 := ih ms (fun x hx => hms x (List.mem_cons_of_mem _ hx))
      have h2 : 0 ≤ capVal c * m :=
        Int.mul_nonneg (capVal_nonneg c) (by have := hms m (List.mem_cons_self ..); omega)
      rw [capSum]
      omega

/-- with non-negative counts and multipliers ≥ 1, the accumulation succeeds exactly when the
    mathematical sum fits -/
theorem go_nonneg (caps : List String) (ms : List Int) (acc : Int)
    (hcaps : ∀ c ∈ caps, AllDigits c.toList) (hms : ∀ m ∈ ms, 1 ≤ m)
    (hacc : 0 ≤ acc) (hacc' : acc ≤ maxInt64) :
    Units.parseInt.go caps ms acc =
      if acc + capSum caps ms ≤ maxInt64 then some (acc + capSum caps ms) else none := by
  induction caps generalizing ms acc with
  | nil =>
    have h0 : acc + capSum [] ms = acc := Int.add_zero acc
    rw [h0, if_pos hacc']; rfl
  | cons c cs ih =>
    cases ms with
    | nil =>
      have h0 : acc + capSum (c :: cs) [] = acc := Int.add_zero acc
      rw [h0, if_pos hacc']; rfl
    | cons m ms =>
      have hms' : ∀ x ∈ ms, 1 ≤ x := fun x hx => hms x (List.mem_cons_of_mem _ hx)
      have hm : 1 ≤ m := hms m (List.mem_cons_self ..)
      have hT := capSum_nonneg cs ms hms'
      have hP : 0 ≤ capVal c * m := Int.mul_nonneg (capVal_nonneg c) (by omega)
      rw [go_cons, capStep_nonneg (hcaps c (List.mem_cons_self ..)) hm hacc hacc', capSum,
        ← Int.add_assoc]
      by_cases h1 : acc + capVal c * m ≤ maxInt64
      · rw [if_pos h1]
        exact ih ms _ (fun x hx => hcaps x (List.mem_cons_of_mem _ hx)) hms' (by omega) h1
      · rw [if_neg h1, if_neg (by omega)]

/-- the regexp stage shared by `ParseInt` and `ParseFloat`: trim, then match; the captures of the
    multiplier groups and of the base group -/
def Units.captures (u : Units) (s : String) : Option (List String × String) :=
  if (trimSpace s.toList).isEmpty then none
  else matchGroups ((sortDesc u.mults).map (·.2.all)) u.base.all (skipWS (trimSpace s.toList))

theorem captures_eq_some {u : Units} {s : String} {r : List String × String} :
    u.captures s = some r ↔ (trimSpace s.toList).isEmpty = false ∧
      matchGroups ((sortDesc u.mults).map (·.2.all)) u.base.all (skipWS (trimSpace s.toList)) =
        some r := by
  unfold Units.captures
  cases (trimSpace s.toList).isEmpty <;> simp

/-- the base-unit stage of `ParseInt` after the multiplier groups -/
def baseStage (acc : Int) (b : String) : Option Int :=
  if b.isEmpty then some acc
  else if b.toList.contains '.' then none
  else match parseInt10 b with
    | none => none
    | some i => accInt acc i 1

theorem parseInt_eq (u : Units) (s : String) : u.parseInt s =
    match u.captures s with
    | none => none
    | some (caps, b) =>
      match Units.parseInt.go caps ((sortDesc u.mults).map (·.1)) 0 with
      | none => none
      | some acc => baseStage acc b := by
  unfold Units.parseInt Units.captures
  by_cases h : (trimSpace s.toList).isEmpty = true
  · simp only [h, if_true]
  · simp only [h]; rfl

theorem no_dot_of_digits {l : List Char} (h : AllDigits l) : l.contains '.' = false :=
  Bool.eq_false_iff.mpr fun hc => by
    have := h '.' (List.contains_iff_mem.mp hc)
    rw [dot_not_digit] at this; cases this

theorem baseStage_dot (acc : Int) {b : String} (hb : b.toList.contains '.' = true) :
    baseStage acc b = none := by
  have he : b.isEmpty = false := Bool.eq_false_iff.mpr fun h => by
    rw [(isEmpty_iff_toList b).mp h] at hb; cases hb
  rw [baseStage, he, hb]
  rfl

/-- without a fraction the base group is one more accumulation step, with multiplier 1 -/
theorem baseStage_noDot (acc : Int) {b : String} (hb : b.toList.contains '.' = false) :
    baseStage acc b = capStep acc b 1 := by
  rw [baseStage, capStep, hb]
  rfl

/-! ### `strings.TrimSpace` on renderings -/

def ltrim (cs : List Char) : List Char := cs.dropWhile isUniSpace
def rtrim (cs : List Char) : List Char := (cs.reverse.dropWhile isUniSpace).reverse

theorem trimSpace_eq (cs : List Char) : trimSpace cs = rtrim (ltrim cs) := rfl

def LastOK (l : List Char) : Prop :=
  match l.reverse with
  | [] => True
  | c :: _ => isUniSpace c = false

def AllUni (cs : List Char) : Prop := ∀ c ∈ cs, isUniSpace c = true

abbrev NoUniHead := HeadIs (isUniSpace · = false)

theorem AllWS.allUni {w : List Char} (h : AllWS w) : AllUni w := fun c hc => isReWS_isUniSpace (h c hc)

theorem ltrim_append {lead r : List Char} (hl : AllUni lead) (hr : NoUniHead r) :
    ltrim (lead ++ r) = r := by
  rw [ltrim, List.dropWhile_append_of_pos hl, hr.dropWhile]

theorem lastOK_iff {l : List Char} : LastOK l ↔ NoUniHead l.reverse := by
  unfold LastOK
  cases l.reverse <;> exact Iff.rfl

theorem rtrim_of_lastOK {l : List Char} (h : LastOK l) : rtrim l = l := by
  rw [rtrim, (lastOK_iff.mp h).dropWhile, List.reverse_reverse]

theorem rtrim_allUni {l : List Char} (h : AllUni l) : rtrim l = [] := by
  have := List.dropWhile_append_of_pos (p := isUniSpace) (l₁ := l.reverse) (l₂ := [])
    fun x hx => h x (List.mem_reverse.mp hx)
  rw [rtrim, ← List.append_nil l.reverse, this]
  rfl

theorem rtrim_append (xs ys : List Char) :
    rtrim (xs ++ ys) = if rtrim ys = [] then rtrim xs else xs ++ rtrim ys := by
  unfold rtrim
  rw [List.reverse_append, List.dropWhile_append]
  by_cases h : (List.dropWhile isUniSpace ys.reverse).isEmpty = true
  · have h' : List.dropWhile isUniSpace ys.reverse = [] := List.isEmpty_iff.mp h
    simp [h']
  · have h' : List.dropWhile isUniSpace ys.reverse ≠ [] := fun e => h (List.isEmpty_iff.mpr e)
    simp [h, h']

theorem rtrim_cons_head {c : Char} (t : List Char) (hc : isUniSpace c = false) :
    ∃ t', rtrim (c :: t) = c :: t' := by
  have h1 : rtrim [c] = [c] := rtrim_of_lastOK (l := [c]) hc
  rw [← List.singleton_append, rtrim_append, h1]
  by_cases h : rtrim t = []
  · exact ⟨[], by rw [if_pos h]⟩
  · exact ⟨rtrim t, by rw [if_neg h]; rfl⟩

theorem lastOK_nil : LastOK [] := trivial

theorem lastOK_append_singleton (l : List Char) (c : Char) (h : isUniSpace c = false) : LastOK (l ++ [c]) := by
  simp [LastOK, h]

theorem lastOK_digits {ds : List Char} (hD : AllDigits ds) : LastOK ds :=
  lastOK_iff.mpr (.of_forall fun c hc => isDigit_not_uni (hD c (List.mem_reverse.mp hc)))

theorem skipWS_trimSpace (x : List Char) (hne : (trimSpace x).isEmpty = false) :
    skipWS (trimSpace x) = trimSpace x ∧ trimSpace x ≠ [] := by
  rw [trimSpace_eq] at hne ⊢
  have hh : NoUniHead (ltrim x) := headIs_dropWhile isUniSpace x
  cases hl : ltrim x with
  | nil => rw [hl] at hne; cases hne
  | cons c t =>
    have hc : isUniSpace c = false := by rw [hl] at hh; exact hh
    obtain ⟨t', ht'⟩ := rtrim_cons_head t hc
    rw [ht']
    refine ⟨skipWS_of_noWSHead (cs := c :: t') ?_, List.cons_ne_nil _ _⟩
    exact Bool.eq_false_iff.mpr fun hw => by
      rw [isReWS_isUniSpace hw] at hc; cases hc

def Piece.trimmed (p : Piece) : Piece :=
  if p.nm = [] then ⟨p.ds, [], [], []⟩ else ⟨p.ds, p.w1, p.nm, []⟩

theorem Piece.trimmed_ds (p : Piece) : p.trimmed.ds = p.ds := by
  unfold Piece.trimmed; split <;> rfl

theorem Piece.trimmed_nm (p : Piece) : p.trimmed.nm = p.nm := by
  unfold Piece.trimmed; split
  · next h => exact h.symm
  · rfl

theorem Piece.trimmed_ws {p : Piece} (h : AllWS p.w1) : AllWS p.trimmed.w1 ∧ AllWS p.trimmed.w2 := by
  unfold Piece.trimmed; split
  · exact ⟨allWS_nil, allWS_nil⟩
  · exact ⟨h, allWS_nil⟩

theorem capOf_map_trimmed (bp : Option Piece) : capOf (bp.map Piece.trimmed) = capOf bp := by
  cases bp with
  | none => rfl
  | some p => exact congrArg String.ofList p.trimmed_ds

theorem PieceOK.trimmed {names : List String} {p : Piece} (h : PieceOK names p) :
    PieceOK names p.trimmed := by
  obtain ⟨h1, h2, h3, _, h5⟩ := h
  exact ⟨p.trimmed_ds ▸ h1, p.trimmed_ds ▸ h2, (Piece.trimmed_ws h3).1, (Piece.trimmed_ws h3).2,
    p.trimmed_nm ▸ h5⟩

theorem BasePieceOK.trimmed {names : List String} {p : Piece} (h : BasePieceOK names p) :
    BasePieceOK names p.trimmed := by
  obtain ⟨h1, h2, h3, _, h5⟩ := h
  exact ⟨p.trimmed_ds ▸ h1, p.trimmed_ds ▸ h2, (Piece.trimmed_ws h3).1, (Piece.trimmed_ws h3).2,
    p.trimmed_nm ▸ h5⟩

def Piece.TrimOK (p : Piece) : Prop :=
  p.ds ≠ [] ∧ LastOK p.ds ∧ AllWS p.w1 ∧ AllWS p.w2 ∧ LastOK p.nm

theorem PieceOK.trimOK {names : List String} {p : Piece} (h : PieceOK names p)
    (hend : ∀ n ∈ names, LastOK n.toList) : p.TrimOK := by
  obtain ⟨h1, h2, h3, h4, n, hn, e⟩ := h
  exact ⟨h1, lastOK_digits h2, h3, h4, e ▸ hend n hn⟩

theorem rtrim_render {p : Piece} (h : p.TrimOK) : rtrim p.render = p.trimmed.render := by
  obtain ⟨_, hl, hw1, hw2, hnm⟩ := h
  have hds : rtrim p.ds = p.ds := rtrim_of_lastOK hl
  have h2 : rtrim p.w2 = [] := rtrim_allUni hw2.allUni
  have h1 : rtrim p.w1 = [] := rtrim_allUni hw1.allUni
  unfold Piece.render Piece.trimmed
  by_cases he : p.nm = []
  · simp only [he, if_true]
    have h3 : rtrim ([] ++ p.w2) = [] := h2
    have h4 : rtrim (p.w1 ++ ([] ++ p.w2)) = [] := by rw [rtrim_append, h3, if_pos rfl, h1]
    rw [rtrim_append, h4]
    simp [hds]
  · simp only [he, if_false]
    have h3 : rtrim (p.nm ++ p.w2) = p.nm := by
      rw [rtrim_append, h2, if_pos rfl, rtrim_of_lastOK hnm]
    have h4 : rtrim (p.w1 ++ (p.nm ++ p.w2)) = p.w1 ++ p.nm := by
      rw [rtrim_append, h3, if_neg he]
    rw [rtrim_append, h4]
    simp [he]

/-- trimming a rendering on the right trims its last token: the captures stay the same -/
theorem rtrim_renderAll {gs : List (List String)} {ps : List (Option Piece)} {bp : Option Piece}
    (hv : PiecesOK gs ps) (hend : ∀ names ∈ gs, ∀ n ∈ names, LastOK n.toList)
    (hb : ∀ p, bp = some p → p.TrimOK) :
    ∃ ps', PiecesOK gs ps' ∧ ps'.map capOf = ps.map capOf ∧
      rtrim (renderAll ps bp) = renderAll ps' (bp.map Piece.trimmed) := by
  induction hv with
  | nil =>
    cases bp with
    | none => exact ⟨[], .nil, rfl, rfl⟩
    | some p => exact ⟨[], .nil, rfl, rtrim_render (hb p rfl)⟩
  | @cons names o gs' ps' ho hrest ih =>
    obtain ⟨ps1, hv1, hc1, hr1⟩ := ih fun ns hn => hend ns (List.mem_cons_of_mem _ hn)
    by_cases hR : renderAll ps1 (bp.map Piece.trimmed) = []
    · cases o with
      | none => exact ⟨none :: ps1, hv1.cons_none, congrArg (capOf none :: ·) hc1, hr1⟩
      | some p =>
        refine ⟨some p.trimmed :: ps1, hv1.cons_some (ho p rfl).trimmed, ?_, ?_⟩
        · rw [List.map_cons, List.map_cons, hc1, capOf, capOf, p.trimmed_ds]
        · have := rtrim_render ((ho p rfl).trimOK (hend names (List.mem_cons_self ..)))
          rw [renderAll, renderAll, renderOpt, renderOpt, rtrim_append, hr1, hR, if_pos rfl, this,
            List.append_nil]
    · refine ⟨o :: ps1, .cons ho hv1, congrArg (capOf o :: ·) hc1, ?_⟩
      rw [renderAll, renderAll, rtrim_append, hr1, if_neg hR]

/-- `strings.TrimSpace` on a rendering surrounded by Unicode white space: the rendering with its
    last token trimmed -/
theorem trimSpace_render {gs : List (List String)} {ps : List (Option Piece)} {bp : Option Piece}
    {lead trail : List Char} (hv : PiecesOK gs ps)
    (hend : ∀ names ∈ gs, ∀ n ∈ names, LastOK n.toList) (hb : ∀ p, bp = some p → p.TrimOK)
    (hhead : DigitHead (renderOpt bp)) (hlead : AllUni lead) (htrail : AllUni trail)
    (hne : renderAll ps bp ≠ []) :
    ∃ ps', PiecesOK gs ps' ∧ ps'.map capOf = ps.map capOf ∧
      trimSpace (lead ++ (renderAll ps bp ++ trail)) = renderAll ps' (bp.map Piece.trimmed) ∧
      renderAll ps' (bp.map Piece.trimmed) ≠ [] := by
  obtain ⟨ps', hv', hc', hr'⟩ := rtrim_renderAll hv hend hb
  obtain ⟨d, t, hdt⟩ := List.exists_cons_of_ne_nil hne
  have hd : isUniSpace d = false := by
    have := renderAll_digitHead hv hhead
    rw [hdt] at this
    exact isDigit_not_uni this
  have hl : ltrim (lead ++ (renderAll ps bp ++ trail)) = renderAll ps bp ++ trail :=
    ltrim_append hlead (by rw [hdt]; exact hd)
  have hrt : rtrim (renderAll ps bp ++ trail) = rtrim (renderAll ps bp) := by
    rw [rtrim_append, rtrim_allUni htrail, if_pos rfl]
  refine ⟨ps', hv', hc', by rw [trimSpace_eq, hl, hrt, hr'], ?_⟩
  obtain ⟨t', ht'⟩ := rtrim_cons_head t hd
  rw [← hr', hdt, ht']
  exact List.cons_ne_nil _ _

def renderTotal (ps : List (Option Piece)) (bp : Option Piece) (ms : List Int) : Int :=
  capSum (ps.map capOf) ms + capVal (capOf bp)

/-- a unit name the grammar can carry: non-empty, free of ASCII digits and of RE2 white space
    (`\s`), and not ending in a character that `strings.TrimSpace` removes -/
def nameOKb (s : String) : Bool :=
  !s.toList.isEmpty && s.toList.all (fun c => !isDigit c && !isReWS c) &&
  (match s.toList.reverse with
   | [] => true
   | c :: _ => !isUniSpace c)

def unitOKb (n : UnitNames) : Bool := n.all.all nameOKb

/-- no name of the unit is exactly "." (a multiplier unit called "." makes "1.5s" ambiguous) -/
def noDotb (n : UnitNames) : Bool := n.all.all (fun x => x != ".")

def disjointb (a b : UnitNames) : Bool := a.all.all (fun x => b.all.all (fun y => x != y))

/-- Well-formed units definition, as far as the round-trip proof needs it:
    * every multiplier is ≥ 1 (Go itself needs ≥ 2 and pairwise distinct: the multipliers are map
      keys and the base unit occupies the group name `g1`; the proof does not use that);
    * every name (4 per unit) is non-empty, has no ASCII digit and no `\s` character, and does not
      end in a Unicode space;
    * no name of a multiplier unit is ".";
    * names of different units differ (names within one unit may coincide). -/
def WFu (u : Units) : Prop :=
  unitOKb u.base = true ∧
  (∀ x ∈ u.mults, 1 ≤ x.1 ∧ unitOKb x.2 = true ∧ noDotb x.2 = true ∧ disjointb x.2 u.base = true) ∧
  u.mults.Pairwise (fun a b => disjointb a.2 b.2 = true)

instance (u : Units) : Decidable (WFu u) := by unfold WFu; infer_instance

theorem nameOKb_spec {s : String} (h : nameOKb s = true) : NameOK s ∧ LastOK s.toList := by
  unfold nameOKb at h
  simp only [Bool.and_eq_true, List.all_eq_true, Bool.not_eq_eq_eq_not,
    Bool.not_true] at h
  obtain ⟨⟨h1, h2⟩, h3⟩ := h
  refine ⟨⟨?_, fun c hc => h2 c hc⟩, ?_⟩
  · intro e; rw [e] at h1; cases h1
  · unfold LastOK
    cases e : s.toList.reverse with
    | nil => trivial
    | cons c t => rw [e] at h3; simpa using h3

theorem unitOKb_spec {n : UnitNames} (h : unitOKb n = true) :
    ∀ x ∈ n.all, NameOK x ∧ LastOK x.toList :=
  fun x hx => nameOKb_spec (List.all_eq_true.mp h x hx)

theorem noDotb_spec {n : UnitNames} (h : noDotb n = true) : ∀ x ∈ n.all, x.toList ≠ ['.'] :=
  fun x hx => toList_ne_of_ne (bne_iff_ne.mp (List.all_eq_true.mp h x hx))

theorem disjointb_spec {a b : UnitNames} : disjointb a b = true ↔ ∀ x ∈ a.all, ∀ y ∈ b.all, x ≠ y := by
  unfold disjointb
  simp only [List.all_eq_true, bne_iff_ne, ne_eq]

theorem disjointb_symm {a b : UnitNames} (h : disjointb a b = true) : disjointb b a = true := by
  rw [disjointb_spec] at h ⊢
  exact fun x hx y hy => Ne.symm (h y hy x hx)

theorem insertDesc_perm (x : Int × UnitNames) (l : List (Int × UnitNames)) :
    (insertDesc x l).Perm (x :: l) := by
  induction l with
  | nil => exact List.Perm.refl _
  | cons y ys ih =>
    unfold insertDesc
    split
    · exact List.Perm.refl _
    · exact (List.Perm.cons y ih).trans (List.Perm.swap x y ys)

theorem sortDesc_perm (l : List (Int × UnitNames)) : (sortDesc l).Perm l := by
  induction l with
  | nil => exact List.Perm.refl _
  | cons x xs ih => exact (insertDesc_perm x _).trans (List.Perm.cons x ih)

/-- names end with a character `strings.TrimSpace` does not remove -/
def NamesEndOK (gs : List (List String)) (base : List String) : Prop :=
  (∀ names ∈ gs, ∀ n ∈ names, LastOK n.toList) ∧ (∀ n ∈ base, LastOK n.toList)

theorem WFu.groupsWF {u : Units} (h : WFu u) :
    GroupsWF ((sortDesc u.mults).map (·.2.all)) u.base.all ∧
    NamesEndOK ((sortDesc u.mults).map (·.2.all)) u.base.all ∧
    (∀ m ∈ (sortDesc u.mults).map (·.1), 1 ≤ m) := by
  obtain ⟨hb, hm, hp⟩ := h
  have hperm := sortDesc_perm u.mults
  have hm' : ∀ x ∈ sortDesc u.mults, 1 ≤ x.1 ∧ unitOKb x.2 = true ∧ noDotb x.2 = true ∧
      disjointb x.2 u.base = true := fun x hx => hm x (hperm.mem_iff.mp hx)
  have hp' : (sortDesc u.mults).Pairwise (fun a b => disjointb a.2 b.2 = true) :=
    (hperm.pairwise_iff (fun {_ _} h => disjointb_symm h)).mpr hp
  refine ⟨⟨?_, ?_, ?_, ?_⟩, ⟨?_, ?_⟩, ?_⟩
  · intro names hn n hnn
    obtain ⟨x, hx, rfl⟩ := List.mem_map.mp hn
    obtain ⟨_, hok, hdot, _⟩ := hm' x hx
    exact ⟨(unitOKb_spec hok n hnn).1, noDotb_spec hdot n hnn⟩
  · exact fun n hn => (unitOKb_spec hb n hn).1
  · rw [List.pairwise_map]
    exact hp'.imp (fun {a b} h => disjointb_spec.mp h)
  · intro names hn x hx y hy
    obtain ⟨z, hz, rfl⟩ := List.mem_map.mp hn
    obtain ⟨_, _, _, hdis⟩ := hm' z hz
    exact disjointb_spec.mp hdis x hx y hy
  · intro names hn n hnn
    obtain ⟨x, hx, rfl⟩ := List.mem_map.mp hn
    obtain ⟨_, hok, _, _⟩ := hm' x hx
    exact (unitOKb_spec hok n hnn).2
  · exact fun n hn => (unitOKb_spec hb n hn).2
  · intro m hmm
    obtain ⟨x, hx, rfl⟩ := List.mem_map.mp hmm
    exact (hm' x hx).1

/-! ### the formatter produces a rendering of the grammar -/

theorem wrapInt64_id {x : Int} (h0 : 0 ≤ x) (h1 : x ≤ maxInt64) : wrapInt64 x = x := by
  unfold maxInt64 at h1
  unfold wrapInt64
  have : x % 2 ^ 64 = x := Int.emod_eq_of_lt h0 (by omega)
  simp only [this]
  split
  · omega
  · rfl

/-- quotient, remainder and their product when a non-negative `a` is divided by a positive `b` -/
structure DivStep (a b : Int) : Prop where
  quot_nonneg : 0 ≤ a / b
  prod_nonneg : 0 ≤ a / b * b
  prod_le : a / b * b ≤ a
  rem_nonneg : 0 ≤ a % b
  rem_le : a % b ≤ a
  sum : a / b * b + a % b = a
  rem_of_quot_zero : a / b = 0 → a % b = a

theorem ediv_emod_step {a b : Int} (h0 : 0 ≤ a) (hb : 1 ≤ b) : DivStep a b := by
  have h1 := Int.mul_ediv_add_emod a b
  have h2 := Int.emod_nonneg a (show b ≠ 0 by omega)
  have h3 : 0 ≤ a / b := Int.ediv_nonneg h0 (by omega)
  have h4 : 0 ≤ a / b * b := Int.mul_nonneg h3 (by omega)
  rw [Int.mul_comm b (a / b)] at h1
  refine ⟨h3, h4, by omega, h2, by omega, h1, fun hz => ?_⟩
  rw [hz, Int.zero_mul] at h1
  omega

theorem floorDiv_nonneg {a b : Int} (h0 : 0 ≤ a) (h1 : a ≤ maxInt64) (hb : 1 ≤ b) :
    floorDiv a b = a / b := by
  have d := ediv_emod_step h0 hb
  have hq' : a / b * 1 ≤ a / b * b := Int.mul_le_mul_of_nonneg_left hb d.quot_nonneg
  have hp := d.prod_le
  unfold floorDiv
  have ha : decide (a < 0) = false := by simp; omega
  have hb' : decide (b < 0) = false := by simp; omega
  simp only [ha, hb', Int.tdiv_eq_ediv_of_nonneg h0, bne_self_eq_false, Bool.and_false,
    Bool.false_eq_true, if_false]
  exact wrapInt64_id d.quot_nonneg (by omega)

/-- on a non-negative remainder the int64 arithmetic of the loop is exact: quotient and remainder -/
theorem fmtGroups_cons_nonneg (f : Int → UnitNames → Bool → String) (base : UnitNames) (m : Int)
    (nm : UnitNames) (ms : List (Int × UnitNames)) {rem : Int} (h0 : 0 ≤ rem) (h1 : rem ≤ maxInt64)
    (hm : 1 ≤ m) :
    fmtGroups f base ((m, nm) :: ms) rem = f (rem / m) nm false ++ fmtGroups f base ms (rem % m) := by
  have d := ediv_emod_step h0 hm
  rw [fmtGroups, floorDiv_nonneg h0 h1 hm, wrapInt64_id d.prod_nonneg (Int.le_trans d.prod_le h1),
    show rem - rem / m * m = rem % m by have := d.sum; omega,
    wrapInt64_id d.rem_nonneg (Int.le_trans d.rem_le h1)]

/-- what the proof needs of `formatNumberUnitShort/Long` on a non-negative count -/
def FmtSpec (f : Int → UnitNames → Bool → String) : Prop :=
  ∀ (c : Int) (nm : UnitNames), 0 ≤ c →
    (c = 0 → f c nm false = "") ∧
    (c ≠ 0 → ∃ n ∈ nm.all, (f c nm false).toList = Nat.toDigits 10 c.toNat ++ n.toList)

/-- `formatNumberUnitShort` and `formatNumberUnitLong` with the choice of the two names left open -/
def fmtCount (one many : UnitNames → String) (amount : Int) (u : UnitNames) (displayZero : Bool) :
    String :=
  if amount == 1 || amount == -1 then fmtInt amount ++ one u
  else if amount != 0 then fmtInt amount ++ many u
  else if displayZero then fmtInt amount ++ many u
  else ""

theorem fmtCountShort_eq : fmtCountShort = fmtCount (·.ss) (·.sp) := rfl
theorem fmtCountLong_eq : fmtCountLong = fmtCount (·.ls) (·.lp) := rfl

theorem fmtCount_spec {one many : UnitNames → String} (h1 : ∀ u, one u ∈ u.all)
    (h2 : ∀ u, many u ∈ u.all) : FmtSpec (fmtCount one many) := by
  intro c nm hc
  refine ⟨by rintro rfl; rfl, fun hne => ?_⟩
  unfold fmtCount
  by_cases h : c = 1
  · subst h
    exact ⟨one nm, h1 nm, by simp [String.toList_append, fmtInt_nonneg hc]⟩
  · have e1 : (c == 1 || c == -1) = false := by simp; omega
    have e2 : (c != 0) = true := by simpa using hne
    exact ⟨many nm, h2 nm, by simp [e1, e2, String.toList_append, fmtInt_nonneg hc]⟩

theorem fmtCount_zero (one many : UnitNames → String) (u : UnitNames) :
    (fmtCount one many 0 u true).toList = '0' :: (many u).toList := by
  simp [fmtCount, String.toList_append, fmtInt_nonneg, Nat.toDigits_of_lt_base]

/-- the token the formatter writes for a non-zero count -/
def mkPiece (c : Int) (n : String) : Piece := ⟨Nat.toDigits 10 c.toNat, [], n.toList, []⟩

theorem mkPiece_render (c : Int) (n : String) :
    (mkPiece c n).render = Nat.toDigits 10 c.toNat ++ n.toList := by
  simp [mkPiece, Piece.render]

theorem mkPiece_capVal (c : Int) (n : String) (hc : 0 ≤ c) : capVal (capOf (some (mkPiece c n))) = c := by
  simp only [capOf, mkPiece, capVal, String.toList_ofList, decVal_toDigits]
  exact Int.toNat_of_nonneg hc

theorem mkPiece_ok (c : Int) (n : String) (names : List String) (hn : n ∈ names) :
    PieceOK names (mkPiece c n) :=
  ⟨Nat.toDigits_ne_nil, toDigits_allDigits _, allWS_nil, allWS_nil, n, hn, rfl⟩

theorem mkPiece_baseOk (c : Int) (n : String) (names : List String) (hn : n ∈ names) :
    BasePieceOK names (mkPiece c n) :=
  ⟨Nat.toDigits_ne_nil, toDigits_allDigits _, allWS_nil, allWS_nil, Or.inr ⟨n, hn, rfl⟩⟩

theorem mkPiece_render_ne_nil (c : Int) (n : String) (r : List Char) : (mkPiece c n).render ++ r ≠ [] :=
  fun h => Nat.toDigits_ne_nil (List.append_eq_nil_iff.mp (List.append_eq_nil_iff.mp h).1).1

theorem fmtGroups_render (f : Int → UnitNames → Bool → String) (hf : FmtSpec f) (base : UnitNames)
    (sorted : List (Int × UnitNames)) (rem : Int) (h0 : 0 ≤ rem) (h1 : rem ≤ maxInt64)
    (hm : ∀ x ∈ sorted, 1 ≤ x.1) :
    ∃ ps bp, PiecesOK (sorted.map (·.2.all)) ps ∧ BaseOK base.all bp ∧
      (fmtGroups f base sorted rem).toList = renderAll ps bp ∧
      renderTotal ps bp (sorted.map (·.1)) = rem ∧ (0 < rem → renderAll ps bp ≠ []) := by
  induction sorted generalizing rem with
  | nil =>
    obtain ⟨hz, hnz⟩ := hf rem base h0
    by_cases e : rem = 0
    · refine ⟨[], none, .nil, baseOK_none, ?_, ?_, fun h => by omega⟩
      · rw [fmtGroups, hz e, String.toList_empty]; rfl
      · rw [e, renderTotal, capOf_none, capVal_empty]; rfl
    · obtain ⟨n, hn, hl⟩ := hnz e
      refine ⟨[], some (mkPiece rem n), .nil, baseOK_some.mpr (mkPiece_baseOk rem n _ hn), ?_, ?_,
        fun _ => ?_⟩
      · rw [fmtGroups, hl, renderAll, renderOpt, mkPiece_render]
      · rw [renderTotal, mkPiece_capVal rem n h0]; exact Int.zero_add _
      · have := mkPiece_render_ne_nil rem n []
        rwa [List.append_nil] at this
  | cons x xs ih =>
    obtain ⟨m, nm⟩ := x
    have hm1 : 1 ≤ m := hm (m, nm) (List.mem_cons_self ..)
    have d := ediv_emod_step h0 hm1
    obtain ⟨ps, bp, hv, hb, hl, ht, hne⟩ :=
      ih (rem % m) d.rem_nonneg (Int.le_trans d.rem_le h1) (fun y hy => hm y (List.mem_cons_of_mem _ hy))
    obtain ⟨hz, hnz⟩ := hf (rem / m) nm d.quot_nonneg
    rw [fmtGroups_cons_nonneg f base m nm xs h0 h1 hm1, String.toList_append, hl]
    unfold renderTotal at ht ⊢
    by_cases e : rem / m = 0
    · refine ⟨none :: ps, bp, hv.cons_none, hb, by rw [hz e, String.toList_empty]; rfl, ?_,
        fun h => hne (by rw [d.rem_of_quot_zero e]; exact h)⟩
      show capVal "" * m + capSum (ps.map capOf) (xs.map (·.1)) + capVal (capOf bp) = rem
      rw [capVal_empty, Int.zero_mul, Int.zero_add, ht, d.rem_of_quot_zero e]
    · obtain ⟨n, hn, hl'⟩ := hnz e
      refine ⟨some (mkPiece (rem / m) n) :: ps, bp, hv.cons_some (mkPiece_ok _ n _ hn), hb, ?_, ?_,
        fun _ => mkPiece_render_ne_nil _ n _⟩
      · rw [hl', renderAll, renderOpt, mkPiece_render]
      · show capVal (capOf (some (mkPiece (rem / m) n))) * m + capSum (ps.map capOf) (xs.map (·.1)) +
          capVal (capOf bp) = rem
        rw [mkPiece_capVal _ n d.quot_nonneg, Int.add_assoc, ht, d.sum]

end Arca
