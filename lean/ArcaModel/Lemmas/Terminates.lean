import ArcaModel.Lemmas.Stuck
/-
  Termination on acyclic schemas, for `C04_terminates_acyclic`, `C04_acyclic_result` and
  `C04_total_acyclic`: `run` does not run out of fuel.

  * `Out.Halts o` : the outcome is not `fuel` (`Avoids .fuel o`, whose lemmas are used).
  * `FinDepth env t d` : the schema `t` unfolds (following references through `env`) to depth at most `d`.
  * `fin_halts` : `FinDepth env t d → 2 * d + V.depth v + 1 ≤ n → run x n op env t v ≠ .fuel`.
  * `finB` : executable check, sound for `FinDepth`.
-/
namespace Arca

def Out.Halts {α} (o : Out α) : Prop := o ≠ .fuel

open Out

/-- what the hypotheses of the object lemmas say about the recursive call `rec` on value `v` -/
structure ObjRecHalts (rec : Rec) (env : Env) (props : List (String × PropT)) (v : V) : Prop where
  /-- the single-property shorthand hands the value itself to the property's type -/
  single : ∀ name p, props = [(name, p)] → v.mapEntries? = none → p.disabled = false → Halts (rec .U env p.ty v)
  /-- the entries of a map value -/
  entries : ∀ sh kvs, v.mapEntries? = some (sh, kvs) → ∀ k e, (k, e) ∈ kvs →
    ∀ np, np ∈ props → ∀ op, Halts (rec op env np.2.ty e)
  /-- the declared defaults: the default of a property is fed to the type found under its name -/
  defaults : ∀ np, np ∈ props → ∀ np', np' ∈ props → np'.1 = np.1 → ∀ dv, np'.2.defaultV = some (some dv) →
    Halts (rec .U env np.2.ty dv)

theorem halts_runObj {rec : Rec} {env : Env} {id : String} {props : List (String × PropT)} {v : V}
    (h : ObjRecHalts rec env props v) {op : Op} (hself : op = .C → Halts (rec .U env (.obj id props) v)) :
    Halts (runObj rec op env id props v) :=
  avoids_runObj (s := .fuel) (fun _ => avoids_objRaw nofun h.single (fun sh kvs hkvs k e he np hnp =>
      h.entries sh kvs hkvs k e he np hnp .U) h.defaults)
    (fun sh kvs hkvs k e he np hnp op' _ => h.entries sh kvs hkvs k e he np hnp op') hself

/-- an object with two units of fuel: one for the operation, one for the Unserialize that data-mode
    compatibility of a non-map value falls back to -/
theorem halts_run_obj (x : Ext) {env : Env} {id : String} {props : List (String × PropT)} {v : V} {m : Nat}
    (h0 : ObjRecHalts (run x m) env props v) (h1 : ObjRecHalts (run x (m + 1)) env props v) (op : Op) :
    Halts (runObj (run x (m + 1)) op env id props v) :=
  halts_runObj h1 fun _ => by
    rw [run]
    exact halts_runObj h0 nofun

def PropT.defDepth (p : PropT) : Nat :=
  match p.defaultV with
  | some (some dv) => dv.depth
  | _ => 0

/-- `FinDepth env t d`: the schema `t`, with references followed through `env` (and through the
    objects of a scope inside the scope), unfolds to a finite tree of fewer than `d + 1` levels;
    the defaults of an object's properties count with their own depth, because a default is a value
    that is fed to the property's type. Being inductive, the predicate holds of no schema whose
    unfolding runs through a reference cycle. A dangling reference counts as a leaf (it panics at
    once). -/
inductive FinDepth : Env → Ty → Nat → Prop
  | int {env a b u d} : FinDepth env (.int a b u) d
  | float {env a b u d} : FinDepth env (.float a b u) d
  | str {env a b p d} : FinDepth env (.str a b p) d
  | bool {env d} : FinDepth env .bool d
  | pattern {env d} : FinDepth env .pattern d
  | enumInt {env vs u d} : FinDepth env (.enumInt vs u) d
  | enumStr {env vs d} : FinDepth env (.enumStr vs) d
  | any {env d} : FinDepth env .any d
  | list {env item a b d d'} : FinDepth env item d → d < d' → FinDepth env (.list item a b) d'
  | map {env k v a b d d'} : FinDepth env k d → FinDepth env v d → d < d' → FinDepth env (.map k v a b) d'
  | obj {env id props d e d'} :
      (∀ np, np ∈ props → FinDepth env np.2.ty d) → (∀ np, np ∈ props → np.2.defDepth ≤ e) → d + e < d' →
      FinDepth env (.obj id props) d'
  | oneOf {env ik disc inl members d d'} :
      (∀ m, m ∈ members → FinDepth env m.2 d) → d < d' → FinDepth env (.oneOf ik disc inl members) d'
  | ref {env id o d d'} : lookupS id env = some o → FinDepth env o d → d < d' → FinDepth env (.ref id) d'
  | refNone {env id d} : lookupS id env = none → FinDepth env (.ref id) d
  | scope {env objs root o d d'} :
      lookupS root objs = some o → FinDepth objs o d → d < d' → FinDepth env (.scope objs root) d'
  | scopeNone {env objs root d} : lookupS root objs = none → FinDepth env (.scope objs root) d

theorem FinDepth.mono {env : Env} {t : Ty} {d d' : Nat} (h : FinDepth env t d) (hd : d ≤ d') : FinDepth env t d' := by
  cases h with
  | list h hlt => exact .list h (Nat.lt_of_lt_of_le hlt hd)
  | map hk hv hlt => exact .map hk hv (Nat.lt_of_lt_of_le hlt hd)
  | obj hp he hlt => exact .obj hp he (Nat.lt_of_lt_of_le hlt hd)
  | oneOf hm hlt => exact .oneOf hm (Nat.lt_of_lt_of_le hlt hd)
  | ref hl h hlt => exact .ref hl h (Nat.lt_of_lt_of_le hlt hd)
  | refNone hl => exact .refNone hl
  | scope hl h hlt => exact .scope hl h (Nat.lt_of_lt_of_le hlt hd)
  | scopeNone hl => exact .scopeNone hl
  | _ => constructor

theorem defDepth_of_default {p : PropT} {dv : V} (h : p.defaultV = some (some dv)) : dv.depth = p.defDepth := by
  simp [PropT.defDepth, h]

/-- the budget left for a sub-schema (`d < d'`) on a value no deeper, one unit spent -/
theorem fin_budget {d d' a b n : Nat} (hd : d < d') (ha : a ≤ b) (hn : 2 * d' + b + 1 ≤ n + 1) :
    2 * d + a + 1 ≤ n := by omega

/-- the same for the properties of an object (`e` bounds the depth of the defaults), two units spent -/
theorem fin_budget_obj {d e d' a b m m' : Nat} (hd : d + e < d') (ha : a ≤ b + e) (hn : 2 * d' + b + 1 ≤ m + 1 + 1)
    (hm : m ≤ m') : 2 * d + a + 1 ≤ m' := by omega

/-- Acyclic schemas terminate on every input: a budget of twice the unfolding depth of the schema
    plus the nesting depth of the value (plus one) is never exhausted. (Twice, because data-mode
    compatibility of a non-map value against an object first unserializes it with the same object.) -/
theorem fin_halts (x : Ext) (n : Nat) : ∀ {env : Env} {t : Ty} {d : Nat}, FinDepth env t d → ∀ (op : Op) (v : V),
    2 * d + v.depth + 1 ≤ n → Halts (run x n op env t v) := by
  induction n using Nat.strongRecOn with
  | _ n ih =>
    intro env t d h op v hn
    cases n with
    | zero => exact absurd hn (Nat.not_succ_le_zero _)
    | succ n =>
    have sub : ∀ {env t d}, FinDepth env t d → ∀ op w, 2 * d + w.depth + 1 ≤ n → Avoids .fuel (run x n op env t w) :=
      ih n (Nat.lt_succ_self n)
    show Avoids .fuel _
    simp only [run]
    cases h with
    | any => exact avoids_runAny _ _ _ fun _ => Nat.lt_of_lt_of_le (Nat.lt_succ_of_le (Nat.le_add_left ..)) hn
    | list hi hlt =>
      exact avoids_runList (fun xs hxs e he op' _ =>
        sub hi op' e (fin_budget hlt (Nat.le_of_succ_le (depth_sliceElems hxs he)) hn)) _ _
    | map hk hv hlt =>
      exact avoids_runMap (fun sh kvs hkvs k e he op' _ =>
        ⟨sub hk op' k (fin_budget hlt (Nat.le_of_succ_le (depth_mapEntries hkvs he).1) hn),
         sub hv op' e (fin_budget hlt (Nat.le_of_succ_le (depth_mapEntries hkvs he).2) hn)⟩) _ _
    | @obj _ id props d e d' hp he hlt =>
      cases n with
      | zero => omega
      | succ m =>
      have key : ∀ m', m ≤ m' → m' < m + 1 + 1 → ObjRecHalts (run x m') env props v := fun m' hm hlt' =>
        { single := fun name p hp' _ _ => ih m' hlt' (hp (name, p) (hp' ▸ List.mem_singleton_self _)) .U v
            (fin_budget_obj hlt (Nat.le_add_right ..) hn hm)
          entries := fun sh kvs hkvs k e' hke np hnp op => ih m' hlt' (hp np hnp) op e'
            (fin_budget_obj hlt (Nat.le_add_right_of_le (Nat.le_of_succ_le (depth_mapEntries hkvs hke).2)) hn hm)
          defaults := fun np hnp np' hnp' _ dv hdv => ih m' hlt' (hp np hnp) .U dv
            (fin_budget_obj hlt (Nat.le_trans (defDepth_of_default hdv ▸ he np' hnp') (Nat.le_add_left ..)) hn hm) }
      exact halts_run_obj x (key m (Nat.le_refl _) (Nat.lt_succ_of_le (Nat.le_succ _)))
        (key (m + 1) (Nat.le_succ _) (Nat.lt_succ_self _)) op
    | oneOf hm hlt =>
      exact avoids_runOneOf (fun sh kvs sm hkvs hsm mem hmem op' _ =>
        sub (hm mem hmem) op' _ (fin_budget hlt (depth_clone_le hkvs hsm _ _) hn)) nofun
    | ref hl h' hlt =>
      simp only [hl]
      exact sub h' op v (fin_budget hlt (Nat.le_refl _) hn)
    | refNone hl => simp [hl]
    | scope hl h' hlt =>
      simp only [hl]
      exact sub h' op v (fin_budget hlt (Nat.le_refl _) hn)
    | scopeNone hl => simp [hl]
    | _ => simp

def maxOpt : List (Option Nat) → Option Nat
  | [] => some 0
  | none :: _ => none
  | some a :: rest => (maxOpt rest).map (max a)

theorem maxOpt_some : ∀ {l : List (Option Nat)} {d : Nat}, maxOpt l = some d →
    ∀ o, o ∈ l → ∃ a, o = some a ∧ a ≤ d
  | [], _, _, o, ho => by cases ho
  | none :: _, _, h, _, _ => by simp [maxOpt] at h
  | some a :: rest, d, h, o, ho => by
    simp only [maxOpt, Option.map_eq_some_iff] at h
    obtain ⟨r, hr, rfl⟩ := h
    rcases List.mem_cons.mp ho with rfl | ho
    · exact ⟨a, rfl, by omega⟩
    · obtain ⟨a', ha', hle⟩ := maxOpt_some hr o ho
      exact ⟨a', ha', by omega⟩

def maxDefDepth : List (String × PropT) → Nat
  | [] => 0
  | np :: rest => max np.2.defDepth (maxDefDepth rest)

theorem maxDefDepth_mem : ∀ {props : List (String × PropT)} {np : String × PropT}, np ∈ props →
    np.2.defDepth ≤ maxDefDepth props
  | [], _, h => by cases h
  | a :: rest, np, h => by
    simp only [maxDefDepth]
    rcases List.mem_cons.mp h with rfl | h
    · omega
    · have := maxDefDepth_mem h; omega

/-- fuelled computation of the unfolding depth; `none`: not finite within the budget `k` -/
def finB : Nat → Env → Ty → Option Nat
  | 0, _, _ => none
  | k + 1, env, t =>
    match t with
    | .int _ _ _ | .float _ _ _ | .str _ _ _ | .bool | .pattern | .enumInt _ _ | .enumStr _ | .any => some 0
    | .list item _ _ => (finB k env item).map (· + 1)
    | .map kt vt _ _ => (maxOpt [finB k env kt, finB k env vt]).map (· + 1)
    | .obj _ props => (maxOpt (props.map fun np => finB k env np.2.ty)).map (· + maxDefDepth props + 1)
    | .oneOf _ _ _ members => (maxOpt (members.map fun m => finB k env m.2)).map (· + 1)
    | .ref id => match lookupS id env with
      | none => some 0
      | some o => (finB k env o).map (· + 1)
    | .scope objs root => match lookupS root objs with
      | none => some 0
      | some o => (finB k objs o).map (· + 1)

/-- a reference or scope root: dangling, or one step more than what it resolves to -/
theorem refDepth_some {P : Ty → Nat → Prop} {B : Ty → Option Nat} (hB : ∀ t d, B t = some d → P t d)
    {o : Option Ty} {d : Nat} (h : (match o with | none => some 0 | some t => (B t).map (· + 1)) = some d) :
    o = none ∨ ∃ t d0, o = some t ∧ P t d0 ∧ d0 < d := by
  cases o with
  | none => exact .inl rfl
  | some t =>
    obtain ⟨d0, h0, rfl⟩ := Option.map_eq_some_iff.mp h
    exact .inr ⟨t, d0, rfl, hB t d0 h0, Nat.lt_succ_self _⟩

theorem finB_sound : ∀ (k : Nat) (env : Env) (t : Ty) (d : Nat), finB k env t = some d → FinDepth env t d
  | 0, _, _, _, h => by simp [finB] at h
  | k + 1, env, t, d, h => by
    have ih := finB_sound k
    cases t with
    | list item a b =>
      simp only [finB, Option.map_eq_some_iff] at h
      obtain ⟨d0, h0, rfl⟩ := h
      exact .list (ih _ _ _ h0) (Nat.lt_succ_self _)
    | map kt vt a b =>
      simp only [finB, Option.map_eq_some_iff] at h
      obtain ⟨d0, h0, rfl⟩ := h
      obtain ⟨dk, hk, hkle⟩ := maxOpt_some h0 (finB k env kt) (by simp)
      obtain ⟨dv, hv, hvle⟩ := maxOpt_some h0 (finB k env vt) (by simp)
      exact .map ((ih _ _ _ hk).mono hkle) ((ih _ _ _ hv).mono hvle) (Nat.lt_succ_self _)
    | obj id props =>
      simp only [finB, Option.map_eq_some_iff] at h
      obtain ⟨d0, h0, rfl⟩ := h
      refine .obj (d := d0) (e := maxDefDepth props) (fun np hnp => ?_) (fun np hnp => maxDefDepth_mem hnp) (Nat.lt_succ_self _)
      obtain ⟨a, ha, hle⟩ := maxOpt_some h0 (finB k env np.2.ty) (List.mem_map.mpr ⟨np, hnp, rfl⟩)
      exact (ih _ _ _ ha).mono hle
    | oneOf ik disc inl members =>
      simp only [finB, Option.map_eq_some_iff] at h
      obtain ⟨d0, h0, rfl⟩ := h
      refine .oneOf (d := d0) (fun m hm => ?_) (Nat.lt_succ_self _)
      obtain ⟨a, ha, hle⟩ := maxOpt_some h0 (finB k env m.2) (List.mem_map.mpr ⟨m, hm, rfl⟩)
      exact (ih _ _ _ ha).mono hle
    | ref id =>
      rcases refDepth_some (ih env) h with hl | ⟨o, d0, hl, h0, hlt⟩
      · exact .refNone hl
      · exact .ref hl h0 hlt
    | scope objs root =>
      rcases refDepth_some (ih objs) h with hl | ⟨o, d0, hl, h0, hlt⟩
      · exact .scopeNone hl
      · exact .scope hl h0 hlt
    | _ => constructor

end Arca
