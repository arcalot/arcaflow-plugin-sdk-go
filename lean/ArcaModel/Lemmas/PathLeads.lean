import ArcaModel.Props.C03
import ArcaModel.Lemmas.Termination
/-
  Where an error path leads.

  Positions (`Pos`), the one-segment navigation relation `PathStep`, its closure `Leads`, and what
  stands at the end of a path: `FailsHere`, `NamesProperty`, `RejectedBelow`.

  `ErrFrom` lists the ways in which one level of a schema comes by an error - it raises it, or it is
  the error of a position one `PathStep` below, with or without the step's segment - and
  `run_errFrom` shows, kind by kind, that the model knows no other way. `verdict` composes the
  levels by induction on the fuel.

  The property-level statements are in `Props/C17.lean`.
-/
namespace Arca
open Out

/-- the operation a container's pass runs on its elements: the same one, and Serialize validates
    every element first -/
def SubOp (op op' : Op) : Prop := op' = op ∨ (op = .S ∧ op' = .V)

/-- The property map an object's Unserialize works on: the supplied entries followed by the
    defaults of absent properties; for the single-property shorthand, the lone value under the
    single property's name. `none` when the level rejects before looking at any property. -/
def objInput (props : List (String × PropT)) (v : V) : Option (List (String × V)) :=
  match v.mapEntries? with
  | none =>
    match props with
    | [(name, _)] => some [(name, v)]
    | _ => none
  | some (_, kvs) =>
    match strKeys? kvs with
    | none => none
    | some skvs =>
      match applyDefaults props skvs with
      | .ok m => some m
      | _ => none

/-- The property values an object level hands to its property schemas under operation `op`:
    `objInput` for Unserialize, the entries of the `map[string]any` for the operations on native
    values. -/
def objEntries (op : Op) (props : List (String × PropT)) (v : V) : Option (List (String × V)) :=
  match op with
  | .U => objInput props v
  | _ =>
    match v with
    | .map ⟨.string, true⟩ kvs => strKeys? kvs
    | _ => none

/-- the discriminator of a NATIVE value is exactly typed: an `int64` for an integer-keyed one-of,
    a `string` otherwise (`selectMember`); compare `DiscDenotes` for raw input -/
def NativeDisc (intKey : Bool) (d : V) (key : Key) : Prop :=
  if intKey then ∃ n, d = .int .int64 n ∧ key = .i n else ∃ s, d = .str s ∧ key = .s s

/-- the Go values the any-schema's data-mode compatibility check treats natively (everything
    else is checked by converting it as Unserialize would) -/
def anyCompatNative : V → Bool
  | .map ⟨.string, true⟩ _ | .map ⟨.int64, true⟩ _ | .map ⟨.any, true⟩ _ | .list _ => true
  | _ => false


/-- the operation under which an any-schema looks at the elements of a slice or map: the same one;
    except that the data-mode compatibility check, on a value it does not treat natively, runs
    the Unserialize conversion -/
def AnySub (op : Op) (v : V) (op' : Op) : Prop :=
  (op ≠ .C ∧ op' = op) ∨ (op = .C ∧ anyCompatNative v = false ∧ op' = .U)

/-- A position inside a schema and a value: the operation performed there, the objects of the
    enclosing scope, the sub-schema and the sub-value. -/
structure Pos where
  op : Op
  env : Env
  ty : Ty
  val : V

def Pos.run (x : Ext) (n : Nat) (p : Pos) : Out V := Arca.run x n p.op p.env p.ty p.val

/-- `PathStep x p segs q`: one level of the schema at position `p` hands the sub-value of `q` to the
    sub-schema of `q`, and labels it with the path segments `segs` (one segment, or none).
    There is one constructor per place where the model calls a sub-schema:

    * `ref`, `scope`: no segment; a scope switches the environment to its own objects;
    * `listItem`: `[i]` into the i-th element of a slice value (`[]byte` counts as a slice of `uint8`);
    * `mapKey`, `mapValue`: `{k}` to a key under the key schema, `[k]` to its value under the value
      schema, `k` = the RAW key printed with `%v` (`fmtKey`);
    * `property`: the property name, into the property's value. Under Unserialize the values are those of
      `objInput`: the supplied ones followed by the DEFAULTS of absent properties (so a path can lead
      to a declared default), or the lone value itself for the single-property shorthand. (The
      model never reports a path through the shorthand - it rewraps the property's error into a
      plain error with the empty path - so that use of the constructor never occurs in `Located`.)
    * `memberU`, `memberS`: no segment, one-of to the member selected by the discriminator; the member
      sees the map with the discriminator removed unless the one-of is inlined. Under Unserialize
      the discriminator is converted leniently (`DiscDenotes`), on native values it is exactly
      typed (`NativeDisc`).
    * `memberV`: Validate labels the selected member with the segment `{oneof[key]}`;
    * `anyItem`, `anyKey`, `anyValue`: an any-schema descends into slices and maps (looking through
      a defined type) with the same segments as lists and maps, and stays an any-schema (`AnySub`:
      in data-mode compatibility only for values it does not treat natively, and then as Unserialize).

    Serialize validates every list element / map entry before serializing it, so from a Serialize
    position the container steps may also arrive at a Validate position (`SubOp`). -/
inductive PathStep (x : Ext) : Pos → List String → Pos → Prop
  | ref {op env id o v} : lookupS id env = some o → PathStep x ⟨op, env, .ref id, v⟩ [] ⟨op, env, o, v⟩
  | scope {op env objs root o v} : lookupS root objs = some o →
      PathStep x ⟨op, env, .scope objs root, v⟩ [] ⟨op, objs, o, v⟩
  | listItem {op op' env item mn mx v xs i a} : v.sliceElems? = some xs → xs[i]? = some a → SubOp op op' →
      PathStep x ⟨op, env, .list item mn mx, v⟩ [idxSeg i] ⟨op', env, item, a⟩
  | mapKey {op op' env kt vt mn mx v sh kvs k a} : v.mapEntries? = some (sh, kvs) → (k, a) ∈ kvs → SubOp op op' →
      PathStep x ⟨op, env, .map kt vt mn mx, v⟩ [keySeg k] ⟨op', env, kt, k⟩
  | mapValue {op op' env kt vt mn mx v sh kvs k a} : v.mapEntries? = some (sh, kvs) → (k, a) ∈ kvs → SubOp op op' →
      PathStep x ⟨op, env, .map kt vt mn mx, v⟩ [valSeg k] ⟨op', env, vt, a⟩
  | property {op env id props v m k d p} : objEntries op props v = some m → (k, d) ∈ m → lookupS k props = some p →
      PathStep x ⟨op, env, .obj id props, v⟩ [k] ⟨op, env, p.ty, d⟩
  | memberU {env ik disc inl ms sh kvs dk d key m mt} : (sh.key = .any ∨ sh.key = .string) →
      kvs.find? (isDiscKey disc) = some (dk, d) → DiscDenotes x ik d key → strKeys? kvs = some m →
      lookupK key ms = some mt →
      PathStep x ⟨.U, env, .oneOf ik disc inl ms, .map sh kvs⟩ []
        ⟨.U, env, mt, toStrAny (if inl then m else eraseKey disc m)⟩
  | memberV {env ik disc inl ms kvs d key m mt} : strKeys? kvs = some m → lookupS disc m = some d →
      NativeDisc ik d key → lookupK key ms = some mt →
      PathStep x ⟨.V, env, .oneOf ik disc inl ms, .map ⟨.string, true⟩ kvs⟩ ["{oneof[" ++ key.fmt ++ "]}"]
        ⟨.V, env, mt, toStrAny (if inl then m else eraseKey disc m)⟩
  | memberS {env ik disc inl ms kvs d key m mt} : strKeys? kvs = some m → lookupS disc m = some d →
      NativeDisc ik d key → lookupK key ms = some mt →
      PathStep x ⟨.S, env, .oneOf ik disc inl ms, .map ⟨.string, true⟩ kvs⟩ []
        ⟨.S, env, mt, toStrAny (if inl then m else eraseKey disc m)⟩
  | anyItem {op op' env v xs i a} : AnySub op v op' → v.under.sliceElems? = some xs → xs[i]? = some a →
      PathStep x ⟨op, env, .any, v⟩ [idxSeg i] ⟨op', env, .any, a⟩
  | anyKey {op op' env v sh kvs k a} : AnySub op v op' → v.under = .map sh kvs → (k, a) ∈ kvs →
      PathStep x ⟨op, env, .any, v⟩ [keySeg k] ⟨op', env, .any, k⟩
  | anyValue {op op' env v sh kvs k a} : AnySub op v op' → v.under = .map sh kvs → (k, a) ∈ kvs →
      PathStep x ⟨op, env, .any, v⟩ [valSeg k] ⟨op', env, .any, a⟩

/-- `Leads x p path q`: following the path segment by segment from position `p` one arrives at
    position `q`. Steps without a segment (reference, scope, one-of member) may occur anywhere. -/
inductive Leads (x : Ext) : Pos → List String → Pos → Prop
  | here {p} : Leads x p [] p
  | step {p q r segs path} : PathStep x p segs q → Leads x q path r → Leads x p (segs ++ path) r

/-- `FailsHere x n q`: the position `q` is rejected BY ITS OWN LEVEL. The operation at `q`, run on its
    own (sub-schema on sub-value, budget `n`), returns an error whose path is EMPTY - so the
    fault is not further down a property, index or key - and no position that `q` hands its value
    to WITHOUT a segment (reference target, scope root, selected one-of member) is rejected, under
    any budget - so the fault is not theirs either. What remains is a wrong kind, a bound, length,
    pattern, enum, an undeclared or non-string key, a duplicate key, a bad discriminator. -/
def FailsHere (x : Ext) (n : Nat) (q : Pos) : Prop :=
  (∃ c, q.run x n = .err ⟨c, []⟩) ∧ ∀ r, PathStep x q [] r → ∀ k e, r.run x k ≠ .err e

/-- `NamesProperty x n q name`: `q` is an object level that rejects its value and reports it under the
    NAME OF ONE OF ITS OWN DECLARED PROPERTIES although that property's value is not what is
    wrong: either the property's presence rule (required, required-if, required-if-not,
    conflicts - `RuleHolds`) is violated on the set of present properties - typically the
    property is ABSENT, so there is no sub-value to lead to - or (Unserialize and data-mode
    compatibility only) the property is present but disabled. The error is a constraint error
    with the one-segment path `[name]`. -/
def NamesProperty (x : Ext) (n : Nat) (q : Pos) (name : String) : Prop :=
  q.run x n = .err ⟨true, [name]⟩ ∧
  ∃ id props p m, q.ty = .obj id props ∧ (name, p) ∈ props ∧ objEntries q.op props q.val = some m ∧
    (¬ RuleHolds (fun k => hasKey k m) name p ∨
     ((q.op = .U ∨ q.op = .C) ∧ p.disabled = true ∧ ∃ d, (name, d) ∈ m))

/-- The three places where the model produces an error that is NOT a `ConstraintError`:
    the any-schema (a value of a defined integer / float32 type, a uint64 beyond int64),
    a one-of unserializing `nil`, and the single-property shorthand of an object (disabled
    property, or the property's own error rewrapped with `fmt.Errorf`). -/
def PlainSite (q : Pos) : Prop :=
  q.ty = .any ∨
  (q.op = .U ∧ ((∃ ik d inl ms, q.ty = .oneOf ik d inl ms ∧ q.val = .nil) ∨
                (∃ id name p, q.ty = .obj id [(name, p)] ∧ q.val.mapEntries? = none)))

/-- `RejectedBelow x n q`: the data-mode compatibility check at `q` rejects, with whatever path: the
    object level above `q` DISCARDED that path (it builds a fresh error carrying only the property
    name), so the fault is at `q` or anywhere inside it. -/
def RejectedBelow (x : Ext) (n : Nat) (q : Pos) : Prop := q.op = .C ∧ ∃ e, q.run x n = .err e

theorem Pos.run_mono {x : Ext} {n : Nat} {q : Pos} {e : Err} (h : q.run x n = .err e) : q.run x (n + 1) = .err e :=
  Arca.run_mono x n 1 q.op q.env q.ty q.val _ h (by simp)

theorem Pos.ok_never_err {x : Ext} {n : Nat} {q : Pos} {a : V} (h : q.run x n = .ok a) (k : Nat) (e : Err) :
    q.run x k ≠ .err e := by
  intro hk
  have h1 := Arca.run_mono x n k q.op q.env q.ty q.val _ h nofun
  have h2 := Arca.run_mono x k n q.op q.env q.ty q.val _ hk nofun
  rw [Nat.add_comm, h1] at h2
  cases h2

namespace Out

namespace OnErr
variable {α β : Type} {P Q : Err → Prop}

theorem forIdx {f : Nat → V → Out V} {xs : List V} (h : ∀ i a, xs[i]? = some a → OnErr P (f i a)) :
    OnErr P (forIdx f 0 xs) := fun e he =>
  let ⟨i, a, hi, ha⟩ := forIdx_err he
  h i a hi e (Nat.zero_add i ▸ ha)

theorem forKV {f : V → V → Out (V × V)} {kvs : List (V × V)} (h : ∀ k a, (k, a) ∈ kvs → OnErr P (f k a)) :
    OnErr P (forKV f kvs) := fun e he =>
  let ⟨k, a, hm, ha⟩ := forKV_err he
  h k a hm e ha

theorem forSV {f : String → V → Out V} {kvs : List (String × V)} (h : ∀ k a, (k, a) ∈ kvs → OnErr P (f k a)) :
    OnErr P (forSV f kvs) := fun e he =>
  let ⟨k, a, hm, ha⟩ := forSV_err he
  h k a hm e ha

end OnErr

theorem own_cerr {α} : Own (cerr : Out α) := OnErr.cerr rfl
theorem own_rewrapC {α} {o : Out α} : Own (rewrapC o) := OnErr.rewrapC fun _ _ => rfl
theorem own_of_total {α} {o : Out α} {a : α} (h : o = .ok a ∨ o = .cerr) : Own o := by
  rcases h with h | h <;> rw [h]
  · exact .ok
  · exact own_cerr

end Out

/-- does the level hand its value on without a segment: to a reference's target, a scope's root, the
    member a one-of selects under Unserialize and Serialize? -/
def Pos.forwards (p : Pos) : Bool :=
  match p.ty, p.op with
  | .ref _, _ | .scope _ _, _ | .oneOf _ _ _ _, .U | .oneOf _ _ _ _, .S => true
  | _, _ => false

theorem PathStep.forwards {x : Ext} {p r : Pos} (h : PathStep x p [] r) : p.forwards = true := by
  cases h <;> rfl

theorem Pos.no_free {x : Ext} {p r : Pos} (hf : p.forwards = false) (h : PathStep x p [] r) : False :=
  Bool.noConfusion (hf.symm.trans h.forwards)

theorem nativeDisc_det {ik : Bool} {d : V} {k1 k2 : Key} (h1 : NativeDisc ik d k1) (h2 : NativeDisc ik d k2) :
    k1 = k2 := by
  unfold NativeDisc at h1 h2
  cases ik
  · obtain ⟨_, rfl, rfl⟩ := h1
    obtain ⟨_, hd, rfl⟩ := h2
    cases hd; rfl
  · obtain ⟨_, rfl, rfl⟩ := h1
    obtain ⟨_, hd, rfl⟩ := h2
    cases hd; rfl

/-- segment-free steps are deterministic: a reference has one target, a scope one root, a one-of
    one selected member -/
theorem PathStep.free_det {x : Ext} {p r1 r2 : Pos} (h1 : PathStep x p [] r1) (h2 : PathStep x p [] r2) : r1 = r2 := by
  cases h1 with
  | ref hl => cases h2 with | ref hl2 => rw [hl] at hl2; cases hl2; rfl
  | scope hl => cases h2 with | scope hl2 => rw [hl] at hl2; cases hl2; rfl
  | memberU hsh hfind hdisc hm hmt =>
    cases h2 with
    | memberU hsh2 hfind2 hdisc2 hm2 hmt2 =>
      rw [hfind] at hfind2; cases hfind2
      cases discDenotes_det hdisc hdisc2
      rw [hm] at hm2; cases hm2
      rw [hmt] at hmt2; cases hmt2
      rfl
  | memberS hm hd hnd hmt =>
    cases h2 with
    | memberS hm2 hd2 hnd2 hmt2 =>
      rw [hm] at hm2; cases hm2
      rw [hd] at hd2; cases hd2
      cases nativeDisc_det hnd hnd2
      rw [hmt] at hmt2; cases hmt2
      rfl

/-- `ErrFrom x n p e`: how the level at `p` comes by the error `e`, the positions one step below being run
    with budget `n`. One constructor per way in which the model produces an error. -/
inductive ErrFrom (x : Ext) (n : Nat) (p : Pos) : Err → Prop
  /-- raised by the level itself, and no position it forwards its value to is rejected; plain errors
      arise only at a `PlainSite` -/
  | own {e} : e.path = [] → (e.constraint = false → PlainSite p) →
      (∀ r, PathStep x p [] r → ∀ k e', r.run x k ≠ .err e') → ErrFrom x n p e
  /-- the error of a position below, the step's segment prefixed -/
  | seg {s q e'} : PathStep x p [s] q → q.run x n = .err e' → ErrFrom x n p ⟨true, s :: e'.path⟩
  /-- the error of the position the value is forwarded to, unchanged -/
  | free {q e} : PathStep x p [] q → q.run x n = .err e → ErrFrom x n p e
  /-- an object level reports a violated presence rule, or a disabled property that is present,
      under the property's name -/
  | names {id props name pr m} : p.ty = .obj id props → (name, pr) ∈ props →
      objEntries p.op props p.val = some m →
      (¬ RuleHolds (fun k => hasKey k m) name pr ∨
        ((p.op = .U ∨ p.op = .C) ∧ pr.disabled = true ∧ ∃ d, (name, d) ∈ m)) →
      ErrFrom x n p ⟨true, [name]⟩
  /-- data-mode compatibility of an object: a property's error is folded into the message of a
      fresh error that carries the property's name only -/
  | below {s q e'} : PathStep x p [s] q → q.op = .C → q.run x n = .err e' → ErrFrom x n p ⟨true, [s]⟩

section
variable {x : Ext} {n : Nat} {op : Op} {env : Env} {v : V} {α : Type}

theorem ErrFrom.fresh {p : Pos} (hf : p.forwards = false) : ErrFrom x n p ⟨true, []⟩ :=
  .own rfl nofun fun _ hs => (Pos.no_free hf hs).elim

/-- A level that forwards its value to `q` and works on `q`'s result: the error is `q`'s, unchanged, or -
    `q` having accepted, so that it rejects under no budget - the level's own. -/
theorem ErrFrom.forwarded {p q : Pos} {f : V → Out V} (st : PathStep x p [] q) (hf : ∀ r, Own (f r)) :
    OnErr (ErrFrom x n p) ((q.run x n).bind f) :=
  .bind (fun _ he => .free st he) fun _ hok => (hf _).mono fun _ he =>
    he ▸ .own rfl nofun fun _ h2 => PathStep.free_det st h2 ▸ Pos.ok_never_err hok

theorem Out.OnErr.errFrom {p : Pos} {o : Out α} (h : Own o) (hf : p.forwards = false) : OnErr (ErrFrom x n p) o :=
  h.mono fun _ he => he ▸ .fresh hf

/-! ### scalars raise their errors themselves -/

theorem checkInt_own {a b : Option Int} {k : Int} : Own (checkInt a b k) := own_of_total (checkInt_total a b k)

theorem checkLen_own {a b : Option Int} {k : Nat} : Own (checkLen a b k) := own_of_total (checkLen_total a b k)

theorem checkFloat_own {a b : Option Nat} {k : Nat} : Own (checkFloat a b k) := own_of_total (checkFloat_total a b k)

theorem checkStr_own {x : Ext} {a b : Option Int} {p : Option String} {s : String} : Own (checkStr x a b p s) := by
  unfold checkStr
  split
  · split
    · exact .ite (fun _ => .ok) fun _ => own_cerr
    · exact .ok
  · exact checkLen_own

theorem asInt_own : Own (asInt v) := by
  unfold asInt; split <;> first | exact .ok | exact own_cerr

theorem asFloat_own : Own (asFloat v) := by
  unfold asFloat; split <;> first | exact .ok | exact own_cerr

theorem asString_own : Own (asString v) := by
  unfold asString; split <;> first | exact .ok | exact own_cerr

theorem asBool_own : Own (asBool v) := by
  unfold asBool; split <;> first | exact .ok | exact own_cerr

theorem boolInputMapper_own : Own (boolInputMapper v) := by
  unfold boolInputMapper
  split
  · exact .ok
  · split <;> first | exact .ok | exact own_cerr
  · exact .ite (fun _ => .ok) fun _ => .ite (fun _ => .ok) fun _ => own_cerr
  · exact own_cerr

theorem runInt_own {a b : Option Int} {u : Option Units} : Own (runInt op a b u v) := by
  unfold runInt
  cases op
  · exact own_rewrapC.bind fun _ _ => checkInt_own.bind fun _ _ => .ok
  · exact asInt_own.bind fun _ _ => checkInt_own.bind fun _ _ => .ok
  · exact asInt_own.bind fun _ _ => checkInt_own.bind fun _ _ => .ok
  · exact own_rewrapC.bind fun _ _ => checkInt_own.bind fun _ _ => .ok

theorem runFloat_own {a b : Option Nat} {u : Option Units} : Own (runFloat x op a b u v) := by
  unfold runFloat
  cases op
  · exact own_rewrapC.bind fun _ _ => checkFloat_own.bind fun _ _ => .ok
  · exact asFloat_own.bind fun _ _ => checkFloat_own.bind fun _ _ => .ok
  · exact asFloat_own.bind fun _ _ => checkFloat_own.bind fun _ _ => .ok
  · exact own_rewrapC.bind fun _ _ => checkFloat_own.bind fun _ _ => .ok

theorem runStr_own {a b : Option Int} {p : Option String} : Own (runStr x op a b p v) := by
  unfold runStr
  cases op
  · exact own_rewrapC.bind fun _ _ => checkStr_own.bind fun _ _ => .ok
  · exact asString_own.bind fun _ _ => checkStr_own.bind fun _ _ => .ok
  · exact asString_own.bind fun _ _ => checkStr_own.bind fun _ _ => .ok
  · dsimp only
    split
    · exact checkStr_own.bind fun _ _ => .ok
    · exact own_cerr

theorem runBool_own : Own (runBool op v) := by
  unfold runBool
  cases op
  · exact boolInputMapper_own.bind fun _ _ => .ok
  · exact asBool_own.bind fun _ _ => .ok
  · exact asBool_own.bind fun _ _ => .ok
  · exact boolInputMapper_own.bind fun _ _ => .ok

theorem runPattern_own : Own (runPattern x op v) := by
  unfold runPattern
  cases op
  · exact own_rewrapC.bind fun _ _ => .ite (fun _ => .ok) fun _ => own_cerr
  all_goals dsimp only; split <;> first | exact .ok | exact own_cerr

theorem runEnumInt_own {vals : List Int} {u : Option Units} : Own (runEnumInt op vals u v) := by
  unfold runEnumInt
  cases op
  · exact own_rewrapC.bind fun _ _ => .ite (fun _ => .ok) fun _ => own_cerr
  all_goals exact asInt_own.bind fun _ _ => .ite (fun _ => .ok) fun _ => own_cerr

theorem runEnumStr_own {vals : List String} : Own (runEnumStr x op vals v) := by
  unfold runEnumStr
  cases op
  · exact own_rewrapC.bind fun _ _ => .ite (fun _ => .ok) fun _ => own_cerr
  all_goals exact asString_own.bind fun _ _ => .ite (fun _ => .ok) fun _ => own_cerr

theorem SubOp.ne_C {op op' : Op} (h : SubOp op op') (hop : op ≠ .C) : op' ≠ .C := by
  rcases h with rfl | ⟨_, rfl⟩
  · exact hop
  · nofun

theorem runList_errFrom {item : Ty} {mn mx : Option Int} :
    OnErr (ErrFrom x n ⟨op, env, .list item mn mx, v⟩) (runList (run x n) op env item mn mx v) := by
  unfold runList
  split
  · exact .errFrom own_cerr rfl
  · rename_i xs hxs
    have len : OnErr (ErrFrom x n ⟨op, env, .list item mn mx, v⟩) (checkLen mn mx xs.length) := .errFrom checkLen_own rfl
    have elems {op' : Op} (hop : SubOp op op') : OnErr (ErrFrom x n ⟨op, env, .list item mn mx, v⟩)
        (forIdx (fun i a => (run x n op' env item a).addSeg (idxSeg i)) 0 xs) :=
      .forIdx fun i a hi => .addSeg fun _ he' => .seg (.listItem hxs hi hop) he'
    cases op
    · exact len.bind fun _ _ => (elems (.inl rfl)).bind fun _ _ => .ok
    · exact len.bind fun _ _ => (elems (.inl rfl)).bind fun _ _ => .ok
    · exact len.bind fun _ _ => (elems (.inr ⟨rfl, rfl⟩)).bind fun _ _ => (elems (.inl rfl)).bind fun _ _ => .ok
    · exact (elems (.inl rfl)).bind fun _ _ => .ok

theorem runMap_errFrom {kt vt : Ty} {mn mx : Option Int} :
    OnErr (ErrFrom x n ⟨op, env, .map kt vt mn mx, v⟩) (runMap (run x n) op env kt vt mn mx v) := by
  unfold runMap
  split
  · exact .errFrom own_cerr rfl
  · rename_i sh kvs hm
    have entries {op' : Op} (hop : SubOp op op') : OnErr (ErrFrom x n ⟨op, env, .map kt vt mn mx, v⟩)
        (forKV (entryKV (run x n) op' env kt vt) kvs) :=
      .forKV fun k a hka =>
        (OnErr.addSeg fun _ he' => .seg (.mapKey hm hka hop) he').bind fun _ _ =>
          (OnErr.addSeg fun _ he' => .seg (.mapValue hm hka hop) he').bind fun _ _ => .ok
    refine (OnErr.errFrom checkLen_own rfl).bind fun _ _ => ?_
    cases op
    · exact (entries (.inl rfl)).bind fun _ _ => .ite (fun _ => .errFrom own_cerr rfl) fun _ => .ok
    · exact (entries (.inl rfl)).bind fun _ _ => .ok
    · exact (entries (.inr ⟨rfl, rfl⟩)).bind fun _ _ => (entries (.inl rfl)).bind fun _ _ => .ok
    · exact (entries (.inl rfl)).bind fun _ _ => .ok

theorem under_of_not_named {k : V} (h : ∀ w, k = .named w → False) : k.under = k := by
  cases k <;> first | rfl | exact (h _ rfl).elim

theorem intInputMapper_plain {u : Option Units} : OnErr (fun e => e = ⟨false, []⟩) (intInputMapper u v) := by
  rcases intInputMapper_total u v with ⟨_, h⟩ | h <;> rw [h]
  · exact .ok
  · exact .plain rfl

/-- `anyConvert` labels the value of a map entry with the CONVERTED key (`"[" ++ fmtKey k' ++ "]"`),
    `PathStep.anyValue` with the key as it stands in the map: both print alike -/
theorem anyConvert_fmtKey {n : Nat} {k k' : V} (h : anyConvert n k = .ok k') : fmtKey k' = fmtKey k := by
  cases n with
  | zero => simp [anyConvert] at h
  | succ n =>
    unfold anyConvert at h
    split at h
    · rename_i kd m hu
      have fk : fmtKey k = fmtInt m := by simp only [fmtKey, hu]
      split at h
      · simp at h; subst h; rw [fk]; simp [fmtKey, V.under]
      · split at h
        · simp [plain] at h
        · rename_i hnn
          obtain ⟨r, h1, h2⟩ := bind_eq_ok h
          simp at h2; subst h2
          rw [under_of_not_named hnn] at hu
          subst hu
          simp only [intInputMapper] at h1
          split at h1 <;> simp [plain] at h1
          subst h1
          rw [fk]; simp [fmtKey, V.under]
    · rename_i fkd b hu
      have fk : fmtKey k = "?" := by simp only [fmtKey, hu]
      split at h
      · simp at h; subst h; rw [fk]; simp [fmtKey, V.under]
      · split at h
        · simp [plain] at h
        · simp at h; subst h; rw [fk]; simp [fmtKey, V.under]
    · rename_i s hu
      have fk : fmtKey k = s := by simp only [fmtKey, hu]
      simp at h; subst h
      rw [fk]; simp [fmtKey, V.under]
    · rename_i b hu
      have fk : fmtKey k = if b then "true" else "false" := by simp only [fmtKey, hu]
      simp at h; subst h
      rw [fk]; simp [fmtKey, V.under]
    · rename_i xs hu
      have fk : fmtKey k = "?" := by simp only [fmtKey, hu]
      obtain ⟨r, h1, h2⟩ := bind_eq_ok h
      simp at h2; subst h2
      rw [fk]; simp [fmtKey, V.under]
    · rename_i xs hu
      have fk : fmtKey k = "?" := by simp only [fmtKey, hu]
      obtain ⟨r, h1, h2⟩ := bind_eq_ok h
      simp at h2; subst h2
      rw [fk]; simp [fmtKey, V.under]
    · rename_i sh kvs hu
      have fk : fmtKey k = "?" := by simp only [fmtKey, hu]
      obtain ⟨r, h1, h2⟩ := bind_eq_ok h
      split at h2 <;> simp [cerr] at h2
      subst h2
      rw [fk]; simp [fmtKey, V.under, MapShape.anyAny]
    · simp [cerr] at h

theorem run_any_of_convert {x : Ext} {op : Op} {n : Nat} {env : Env} {a : V} {e : Err} (hop : op ≠ .C)
    (h : anyConvert n a = .err e) : run x n op env .any a = .err e := by
  cases n with
  | zero => cases h
  | succ n =>
    simp only [run, runAny]
    cases op <;> simp only [h, Out.bind]
    exact absurd rfl hop

theorem AnySub.ne_C {op op' : Op} (h : AnySub op v op') : op' ≠ .C := by
  rcases h with ⟨h, rfl⟩ | ⟨_, _, rfl⟩
  · exact h
  · nofun

/-- An any-schema's conversion error is its own, or the error of ONE element, key or value of the
    slice / map - converted in its turn - with the segment prefixed. -/
theorem anyConvert_errFrom {op' : Op} (hs : AnySub op v op') :
    OnErr (ErrFrom x n ⟨op, env, .any, v⟩) (anyConvert (n + 1) v) := by
  have own {e : Err} (hp : e.path = []) : ErrFrom x n ⟨op, env, .any, v⟩ e :=
    .own hp (fun _ => .inl rfl) fun _ h => (Pos.no_free rfl h).elim
  have sub {s : String} {a : V} (st : PathStep x ⟨op, env, .any, v⟩ [s] ⟨op', env, .any, a⟩) :
      OnErr (ErrFrom x n ⟨op, env, .any, v⟩) ((anyConvert n a).addSeg s) :=
    .addSeg fun _ he' => .seg st (run_any_of_convert hs.ne_C he')
  unfold anyConvert
  -- `v.under` is an int, a float, a string, a bool, a list, a byte string, a map, or none of these
  split
  · split
    · exact .ok
    · split
      · exact .plain (own rfl)
      · exact (intInputMapper_plain.mono fun _ he => he ▸ own rfl).bind fun _ _ => .ok
  · split
    · exact .ok
    · split
      · exact .plain (own rfl)
      · exact .ok
  · exact .ok
  · exact .ok
  · rename_i xs hu
    exact (OnErr.forIdx fun i a hi => sub (.anyItem hs (by rw [hu]; rfl) hi)).bind fun _ _ => .ok
  · rename_i b hu
    exact (OnErr.forIdx fun i a hi => sub (.anyItem hs (by rw [hu]; rfl) hi)).bind fun _ _ => .ok
  · rename_i sh kvs hu
    refine (OnErr.forKV fun k a hka => (sub (.anyKey hs hu hka)).bind fun k' hk' => ?_).bind fun _ _ =>
      .ite (fun _ => .cerr (own rfl)) fun _ => .ok
    rw [anyConvert_fmtKey (addSeg_eq_ok.mp hk')]
    exact (sub (.anyValue hs hu hka)).bind fun _ _ => .ok
  · exact .cerr (own rfl)

/-- data-mode compatibility of an any-schema: values it treats natively are rejected without a path;
    every other value is converted as Unserialize would -/
theorem anyCompat_errFrom : OnErr (ErrFrom x n ⟨.C, env, .any, v⟩) (anyCompat (n + 1) v) := by
  have elem {k : V} {a : V} : Own ((rewrapC (anyCompat n a)).bind fun _ => Out.ok (k, a)) :=
    own_rewrapC.bind fun _ _ => .ok
  unfold anyCompat
  -- `v` is: `map[string]any`, `map[int64]any`, `map[any]any`, a list, anything else
  split
  · exact .errFrom ((OnErr.forKV fun _ _ _ => elem).bind fun _ _ => .ok) rfl
  · exact .errFrom ((OnErr.forKV fun _ _ _ => elem).bind fun _ _ => .ok) rfl
  · refine .errFrom ((OnErr.forKV fun k a _ => ?_).bind fun _ _ => .ok) rfl
    split
    · exact .ite (fun _ => own_cerr) fun _ => elem
    · exact .ite (fun _ => own_cerr) fun _ => elem
    · exact own_cerr
  · refine .errFrom ((OnErr.forIdx fun _ _ _ => own_rewrapC).bind fun _ _ => ?_) rfl
    split
    · exact .ok
    · exact .ite (fun _ => own_cerr) fun _ => .ok
  · rename_i h1 h2 h3 h4
    have hnat : anyCompatNative v = false := by
      unfold anyCompatNative
      -- each of the four native shapes is excluded by one of `h1` .. `h4`; any other value gives `false`
      split <;> first | rfl | exact (h1 _ rfl).elim | exact (h2 _ rfl).elim | exact (h3 _ rfl).elim | exact (h4 _ rfl).elim
    exact (anyConvert_errFrom (.inr ⟨rfl, hnat, rfl⟩)).bind fun _ _ => .ok

theorem runAny_errFrom : OnErr (ErrFrom x n ⟨op, env, .any, v⟩) (runAny op (n + 1) v) := by
  unfold runAny
  cases op
  · exact anyConvert_errFrom (op' := .U) (.inl ⟨nofun, rfl⟩)
  · exact (anyConvert_errFrom (op := .V) (op' := .V) (.inl ⟨nofun, rfl⟩)).bind fun _ _ => .ok
  · exact anyConvert_errFrom (op' := .S) (.inl ⟨nofun, rfl⟩)
  · exact anyCompat_errFrom

theorem applyDefaults_not_err : ∀ (props : List (String × PropT)) (m : List (String × V)) (e : Err),
    applyDefaults props m ≠ .err e
  | [], m, e => nofun
  | (id, p) :: rest, m, e => by
    rw [applyDefaults]
    split
    · exact applyDefaults_not_err rest m e
    · split
      · exact applyDefaults_not_err rest m e
      · nofun
      · exact applyDefaults_not_err rest _ e

theorem ruleHolds_congr {f g : String → Bool} (h : ∀ k, f k = g k) (id : String) (p : PropT) :
    RuleHolds f id p ↔ RuleHolds g id p := by
  cases funext h
  exact Iff.rfl

theorem objRaw_ok_keys {rec : Rec} {env : Env} {props : List (String × PropT)} {v : V} {m' : List (String × V)}
    (h : objRaw rec env props v = .ok m') : ∃ m, objInput props v = some m ∧ ∀ k, hasKey k m' = hasKey k m := by
  unfold objRaw at h
  split at h
  · rename_i hv
    split at h
    · rename_i name p
      split at h
      · simp [plain] at h
      · obtain ⟨r, _, h2⟩ := bind_eq_ok h
        simp at h2
        subst h2
        exact ⟨[(name, v)], by simp [objInput, hv], fun k => by simp only [hasKey, lookupS]; split <;> rfl⟩
    · simp [cerr] at h
  · rename_i sh kvs hv
    split at h
    · simp [cerr] at h
    · rename_i skvs hs
      split at h
      · simp [cerr] at h
      · obtain ⟨m, hm, h2⟩ := bind_eq_ok h
        exact ⟨m, by simp [objInput, hv, hs, hm], fun k => C03_unser_keeps_keys props m m' k h2⟩

/-- the part of `ObjectSchema.Unserialize` before the presence rules -/
theorem objRaw_errFrom {id : String} {props : List (String × PropT)} :
    OnErr (ErrFrom x n ⟨.U, env, .obj id props, v⟩) (objRaw (run x n) env props v) := by
  unfold objRaw
  split
  · rename_i hv
    split
    · rename_i name p
      have site : ErrFrom x n ⟨.U, env, .obj id [(name, p)], v⟩ ⟨false, []⟩ :=
        .own rfl (fun _ => .inr ⟨rfl, .inr ⟨id, name, p, rfl, hv⟩⟩) fun _ h => (Pos.no_free rfl h).elim
      exact .ite (fun _ => .plain site) fun _ => (OnErr.rewrapP site).bind fun _ _ => .ok
    · exact .errFrom own_cerr rfl
  · rename_i sh kvs hv
    split
    · exact .errFrom own_cerr rfl
    · rename_i skvs hs
      refine .ite (fun _ => .errFrom own_cerr rfl) fun _ =>
        (OnErr.of_ne (applyDefaults_not_err _ _)).bind fun m hm => .forSV fun k d hkd => ?_
      have hin : objInput props v = some m := by simp only [objInput, hv, hs, hm]
      unfold objEntryU
      split
      · exact .errFrom own_cerr rfl
      · rename_i p hp
        exact .ite (fun hd => .err (.names rfl (lookupS_mem hp) hin (.inr ⟨.inl rfl, hd, d, hkd⟩)))
          fun _ => .addSeg fun _ he' => .seg (.property hin hkd hp) he'

/-- data-mode compatibility of an object: the error is the level's own, or names ONE present
    property - with exactly that one segment, whatever the property's own error path was -/
theorem objCompatMap_errFrom {id : String} {props : List (String × PropT)} {m : List (String × V)}
    (hm : objEntries .C props v = some m) :
    OnErr (ErrFrom x n ⟨.C, env, .obj id props, v⟩) (objCompatMap (run x n) env props m) := by
  unfold objCompatMap
  refine (OnErr.forSV fun k d hkd => ?_).bind fun _ _ => .ite (fun _ => .errFrom own_cerr rfl) fun _ => .ok
  split
  · exact .errFrom own_cerr rfl
  · rename_i p hp
    exact .addSeg ((OnErr.rewrapC fun _ he' => .below (.property hm hkd hp) rfl he').bind fun _ _ =>
      .ite (fun hd => .cerr (.names rfl (lookupS_mem hp) hm (.inr ⟨.inr rfl, hd, d, hkd⟩))) fun _ => .ok)

/-- An object level's error: its own (wrong kind, non-string or undeclared key, shorthand), the
    error of ONE present property's value under the property's schema with the property name
    prefixed, or - naming a property although the fault is the object's - a present disabled
    property or a violated presence rule. -/
theorem runObj_errFrom {id : String} {props : List (String × PropT)} :
    OnErr (ErrFrom x n ⟨op, env, .obj id props, v⟩) (runObj (run x n) op env id props v) := by
  unfold runObj
  cases op
  case U =>
    refine objRaw_errFrom.bind fun m' hm' => OnErr.bind (fun e he => ?_) fun _ _ => .ok
    obtain ⟨m, hin, hkeys⟩ := objRaw_ok_keys hm'
    obtain ⟨name, p, hmem, hr, rfl⟩ := interdeps_err he
    exact .names rfl hmem hin (.inl fun hr' => hr ((ruleHolds_congr hkeys name p).mpr hr'))
  case C =>
    dsimp only
    split
    · rename_i kvs
      split
      · exact .errFrom own_cerr rfl
      · rename_i m hm
        exact objCompatMap_errFrom hm
    · exact .errFrom (own_rewrapC.bind fun _ _ => .ok) rfl
  case V | S =>
    dsimp only
    split
    · rename_i kvs
      split
      · exact .errFrom own_cerr rfl
      · rename_i m hm
        refine OnErr.bind (fun e he => ?_) fun _ _ => (OnErr.forSV fun k d hkd => ?_).bind fun _ _ => .ite (fun _ => .ok) fun _ => .ok
        · obtain ⟨name, p, hmem, hr, rfl⟩ := interdeps_err he
          exact .names rfl hmem hm (.inl hr)
        · unfold objEntry
          split
          · exact .errFrom own_cerr rfl
          · rename_i p hp
            exact .addSeg fun _ he' => .seg (.property hm hkd hp) he'
    · exact .errFrom own_cerr rfl

theorem oneOfSelect_own {rec : Rec} {ik : Bool} {disc : String} {inl : Bool} {ms : List (Key × Ty)}
    {compat : Bool} {m : List (String × V)} : Own (oneOfSelect rec env ik disc inl ms compat m) := by
  unfold oneOfSelect
  dsimp only
  split
  · exact own_cerr
  · split
    · exact own_cerr
    · exact .ite (fun _ => own_rewrapC.bind fun _ _ => .ok) fun _ => .ok

/-- `selectMember` on a native value: the discriminator is exactly typed and is the key of a member,
    which is handed the map without the discriminator unless the one-of is inlined -/
theorem oneOfSelect_ok_iff {rec : Rec} {ik : Bool} {disc : String} {inl : Bool} {ms : List (Key × Ty)}
    {m : List (String × V)} {sel : Key × Ty × List (String × V)} :
    oneOfSelect rec env ik disc inl ms false m = .ok sel ↔
      ∃ d, lookupS disc m = some d ∧ NativeDisc ik d sel.1 ∧ lookupK sel.1 ms = some sel.2.1 ∧
        sel.2.2 = if inl then m else eraseKey disc m := by
  unfold oneOfSelect NativeDisc
  dsimp only
  constructor
  · intro h
    split at h
    · cases h
    · rename_i key hkey
      split at h
      · cases h
      · rename_i mt hmt
        cases h
        split at hkey
        · rename_i n hl
          cases ik <;> cases hkey
          exact ⟨_, hl, ⟨n, rfl, rfl⟩, hmt, rfl⟩
        · rename_i s hl
          cases ik <;> cases hkey
          exact ⟨_, hl, ⟨s, rfl, rfl⟩, hmt, rfl⟩
        · cases hkey
  · obtain ⟨key, mt, c⟩ := sel
    rintro ⟨d, hd, hnd, hmt, rfl⟩
    cases ik
    · obtain ⟨s, rfl, rfl⟩ := hnd
      simp only [hd, hmt, Bool.false_eq_true, if_false]
    · obtain ⟨n, rfl, rfl⟩ := hnd
      simp only [hd, hmt, Bool.false_eq_true, if_false, if_true]

theorem attachDisc_own {disc : String} {key : Key} {r : V} : Own (attachDisc disc key r) := by
  unfold attachDisc
  split
  · split
    · exact .ok
    · exact own_cerr
  · exact .ok

theorem oneOfUnser_errFrom {ik : Bool} {disc : String} {inl : Bool} {ms : List (Key × Ty)} :
    OnErr (ErrFrom x n ⟨.U, env, .oneOf ik disc inl ms, v⟩) (oneOfUnser (run x n) x env ik disc inl ms v) := by
  by_cases hst : ∃ key m mt, OneOfRoute x ik disc ms v key m mt
  · obtain ⟨key, m, mt, hr⟩ := hst
    rw [oneOfUnser_routed hr]
    obtain ⟨hsh, hfind, hdisc, hm, hmt⟩ := hr
    exact .forwarded (.memberU hsh hfind hdisc hm hmt) fun _ => attachDisc_own
  · have nofree : ∀ r, PathStep x ⟨.U, env, .oneOf ik disc inl ms, v⟩ [] r → ∀ k e', r.run x k ≠ .err e' := by
      intro r hs
      cases hs with
      | memberU hsh hfind hdisc hm hmt => exact (hst ⟨_, _, _, .mk hsh hfind hdisc hm hmt⟩).elim
    rcases oneOfUnser_unrouted (fun key m mt h => hst ⟨key, m, mt, h⟩) with h | ⟨hv, h⟩ <;> rw [h]
    · exact .cerr (.own rfl nofun nofree)
    · exact .plain (.own rfl (fun _ => .inr ⟨rfl, .inl ⟨ik, disc, inl, ms, rfl, hv⟩⟩) nofree)

theorem runOneOf_S_errFrom {ik : Bool} {disc : String} {inl : Bool} {ms : List (Key × Ty)} :
    OnErr (ErrFrom x n ⟨.S, env, .oneOf ik disc inl ms, v⟩) (runOneOf (run x n) x .S env ik disc inl ms v) := by
  have post {key : Key} {r : V} : Own (match r with
      | .map ⟨.string, true⟩ rk =>
        match strKeys? rk with
        | some rm => Out.ok (toStrAny (if hasKey disc rm then rm else rm ++ [(disc, key.toV)]))
        | none => .cerr
      | _ => .panic) := by
    split
    · split
      · exact .ok
      · exact own_cerr
    · exact .panic
  by_cases hst : ∃ r, PathStep x ⟨.S, env, .oneOf ik disc inl ms, v⟩ [] r
  · obtain ⟨r, st⟩ := hst
    cases st with
    | @memberS _ _ _ _ _ kvs d key m mt hm hd hnd hmt =>
      have hsel : oneOfSelect (run x n) env ik disc inl ms false m = .ok (key, mt, if inl then m else eraseKey disc m) :=
        oneOfSelect_ok_iff.mpr ⟨d, hd, hnd, hmt, rfl⟩
      simp only [runOneOf, hm, hsel, ok_bind]
      exact .forwarded (.memberS hm hd hnd hmt) fun _ => post
  · refine OnErr.mono (P := fun e => e = ⟨true, []⟩) ?_ fun _ he => he ▸ .own rfl nofun fun r hs => (hst ⟨r, hs⟩).elim
    unfold runOneOf
    dsimp only
    split
    · split
      · exact own_cerr
      · rename_i m hm
        refine oneOfSelect_own.bind fun sel hsel => ?_
        obtain ⟨d, hd, hnd, hmt, hcl⟩ := oneOfSelect_ok_iff.mp hsel
        exact (hst ⟨_, .memberS hm hd hnd hmt⟩).elim
    · exact own_cerr

theorem runOneOf_errFrom {ik : Bool} {disc : String} {inl : Bool} {ms : List (Key × Ty)} :
    OnErr (ErrFrom x n ⟨op, env, .oneOf ik disc inl ms, v⟩) (runOneOf (run x n) x op env ik disc inl ms v) := by
  cases op
  case U => exact oneOfUnser_errFrom
  case S => exact runOneOf_S_errFrom
  case V =>
    unfold runOneOf
    dsimp only
    split
    · split
      · exact .errFrom own_cerr rfl
      · rename_i m hm
        refine (OnErr.errFrom oneOfSelect_own rfl).bind fun sel hsel => ?_
        obtain ⟨d, hd, hnd, hmt, hcl⟩ := oneOfSelect_ok_iff.mp hsel
        rw [hcl]
        exact (OnErr.addSeg fun _ he' => .seg (.memberV hm hd hnd hmt) he').bind fun _ _ => .ok
    · exact .errFrom own_cerr rfl
  case C =>
    unfold runOneOf
    dsimp only
    split
    · split
      · exact .errFrom own_cerr rfl
      · exact .errFrom (oneOfSelect_own.bind fun _ _ => .ok) rfl
    · exact .errFrom own_cerr rfl

theorem run_errFrom {t : Ty} : OnErr (ErrFrom x n ⟨op, env, t, v⟩) (run x (n + 1) op env t v) := by
  cases t with
  | int => exact .errFrom runInt_own rfl
  | float => exact .errFrom runFloat_own rfl
  | str => exact .errFrom runStr_own rfl
  | bool => exact .errFrom runBool_own rfl
  | pattern => exact .errFrom runPattern_own rfl
  | enumInt => exact .errFrom runEnumInt_own rfl
  | enumStr => exact .errFrom runEnumStr_own rfl
  | list => exact runList_errFrom
  | map => exact runMap_errFrom
  | obj => exact runObj_errFrom
  | oneOf => exact runOneOf_errFrom
  | any => exact runAny_errFrom
  | ref id =>
    simp only [run]
    split
    · exact .panic
    · rename_i o hl
      exact fun _ he => .free (.ref hl) he
  | scope objs root =>
    simp only [run]
    split
    · exact .panic
    · rename_i o hl
      exact fun _ he => .free (.scope hl) he

end

/-- `Located x n p path`: the path, read from position `p`, really leads to the fault. Either it
    leads - all of it - to a position that fails on its own; or all but its last segment leads to an
    object level that rejects and names, in the last segment, the declared property whose presence
    rule is violated (or which is disabled); or (data-mode compatibility only) it leads to the
    value of an object property that is rejected at an unreported depth. -/
def Located (x : Ext) (n : Nat) (p : Pos) (path : List String) : Prop :=
  (∃ q, Leads x p path q ∧ FailsHere x n q) ∨
  (∃ pre name q, path = pre ++ [name] ∧ Leads x p pre q ∧ NamesProperty x n q name) ∨
  (∃ q, Leads x p path q ∧ RejectedBelow x n q)

/-- what is proved about an error `e` returned at position `p` -/
def Verdict (x : Ext) (n : Nat) (p : Pos) (e : Err) : Prop :=
  Located x n p e.path ∧
  (e.constraint = true ∨
    (e.path = [] ∧ ∃ q, Leads x p [] q ∧ q.run x n = .err ⟨false, []⟩ ∧ PlainSite q))

theorem Located.mono {x : Ext} {n : Nat} {p : Pos} {path : List String} (h : Located x n p path) :
    Located x (n + 1) p path := by
  rcases h with ⟨q, hl, ⟨c, hc⟩, hf⟩ | ⟨pre, name, q, hp, hl, hn, hb⟩ | ⟨q, hl, hc, e, he⟩
  · exact .inl ⟨q, hl, ⟨c, Pos.run_mono hc⟩, hf⟩
  · exact .inr (.inl ⟨pre, name, q, hp, hl, Pos.run_mono hn, hb⟩)
  · exact .inr (.inr ⟨q, hl, hc, e, Pos.run_mono he⟩)

theorem Located.step {x : Ext} {n : Nat} {p q : Pos} {segs path : List String} (hs : PathStep x p segs q)
    (h : Located x n q path) : Located x n p (segs ++ path) := by
  rcases h with ⟨r, hl, hf⟩ | ⟨pre, name, r, hp, hl, hn⟩ | ⟨r, hl, hr⟩
  · exact .inl ⟨r, .step hs hl, hf⟩
  · exact .inr (.inl ⟨segs ++ pre, name, r, by rw [hp, List.append_assoc], .step hs hl, hn⟩)
  · exact .inr (.inr ⟨r, .step hs hl, hr⟩)

theorem Verdict.mono {x : Ext} {n : Nat} {p : Pos} {e : Err} (h : Verdict x n p e) : Verdict x (n + 1) p e :=
  ⟨h.1.mono, h.2.imp_right fun ⟨hp, q, hl, hr, hs⟩ => ⟨hp, q, hl, Pos.run_mono hr, hs⟩⟩

/-- one level: the verdict on the error of `p` from the verdicts on the errors one step below -/
theorem Verdict.of_errFrom {x : Ext} {n : Nat} {p : Pos} {e : Err} (h : p.run x (n + 1) = .err e)
    (hf : ErrFrom x n p e) (ih : ∀ q e', q.run x n = .err e' → Verdict x (n + 1) q e') : Verdict x (n + 1) p e := by
  cases hf with
  | own hp hc hfree =>
    obtain ⟨c, path⟩ := e
    cases hp
    refine ⟨.inl ⟨p, .here, ⟨c, h⟩, hfree⟩, ?_⟩
    cases c
    · exact .inr ⟨rfl, p, .here, h, hc rfl⟩
    · exact .inl rfl
  | seg st he' => exact ⟨.step st (ih _ _ he').1, .inl rfl⟩
  | free st he =>
    have hv := ih _ _ he
    exact ⟨.step st hv.1, hv.2.imp_right fun ⟨hp, r, hl, hr⟩ => ⟨hp, r, .step st hl, hr⟩⟩
  | names ht hm hin hr => exact ⟨.inr (.inl ⟨[], _, p, rfl, .here, h, _, _, _, _, ht, hm, hin, hr⟩), .inl rfl⟩
  | below st hc he' =>
    exact ⟨.inr (.inr ⟨_, .step (path := []) st .here, hc, _, Pos.run_mono he'⟩), .inl rfl⟩

/-- Every error returned by Unserialize, Validate, Serialize or data-mode ValidateCompatibility at
    any position, for any schema (well-formed or not: an ill-formed schema panics, it does not
    reject) and any value. -/
theorem verdict (x : Ext) : ∀ (n : Nat) (p : Pos) (e : Err), p.run x n = .err e → Verdict x n p e
  | 0, _, _, h => nomatch h
  | n + 1, _, e, h => .of_errFrom h (run_errFrom e h) fun q e' h' => (verdict x n q e' h').mono

/-! ### only data-mode compatibility drops segments -/

theorem PathStep.op_ne_C {x : Ext} {p q : Pos} {segs : List String} (h : PathStep x p segs q) (hp : p.op ≠ .C) :
    q.op ≠ .C := by
  cases h with
  | listItem _ _ hs | mapKey _ _ hs | mapValue _ _ hs => exact hs.ne_C hp
  | anyItem hs | anyKey hs | anyValue hs => exact hs.ne_C
  | memberU | memberV | memberS => nofun
  | ref | scope | property => exact hp

theorem Leads.op_ne_C {x : Ext} {p q : Pos} {path : List String} (h : Leads x p path q) (hp : p.op ≠ .C) :
    q.op ≠ .C := by
  induction h with
  | here => exact hp
  | step hs _ ih => exact ih (hs.op_ne_C hp)

end Arca
