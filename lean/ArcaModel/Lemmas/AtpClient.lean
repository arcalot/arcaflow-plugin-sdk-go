import ArcaModel.Model.AtpClient
/-
  Lemmas for the ATP client transition system: association lists (`setT`, `delT`, `hasKey`,
  `List.lookup`), the entry table (`failAll`, `setRes`, `anyPending`), and the step functions read
  as relations: `RsStep`, `CallerStep`, `LoopStep`, `WriterStep`, `CloserStep`, `EnvStep` have one
  constructor per successful branch, and `Step.inv` says that every step of the current code is
  one of them.

  The tables here have `Nat` keys and are read with `List.lookup`.  Lemmas/Assoc has the same few
  facts about `List.lookup` for the string-keyed tables of the schema model; it is not imported, so
  that the ATP models do not depend on the schema model.
-/
namespace Arca.AtpClient

section assoc
variable {β : Type}

def keys (l : List (Nat × β)) : List Nat := l.map Prod.fst

@[simp] theorem keys_nil : keys ([] : List (Nat × β)) = [] := rfl
@[simp] theorem keys_cons (p : Nat × β) (l : List (Nat × β)) : keys (p :: l) = p.1 :: keys l := rfl
@[simp] theorem keys_append (l₁ l₂ : List (Nat × β)) : keys (l₁ ++ l₂) = keys l₁ ++ keys l₂ := by
  simp [keys]

theorem lookup_cons' (a k : Nat) (b : β) (l : List (Nat × β)) :
    List.lookup a ((k, b) :: l) = if a = k then some b else List.lookup a l := by
  rw [List.lookup_cons]
  by_cases h : a = k
  · subst h; simp
  · have : (a == k) = false := by simpa using h
    simp [this, h]

@[simp] theorem setT_nil (k : Nat) (v : β) : setT ([] : List (Nat × β)) k v = [] := rfl
@[simp] theorem delT_nil (k : Nat) : delT ([] : List (Nat × β)) k = [] := rfl
@[simp] theorem hasKey_nil (k : Nat) : hasKey ([] : List (Nat × β)) k = false := rfl

theorem setT_cons (a : Nat) (b : β) (l : List (Nat × β)) (k : Nat) (v : β) :
    setT ((a, b) :: l) k v = (if a = k then (a, v) else (a, b)) :: setT l k v := by
  simp only [setT, List.map_cons]
  by_cases h : a = k
  · subst h; simp
  · have : (a == k) = false := by simpa using h
    simp [this, h]

theorem delT_cons (a : Nat) (b : β) (l : List (Nat × β)) (k : Nat) :
    delT ((a, b) :: l) k = if a = k then delT l k else (a, b) :: delT l k := by
  simp only [delT, List.filter_cons]
  by_cases h : a = k
  · subst h; simp
  · simp [h]

theorem hasKey_cons (a : Nat) (b : β) (l : List (Nat × β)) (k : Nat) :
    hasKey ((a, b) :: l) k = (decide (a = k) || hasKey l k) := by
  simp only [hasKey, List.any_cons]
  by_cases h : a = k <;> simp [h]

theorem lookup_setT (l : List (Nat × β)) (k k' : Nat) (v : β) :
    (setT l k v).lookup k' = if k' = k then (l.lookup k').map (fun _ => v) else l.lookup k' := by
  induction l with
  | nil => simp
  | cons p ps ih =>
    obtain ⟨a, b⟩ := p
    rw [setT_cons]
    by_cases hak : a = k
    · subst hak
      simp only [if_true, lookup_cons', ih]
      by_cases h : k' = a <;> simp [h]
    · simp only [hak, if_false, lookup_cons', ih]
      by_cases h : k' = k
      · subst h
        have : ¬ k' = a := fun e => hak e.symm
        simp [this]
      · simp [h]

theorem map_const_eq_some {α γ : Type} {o : Option α} {v w : γ} :
    Option.map (fun _ => v) o = some w ↔ (∃ a, o = some a) ∧ v = w := by
  cases o <;> simp

theorem map_const_eq_none {α γ : Type} {o : Option α} {v : γ} :
    Option.map (fun _ => v) o = none ↔ o = none := by
  cases o <;> simp

theorem lookup_setT_self (l : List (Nat × β)) (k : Nat) (v : β) :
    (setT l k v).lookup k = (l.lookup k).map (fun _ => v) := by
  rw [lookup_setT]; simp

theorem lookup_setT_ne (l : List (Nat × β)) {k k' : Nat} (v : β) (h : k' ≠ k) :
    (setT l k v).lookup k' = l.lookup k' := by
  rw [lookup_setT]; simp [h]

theorem lookup_setT_some {l : List (Nat × β)} {k k' : Nat} {v b : β}
    (h : (setT l k v).lookup k' = some b) : (k' = k ∧ b = v) ∨ (k' ≠ k ∧ l.lookup k' = some b) := by
  rw [lookup_setT] at h
  split at h
  · exact .inl ⟨‹_›, (map_const_eq_some.1 h).2.symm⟩
  · exact .inr ⟨‹_›, h⟩

theorem forall_lookup_setT {P : β → Prop} {l : List (Nat × β)} {k : Nat} {v : β}
    (h : ∀ k' b, l.lookup k' = some b → P b) (hv : P v) :
    ∀ k' b, (setT l k v).lookup k' = some b → P b := fun k' b hb =>
  (lookup_setT_some hb).elim (fun e => e.2 ▸ hv) (fun e => h k' b e.2)

theorem lookup_delT (l : List (Nat × β)) (k k' : Nat) :
    (delT l k).lookup k' = if k' = k then none else l.lookup k' := by
  induction l with
  | nil => simp
  | cons p ps ih =>
    obtain ⟨a, b⟩ := p
    rw [delT_cons]
    by_cases hak : a = k
    · subst hak
      simp only [if_true, lookup_cons', ih]
      by_cases h : k' = a <;> simp [h]
    · simp only [hak, if_false, lookup_cons', ih]
      by_cases h : k' = k
      · subst h
        have : ¬ k' = a := fun e => hak e.symm
        simp [this]
      · simp [h]

theorem lookup_delT_self (l : List (Nat × β)) (k : Nat) : (delT l k).lookup k = none := by
  rw [lookup_delT]; simp

theorem lookup_delT_ne (l : List (Nat × β)) {k k' : Nat} (h : k' ≠ k) :
    (delT l k).lookup k' = l.lookup k' := by
  rw [lookup_delT]; simp [h]

theorem hasKey_eq_true {l : List (Nat × β)} {k : Nat} : hasKey l k = true ↔ k ∈ keys l := by
  simp only [hasKey, keys, List.any_eq_true, List.mem_map, beq_iff_eq]

theorem hasKey_eq_false {l : List (Nat × β)} {k : Nat} : hasKey l k = false ↔ k ∉ keys l := by
  rw [← hasKey_eq_true]; simp

theorem lookup_isSome_iff {l : List (Nat × β)} {k : Nat} : (l.lookup k).isSome = true ↔ k ∈ keys l := by
  induction l with
  | nil => simp
  | cons p ps ih =>
    obtain ⟨a, b⟩ := p
    rw [lookup_cons']
    by_cases h : k = a
    · subst h; simp
    · simp [h, ih]

theorem lookup_eq_none_iff' {l : List (Nat × β)} {k : Nat} : l.lookup k = none ↔ k ∉ keys l := by
  rw [← lookup_isSome_iff]; cases l.lookup k <;> simp

theorem mem_keys_of_lookup {l : List (Nat × β)} {k : Nat} {v : β} (h : l.lookup k = some v) :
    k ∈ keys l := by
  rw [← lookup_isSome_iff, h]; rfl

theorem hasKey_of_lookup {l : List (Nat × β)} {k : Nat} {v : β} (h : l.lookup k = some v) :
    hasKey l k = true := hasKey_eq_true.2 (mem_keys_of_lookup h)

theorem lookup_none_of_hasKey_false {l : List (Nat × β)} {k : Nat} (h : hasKey l k = false) :
    l.lookup k = none := lookup_eq_none_iff'.2 (hasKey_eq_false.1 h)

theorem mem_of_lookup {l : List (Nat × β)} {k : Nat} {v : β} (h : l.lookup k = some v) :
    (k, v) ∈ l := by
  induction l with
  | nil => simp at h
  | cons p ps ih =>
    obtain ⟨a, b⟩ := p
    rw [lookup_cons'] at h
    by_cases hk : k = a
    · subst hk; simp at h; subst h; simp
    · simp [hk] at h; exact List.mem_cons_of_mem _ (ih h)

theorem mem_keys_of_mem {l : List (Nat × β)} {k : Nat} {v : β} (h : (k, v) ∈ l) : k ∈ keys l :=
  List.mem_map.2 ⟨(k, v), h, rfl⟩

theorem lookup_of_mem {l : List (Nat × β)} {k : Nat} {v : β} (hn : (keys l).Nodup) (h : (k, v) ∈ l) :
    l.lookup k = some v := by
  induction l with
  | nil => simp at h
  | cons p ps ih =>
    obtain ⟨a, b⟩ := p
    simp only [keys_cons, List.nodup_cons] at hn
    rw [lookup_cons']
    rcases List.mem_cons.1 h with h | h
    · cases h; simp
    · have hk : k ≠ a := fun e => hn.1 (e ▸ mem_keys_of_mem h)
      simp [hk, ih hn.2 h]

@[simp] theorem keys_setT (l : List (Nat × β)) (k : Nat) (v : β) : keys (setT l k v) = keys l := by
  induction l with
  | nil => rfl
  | cons p ps ih =>
    obtain ⟨a, b⟩ := p
    rw [setT_cons]
    by_cases h : a = k <;> simp [h, ih]

@[simp] theorem length_setT (l : List (Nat × β)) (k : Nat) (v : β) : (setT l k v).length = l.length := by
  simp [setT]

theorem setT_eq_nil {l : List (Nat × β)} {k : Nat} {v : β} : setT l k v = [] ↔ l = [] := by
  simp [setT]

theorem keys_delT (l : List (Nat × β)) (k : Nat) : keys (delT l k) = (keys l).filter (· != k) := by
  induction l with
  | nil => rfl
  | cons p ps ih =>
    obtain ⟨a, b⟩ := p
    rw [delT_cons]
    by_cases h : a = k <;> simp [h, ih]

theorem nodup_keys_delT {l : List (Nat × β)} (k : Nat) (h : (keys l).Nodup) : (keys (delT l k)).Nodup := by
  rw [keys_delT]; exact List.Nodup.sublist List.filter_sublist h

theorem nodup_append_single {α : Type} {l : List α} {a : α} : (l ++ [a]).Nodup ↔ l.Nodup ∧ a ∉ l := by
  rw [List.nodup_append]
  constructor
  · rintro ⟨h1, _, h3⟩
    exact ⟨h1, fun ha => h3 a ha a (by simp) rfl⟩
  · rintro ⟨h1, h2⟩
    refine ⟨h1, by simp, ?_⟩
    intro x hx b hb e
    simp at hb; subst hb; subst e; exact h2 hx

theorem nodup_keys_append_single {l : List (Nat × β)} {k : Nat} (v : β) (h : (keys l).Nodup)
    (hk : hasKey l k = false) : (keys (l ++ [(k, v)])).Nodup := by
  rw [keys_append]; exact nodup_append_single.2 ⟨h, hasKey_eq_false.1 hk⟩

theorem mem_keys_delT {l : List (Nat × β)} {k k' : Nat} : k' ∈ keys (delT l k) ↔ k' ∈ keys l ∧ k' ≠ k := by
  rw [keys_delT, List.mem_filter]; simp

theorem length_delT_le (l : List (Nat × β)) (k : Nat) : (delT l k).length ≤ l.length := by
  unfold delT; exact List.length_filter_le _ _

theorem lookup_append_single (l : List (Nat × β)) (k k' : Nat) (v : β) :
    (l ++ [(k, v)]).lookup k' = (l.lookup k').or (if k' = k then some v else none) := by
  rw [List.lookup_append, lookup_cons']; simp

theorem lookup_append_single_some {l : List (Nat × β)} {k k' : Nat} {v b : β}
    (h : (l ++ [(k, v)]).lookup k' = some b) : l.lookup k' = some b ∨ b = v := by
  rw [lookup_append_single, Option.or_eq_some_iff] at h
  rcases h with h | ⟨_, h⟩
  · exact .inl h
  · split at h <;> cases h; exact .inr rfl

theorem lookup_append_single_ne (l : List (Nat × β)) {k k' : Nat} (v : β) (h : k' ≠ k) :
    (l ++ [(k, v)]).lookup k' = l.lookup k' := by
  rw [lookup_append_single]; simp [h]

theorem lookup_append_single_fresh (l : List (Nat × β)) {k : Nat} (v : β) (h : hasKey l k = false) :
    (l ++ [(k, v)]).lookup k = some v := by
  rw [lookup_append_single, lookup_none_of_hasKey_false h]; simp

theorem eq_singleton_of_lookup {l : List (Nat × β)} {k : Nat} {v : β} (hl : l.length ≤ 1)
    (h : l.lookup k = some v) : l = [(k, v)] := by
  match l, hl, h with
  | [(a, b)], _, h =>
    rw [lookup_cons'] at h
    by_cases hk : k = a
    · subst hk; simp at h; subst h; rfl
    · simp [hk] at h

theorem delT_singleton (k : Nat) (v : β) : delT [(k, v)] k = [] := by
  simp [delT]

theorem setT_of_not_mem {l : List (Nat × β)} {k : Nat} (v : β) (h : k ∉ keys l) : setT l k v = l := by
  induction l with
  | nil => rfl
  | cons p ps ih =>
    obtain ⟨a, b⟩ := p
    simp only [keys_cons, List.mem_cons, not_or] at h
    rw [setT_cons, ih h.2, if_neg (Ne.symm h.1)]

theorem delT_of_not_mem {l : List (Nat × β)} {k : Nat} (h : k ∉ keys l) : delT l k = l := by
  induction l with
  | nil => rfl
  | cons p ps ih =>
    obtain ⟨a, b⟩ := p
    simp only [keys_cons, List.mem_cons, not_or] at h
    rw [delT_cons, ih h.2, if_neg (Ne.symm h.1)]

theorem delT_setT (l : List (Nat × β)) (k : Nat) (v : β) : delT (setT l k v) k = delT l k := by
  induction l with
  | nil => rfl
  | cons p ps ih =>
    obtain ⟨a, b⟩ := p
    rw [setT_cons]
    by_cases h : a = k
    · subst h; simp only [if_true, delT_cons, ih]
    · simp only [h, if_false, delT_cons, ih]

end assoc

theorem fresh_iff {s : State} {t : Tid} :
    fresh s t = true ↔
      hasKey s.loops t = false ∧ hasKey s.writers t = false ∧ hasKey s.callers t = false := by
  simp [fresh, and_assoc]

theorem anyPending_failAll (es : List (Run × Entry)) : anyPending (failAll es) = false := by
  induction es with
  | nil => rfl
  | cons p ps ih => simp_all [anyPending, failAll, Entry.isPending]

theorem mem_failAll {es : List (Run × Entry)} {r : Run} {e : Entry} (h : (r, e) ∈ failAll es) :
    e = .result .err := by
  simp only [failAll, List.mem_map] at h
  obtain ⟨p, _, hp⟩ := h
  cases hp; rfl

@[simp] theorem keys_failAll (es : List (Run × Entry)) : keys (failAll es) = keys es := by
  simp [keys, failAll, Function.comp_def]

@[simp] theorem keys_setRes (es : List (Run × Entry)) (r : Run) (v : Res) : keys (setRes es r v) = keys es := by
  simp [setRes]

theorem lookup_failAll (es : List (Run × Entry)) (r : Run) :
    (failAll es).lookup r = (es.lookup r).map (fun _ => .result .err) := by
  induction es with
  | nil => rfl
  | cons p ps ih =>
    obtain ⟨a, b⟩ := p
    have : failAll ((a, b) :: ps) = (a, .result .err) :: failAll ps := rfl
    rw [this, lookup_cons', lookup_cons', ih]
    by_cases h : r = a <;> simp [h]

theorem anyPending_eq_true {es : List (Run × Entry)} :
    anyPending es = true ↔ ∃ r, (r, Entry.pending) ∈ es := by
  simp only [anyPending, List.any_eq_true]
  constructor
  · rintro ⟨⟨r, e⟩, hp, he⟩
    cases e with
    | pending => exact ⟨r, hp⟩
    | result _ => simp [Entry.isPending] at he
  · rintro ⟨r, hr⟩; exact ⟨(r, .pending), hr, rfl⟩

theorem anyPending_of_lookup {es : List (Run × Entry)} {r : Run} (h : es.lookup r = some .pending) :
    anyPending es = true := anyPending_eq_true.2 ⟨r, mem_of_lookup h⟩

theorem entry_result_of_not_pending {es : List (Run × Entry)} {r : Run} (hk : r ∈ keys es)
    (hp : anyPending es = false) : ∃ v, es.lookup r = some (.result v) := by
  cases h : es.lookup r with
  | none => exact absurd hk (lookup_eq_none_iff'.1 h)
  | some e =>
    cases e with
    | pending => rw [anyPending_of_lookup h] at hp; cases hp
    | result v => exact ⟨v, rfl⟩

theorem anyPending_setRes {es : List (Run × Entry)} {r : Run} {v : Res}
    (h : anyPending (setRes es r v) = true) : anyPending es = true := by
  induction es with
  | nil => simp [setRes] at h; exact h
  | cons p ps ih =>
    obtain ⟨a, b⟩ := p
    simp only [setRes] at h ih
    rw [setT_cons] at h
    simp only [anyPending, List.any_cons, Bool.or_eq_true] at h ih ⊢
    rcases h with h | h
    · by_cases ha : a = r
      · simp [ha, Entry.isPending] at h
      · simp [ha] at h; exact Or.inl h
    · exact Or.inr (ih h)

theorem anyPending_delT {es : List (Run × Entry)} {r : Run}
    (h : anyPending (delT es r) = true) : anyPending es = true := by
  rw [anyPending_eq_true] at h ⊢
  obtain ⟨r', hr⟩ := h
  exact ⟨r', (List.mem_filter.1 hr).1⟩

theorem anyPending_append_pending (es : List (Run × Entry)) (r : Run) :
    anyPending (es ++ [(r, .pending)]) = true := by
  simp [anyPending, Entry.isPending]

theorem lookup_setRes {es : List (Run × Entry)} {r r' : Run} {v : Res} {e : Entry}
    (h : (setRes es r' v).lookup r = some e) :
    (r ≠ r' ∧ es.lookup r = some e) ∨ (r = r' ∧ e = .result v) := by
  exact (lookup_setT_some h).symm

theorem lookup_failAll_eq {es : List (Run × Entry)} {r : Run} {e : Entry}
    (h : (failAll es).lookup r = some e) : e = .result .err :=
  mem_failAll (mem_of_lookup h)

theorem lookup_of_append_pending {es : List (Run × Entry)} {r r' : Run} {v : Res}
    (h : (es ++ [(r', Entry.pending)]).lookup r = some (.result v)) : es.lookup r = some (.result v) :=
  (lookup_append_single_some h).resolve_right nofun

theorem lookup_of_delT {β : Type} {l : List (Nat × β)} {k k' : Nat} {v : β}
    (h : (delT l k).lookup k' = some v) : l.lookup k' = some v := by
  rw [lookup_delT] at h; split at h
  · cases h
  · exact h

theorem anyPending_false_nil : anyPending [] = false := rfl

/-! ### classification of labels; runs -/

/-- a terminal message for a run the server may owe: work-done, or a step-fatal (not
    server-fatal) error for a non-blank run -/
def Msg.isOwedTerminal : Msg → Bool
  | .workDone _ _ => true
  | .error r true false => r != 0
  | _ => false

/-- free inputs of the application (`call`, `rsCall`, `clCall`, signals handed to a writer) and of the
    peer (arbitrary stream items, unsolicited server messages) -/
def Label.isInput : Label → Bool
  | .call .. | .rsCall | .clCall | .wRecv .. | .envPut _ | .envLate _ => true
  | .sSend m => !m.isOwedTerminal
  | _ => false

/-- steps the system itself is obliged to take eventually: the read loop's own steps, the server
    reading its input, answering an accepted work-start, and ending its output after client-done -/
def Label.obliged : Label → Bool
  | .lRead _ | .lDeliver _ | .lCheck _ => true
  | .sRecv | .sEnd => true
  | .sSend (.workDone _ (some _)) => true
  | _ => false

theorem run_nil (s : State) : run s [] = some s := rfl

theorem run_cons {s s1 s' : State} {l : Label} {ls : List Label} (h : step? s l = some s1)
    (hr : run s1 ls = some s') : run s (l :: ls) = some s' := by
  simp only [run, runG] at hr ⊢
  simp only [step?] at h
  rw [h]; exact hr

theorem runG_cons_inv {p : Bool} {s s' : State} {l : Label} {ls : List Label}
    (h : runG p s (l :: ls) = some s') : ∃ s1, stepG p s l = some s1 ∧ runG p s1 ls = some s' := by
  simp only [runG] at h
  cases hst : stepG p s l with
  | none => simp [hst] at h
  | some s1 => exact ⟨s1, rfl, by simpa only [hst] using h⟩

/-! ### concrete runs (used for the non-vacuity examples) -/

/-- run a list of labels, checking that every step is one a healthy connection can produce -/
def runH : State → List Label → Option State
  | s, [] => some s
  | s, l :: ls =>
    if healthy s l = true then
      match step? s l with
      | some s' => runH s' ls
      | none => none
    else none

/-- the state a trace leads to from `init` (`init` itself when the trace is not a run) -/
def stateAt (ls : List Label) : State := (run init ls).getD init

/-- the same for healthy runs -/
def stateAtH (ls : List Label) : State := (runH init ls).getD init

theorem reachable_stateAt (ls : List Label) : Reachable (stateAt ls) := by
  unfold stateAt
  cases h : run init ls with
  | none => exact .init
  | some s => exact run_reachable .init h

theorem runG_reachablePinned {s s' : State} {ls : List Label} (h : ReachablePinned s)
    (hr : runG true s ls = some s') : ReachablePinned s' := by
  induction ls generalizing s with
  | nil => simp [runG] at hr; exact hr ▸ h
  | cons l ls ih =>
    obtain ⟨s1, hst, hr⟩ := runG_cons_inv hr
    exact ih (.step h hst) hr

theorem runH_reachableH {s s' : State} {ls : List Label} (h : ReachableH s)
    (hr : runH s ls = some s') : ReachableH s' := by
  induction ls generalizing s with
  | nil => simp only [runH] at hr; cases hr; exact h
  | cons l ls ih =>
    simp only [runH] at hr
    split at hr
    · rename_i hh
      cases hst : step? s l with
      | none => simp [hst] at hr
      | some s1 =>
        simp only [hst] at hr
        exact ih (.step h hst hh) hr
    · cases hr

theorem reachableH_stateAtH (ls : List Label) : ReachableH (stateAtH ls) := by
  unfold stateAtH
  cases h : runH init ls with
  | none => exact .init
  | some s => exact runH_reachableH .init h

/-! ### the successful branches of each thread's step function

  One constructor per branch that returns `some _`, with the guards the step function tests and
  the successor state as it builds it. `step*_inv` and `Step.inv` say that every step is one of
  these branches, `*.step` that every branch is a step. Every invariant is proved by `cases` on the
  relations, treating by name the few branches that touch the fields it speaks of; a proof that a
  step is enabled names the branch. -/

def Item.msg? : Item → Option Msg
  | .msg m => some m
  | _ => none

/-- `ExecutionResult` of a work-done message: a payload that does not decode is an error -/
def resOf : Option Nat → Res
  | some y => .ok y
  | none => .err

/-- messages the read loop only logs -/
def Msg.ignored : Msg → Bool
  | .signal .. | .unknown _ | .error _ false false => true
  | _ => false

/-- the correct server's bookkeeping on receiving `m` -/
def Srv.recv (v : Srv) : CMsg → Srv
  | .workStart r => if v.gotDone then v else { v with owed := v.owed ++ [r] }
  | .clientDone => { v with gotDone := true }
  | _ => v

theorem Srv.recv_ended (v : Srv) (m : CMsg) : (v.recv m).ended = v.ended := by
  cases m <;> simp only [Srv.recv] <;> split <;> rfl

theorem Srv.recv_owed {v : Srv} {m : CMsg} {r : Run} (h : r ∈ v.owed) : r ∈ (v.recv m).owed := by
  cases m <;> simp only [Srv.recv] <;> (try split) <;> simp [h]

theorem Srv.recv_gotDone {v : Srv} {m : CMsg} (h : v.gotDone = true) :
    (v.recv m).gotDone = true := by
  cases m <;> simp only [Srv.recv] <;> (try split) <;> simp [h]

theorem Srv.recv_workStart (v : Srv) (r : Run) :
    r ∈ (v.recv (.workStart r)).owed ∨ (v.recv (.workStart r)).gotDone = true := by
  simp only [Srv.recv]; split <;> simp_all

theorem Srv.recv_owed_length (v : Srv) (m : CMsg) : (v.recv m).owed.length ≤ v.owed.length + 1 := by
  cases m <;> simp only [Srv.recv] <;> (try split) <;> simp

inductive RsStep (s : State) : Label → State → Prop
  | call : s.rs = .idle → RsStep s .rsCall { s with rs := .called }
  | send : s.rs = .called →
      RsStep s (.rsSend true) { s with rs := .sentNil, c2s := s.c2s ++ [.startOutput] }
  | sendFail : s.rs = .called → RsStep s (.rsSend false) { s with rs := .returned false }
  | hello {v ok rest} : s.rs = .sentNil → s.s2c = .hello v ok :: rest → v = 1 ∨ v = 3 →
      RsStep s .rsRead { s with s2c := rest, ver := v, rs := .returned ok }
  | readBad {it rest} : s.rs = .sentNil → s.s2c = it :: rest →
      (∀ v ok, it = .hello v ok → ¬(v = 1 ∨ v = 3)) →
      RsStep s .rsRead { s with s2c := (if it.sticky then s.s2c else rest), rs := .returned false }
  | ret {b} : s.rs = .returned b → RsStep s .rsRet { s with rs := .finished }

/-- the read loop of the current code (`stepLoop false`) -/
inductive LoopStep (s : State) : Label → State → Prop
  | readDone {l r x rest} : s.loops.lookup l = some .decode →
      s.s2c = .msg (.workDone r (some x)) :: rest →
      LoopStep s (.lRead l) { s with s2c := rest, consumed := s.consumed ++ [(r, x)],
                                     loops := setT s.loops l (.handle (some (.workDone r (some x)))) }
  | read {l it rest} : s.loops.lookup l = some .decode → s.s2c = it :: rest →
      (∀ r x, it ≠ .msg (.workDone r (some x))) →
      LoopStep s (.lRead l) { s with s2c := (if it.sticky then s.s2c else rest),
                                     loops := setT s.loops l (.handle it.msg?) }
  /-- `sendErrorToAllAndStopReading`, then the loop returns: a decode error or a server-fatal error -/
  | fatal {l om} : s.loops.lookup l = some (.handle om) →
      om = none ∨ (∃ r sf, om = some (.error r sf true)) →
      LoopStep s (.lDeliver l) { s with entries := failAll s.entries,
                                        sigs := closeSigs s.sigs s.entries, flag := false, loops := delT s.loops l }
  | done {l r x} : s.loops.lookup l = some (.handle (some (.workDone r x))) →
      LoopStep s (.lDeliver l) { s with entries := setRes s.entries r (resOf x),
                                        sigs := s.sigs.filter (· != r), loops := setT s.loops l .check }
  | stepFatalAll {l} : s.loops.lookup l = some (.handle (some (.error 0 true false))) →
      LoopStep s (.lDeliver l) { s with entries := failAll s.entries,
                                        sigs := closeSigs s.sigs s.entries, loops := setT s.loops l .check }
  | stepFatal {l r} : s.loops.lookup l = some (.handle (some (.error r true false))) → r ≠ 0 →
      LoopStep s (.lDeliver l) { s with entries := setRes s.entries r .err,
                                        sigs := s.sigs.filter (· != r), loops := setT s.loops l .check }
  | ignore {l m} : s.loops.lookup l = some (.handle (some m)) → m.ignored = true →
      LoopStep s (.lDeliver l) { s with loops := setT s.loops l .check }
  | again {l} : s.loops.lookup l = some .check → anyPending s.entries = true →
      LoopStep s (.lCheck l) { s with loops := setT s.loops l .decode }
  | exit {l} : s.loops.lookup l = some .check → anyPending s.entries = false →
      LoopStep s (.lCheck l) { s with flag := false, loops := delT s.loops l }

/-- `Execute`: apart from `call`, every branch moves caller `c` from `k` to `{ k with pc := _ }` -/
inductive CallerStep (s : State) : Label → State → Prop
  | call {c r a b} : fresh s c = true →
      CallerStep s (.call c r a b) { s with callers := s.callers ++
        [(c, ⟨r, a, b, .start (a && decide (s.ver > 1) && decide (r ≠ 0))⟩)] }
  | reject {c k b} : s.callers.lookup c = some k → k.pc = .start b → k.run = 0 →
      CallerStep s (.cReject c) { s with callers := setT s.callers c { k with pc := .returned .err } }
  | spawnRefused {c w k} : s.callers.lookup c = some k → k.pc = .start true → s.done = true →
      CallerStep s (.cSpawnW c w)
        { s with callers := setT s.callers c { k with pc := .returned .err } }
  | spawn {c w k} : s.callers.lookup c = some k → k.pc = .start true → s.done = false →
      fresh s w = true →
      CallerStep s (.cSpawnW c w) { s with callers := setT s.callers c { k with pc := .start false },
                                           writers := s.writers ++ [(w, .init)] }
  /-- `Close` has begun, or the run ID is already registered -/
  | registerRefused {c k} : s.callers.lookup c = some k →
      k.pc = .start false → k.run ≠ 0 → s.ver > 1 → s.done = true ∨ hasKey s.entries k.run = true →
      CallerStep s (.cRegister c none)
        { s with callers := setT s.callers c { k with pc := .returned .err } }
  | register {c k} : s.callers.lookup c = some k → k.pc = .start false → k.run ≠ 0 → s.ver > 1 →
      s.done = false → hasKey s.entries k.run = false → s.flag = true →
      CallerStep s (.cRegister c none) { s with entries := s.entries ++ [(k.run, .pending)],
                                                sigs := if k.wantFrom then s.sigs ++ [k.run] else s.sigs,
                                                callers := setT s.callers c { k with pc := .registered } }
  | registerLoop {c l k} : s.callers.lookup c = some k →
      k.pc = .start false → k.run ≠ 0 → s.ver > 1 →
      s.done = false → hasKey s.entries k.run = false → s.flag = false → fresh s l = true →
      CallerStep s (.cRegister c (some l)) { s with entries := s.entries ++ [(k.run, .pending)],
                                                    sigs := if k.wantFrom then s.sigs ++ [k.run] else s.sigs,
                                                    callers := setT s.callers c { k with pc := .registered }, flag := true,
                                                    loops := s.loops ++ [(l, .decode)] }
  | send {c k} : s.callers.lookup c = some k → k.pc = .registered →
      CallerStep s (.cSend c true) { s with c2s := s.c2s ++ [.workStart k.run],
                                            callers := setT s.callers c { k with pc := .sent } }
  | sendFail {c k} : s.callers.lookup c = some k → k.pc = .registered →
      CallerStep s (.cSend c false) { s with callers := setT s.callers c { k with pc := .sendFailed } }
  | sendV1 {c k} : s.callers.lookup c = some k → k.pc = .start false → k.run ≠ 0 → s.ver ≤ 1 →
      CallerStep s (.cSend c true) { s with c2s := s.c2s ++ [.workStartV1],
                                            callers := setT s.callers c { k with pc := .sentV1 } }
  | sendV1Fail {c k} : s.callers.lookup c = some k → k.pc = .start false → k.run ≠ 0 → s.ver ≤ 1 →
      CallerStep s (.cSend c false)
        { s with callers := setT s.callers c { k with pc := .returned .err } }
  /-- `removeResultChannels` after the failed write -/
  | abandon {c k} : s.callers.lookup c = some k → k.pc = .sendFailed →
      CallerStep s (.cAbandon c) { s with entries := delT s.entries k.run,
                                          sigs := s.sigs.filter (· != k.run),
                                          callers := setT s.callers c { k with pc := .returned .err } }
  | wait {c k} : s.callers.lookup c = some k →
      k.pc = .sent → s.entries.lookup k.run = some .pending →
      CallerStep s (.cWait c) { s with callers := setT s.callers c { k with pc := .waiting } }
  | take {c k v} : s.callers.lookup c = some k → k.pc = .sent ∨ k.pc = .waiting →
      s.entries.lookup k.run = some (.result v) →
      CallerStep s (.cTake c) { s with entries := delT s.entries k.run,
                                       callers := setT s.callers c { k with pc := .returned v } }
  | takeGone {c k} : s.callers.lookup c = some k → k.pc = .sent → s.entries.lookup k.run = none →
      CallerStep s (.cTake c) { s with callers := setT s.callers c { k with pc := .returned .err } }
  | readV1 {c k x rest} : s.callers.lookup c = some k → s.s2c = .v1done x :: rest → k.pc = .sentV1 →
      CallerStep s (.cReadV1 c) { s with s2c := rest, consumed := s.consumed ++ [(k.run, x)],
                                         callers := setT s.callers c { k with pc := .returned (.ok x) } }
  | readV1Bad {c k it rest} : s.callers.lookup c = some k → s.s2c = it :: rest → k.pc = .sentV1 →
      (∀ x, it ≠ .v1done x) →
      CallerStep s (.cReadV1 c) { s with s2c := (if it.sticky then s.s2c else rest),
                                         callers := setT s.callers c { k with pc := .returned .err } }
  | ret {c k res} : s.callers.lookup c = some k → k.pc = .returned res →
      CallerStep s (.cRet c res) { s with callers := setT s.callers c { k with pc := .finished },
                                          retd := s.retd ++ [c] }

inductive WriterStep (s : State) : Label → State → Prop
  | check {w} : s.writers.lookup w = some .init →
      WriterStep s (.wCheck w) { s with writers := setT s.writers w .select }
  /-- a signal with a blank run ID is logged and ends the writer -/
  | recvBlank {w} : s.writers.lookup w = some .select →
      WriterStep s (.wRecv w 0) { s with writers := delT s.writers w }
  | recv {w r} : s.writers.lookup w = some .select → r ≠ 0 →
      WriterStep s (.wRecv w r) { s with writers := setT s.writers w (.have r) }
  | closed {w} : s.writers.lookup w = some .select →
      WriterStep s (.wClosed w) { s with writers := delT s.writers w }
  | cancel {w} : s.writers.lookup w = some .select → s.cancelled = true →
      WriterStep s (.wCancel w) { s with writers := delT s.writers w }
  | send {w r} : s.writers.lookup w = some (.have r) →
      WriterStep s (.wSend w true)
        { s with c2s := s.c2s ++ [.signal r], writers := setT s.writers w .select }
  | sendFail {w r} : s.writers.lookup w = some (.have r) →
      WriterStep s (.wSend w false) { s with writers := delT s.writers w }

inductive CloserStep (s : State) : Label → State → Prop
  | call : s.closer = .idle → CloserStep s .clCall { s with closer := .called }
  | cancel : s.closer = .called →
      CloserStep s .clCancel { s with closer := .cancelled, cancelled := true }
  | markAgain : s.closer = .cancelled → s.done = true →
      CloserStep s .clMark { s with closer := .returned true }
  | mark : s.closer = .cancelled → s.done = false →
      CloserStep s .clMark { s with closer := .marked, done := true }
  | send : s.closer = .marked → s.ver > 1 →
      CloserStep s (.clSend true) { s with closer := .sentDone, c2s := s.c2s ++ [.clientDone] }
  | sendFail : s.closer = .marked → s.ver > 1 →
      CloserStep s (.clSend false) { s with closer := .failed }
  /-- `wg.Wait()` has returned -/
  | ret : wgZero s = true → s.closer = .sentDone ∨ (s.closer = .marked ∧ s.ver ≤ 1) →
      CloserStep s .clRet { s with closer := .returned true }
  | retFailed : wgZero s = true → s.closer = .failed →
      CloserStep s .clRet { s with closer := .returned false }
  | timeout : s.closer = .failed → wgZero s = false →
      CloserStep s .clTimeout { s with closer := .returned false }

inductive EnvStep (s : State) : Label → State → Prop
  | recv {m rest} : s.c2s = m :: rest →
      EnvStep s .sRecv { s with c2s := rest, srv := s.srv.recv m }
  | done {r x} : s.srv.ended = false → srvMay s.srv (.workDone r x) = true →
      EnvStep s (.sSend (.workDone r x)) { s with s2c := s.s2c ++ [.msg (.workDone r x)],
                                                  srv := { s.srv with owed := s.srv.owed.erase r } }
  /-- a server-fatal error is the server's last message; it then ends its output -/
  | fatal {r sf} : s.srv.ended = false → srvMay s.srv (.error r sf true) = true →
      EnvStep s (.sSend (.error r sf true)) { s with s2c := s.s2c ++ [.msg (.error r sf true), .eof],
                                                     srv := { s.srv with owed := [], ended := true } }
  | stepFatal {r} : s.srv.ended = false → srvMay s.srv (.error r true false) = true → r ≠ 0 →
      EnvStep s (.sSend (.error r true false)) { s with
        s2c := s.s2c ++ [.msg (.error r true false)],
        srv := { s.srv with owed := s.srv.owed.erase r } }
  | other {m} : s.srv.ended = false → srvMay s.srv m = true → m.isOwedTerminal = false →
      (∀ r sf, m ≠ .error r sf true) →
      EnvStep s (.sSend m) { s with s2c := s.s2c ++ [.msg m] }
  | «end» : s.srv.ended = false → s.srv.gotDone = true → s.srv.owed = [] →
      EnvStep s .sEnd { s with s2c := s.s2c ++ [.eof], srv := { s.srv with ended := true } }
  | put {it} : s.srv.ended = false →
      EnvStep s (.envPut it) { s with s2c := s.s2c ++ [it], srv := { s.srv with ended := it.sticky } }
  | late {m} : EnvStep s (.envLate m) { s with c2s := s.c2s ++ [m] }

/-- Splits `h : step… s l = some s'` into the branches that return `some _` and substitutes the
    successor state; then puts the guards into the form the relations state them in (`b = false`
    for `¬ b = true`, conjunctions apart, label parameters substituted) and closes every goal
    whose hypotheses are exactly those of one constructor. -/
syntax "step_split " ident : tactic
macro_rules
  | `(tactic| step_split $h:ident) =>
    `(tactic| (repeat' (first | contradiction | (injection $h:ident with $h:ident <;> subst $h:ident)
                              | split at $h:ident)) <;>
              ((try simp only [Bool.not_eq_true] at *); (try subst_vars); (repeat cases ‹_ ∧ _›);
               first | (constructor <;> assumption) | skip))

theorem stepRs_inv {s s' : State} {l : Label} (h : stepRs s l = some s') : RsStep s l s' := by
  cases l <;> simp only [stepRs] at h <;> step_split h
  -- left over, both from `rsRead`: a hello with an unsupported version; any item but a hello
  · exact .readBad ‹_› ‹_› (by rintro _ _ ⟨⟩; assumption)
  · rename_i hne; exact .readBad ‹_› ‹_› (fun v ok e => (hne v ok e).elim)

theorem stepLoop_inv {s s' : State} {l : Label} (h : stepLoop false s l = some s') :
    LoopStep s l s' := by
  cases l <;> simp only [stepLoop, Bool.false_eq_true, if_false] at h <;> step_split h
  · rename_i it rest hl hs
    cases it with
    | msg m => cases m with
      | workDone r x => cases x with
        | some x => exact .readDone hl hs
        | none => exact .read hl hs (by simp)
      | _ => exact .read hl hs (by simp)
    | _ => exact .read hl hs (by simp)
  -- `lDeliver` of: a decode error, a signal, a server-fatal error, an error with both flags clear,
  -- an unknown message (the other branches have been matched to their constructors)
  · exact .fatal ‹_› (.inl rfl)
  · exact .ignore ‹_› rfl
  · exact .fatal ‹_› (.inr ⟨_, _, rfl⟩)
  · exact .ignore ‹_› rfl
  · exact .ignore ‹_› rfl

theorem ite_eq_some_iff {α} {p : Prop} [Decidable p] {a b : Option α} {x : α} :
    (if p then a else b) = some x ↔ p ∧ a = some x ∨ ¬p ∧ b = some x := by
  by_cases hp : p <;> simp [hp]

theorem stepCaller_inv {s s' : State} {l : Label} (h : stepCaller s l = some s') :
    CallerStep s l s' := by
  cases l <;> simp only [stepCaller] at h
  case cRegister c lo =>
    -- the if-chain as a disjunction: splitting a term of this size is slow
    cases hk : s.callers.lookup c with
    | none => simp only [hk, reduceCtorEq] at h
    | some k =>
      simp only [hk, ite_eq_some_iff, Option.some.injEq, Bool.not_eq_true, reduceCtorEq, and_false,
        or_false] at h
      obtain ⟨⟨hp, hr, hv⟩, ⟨hd, rfl, rfl⟩ | ⟨hd, ⟨he, rfl, rfl⟩ | ⟨he, ⟨hf, rfl, rfl⟩ | ⟨hf, h⟩⟩⟩⟩ := h
      · exact .registerRefused hk hp hr hv (.inl hd)
      · exact .registerRefused hk hp hr hv (.inr he)
      · exact .register hk hp hr hv hd he hf
      · cases lo <;> simp only [Option.ite_none_right_eq_some, Option.some.injEq, reduceCtorEq] at h
        obtain ⟨hl, rfl⟩ := h
        exact .registerLoop hk hp hr hv hd he hf hl
  all_goals step_split h

theorem stepWriter_inv {s s' : State} {l : Label} (h : stepWriter s l = some s') :
    WriterStep s l s' := by
  cases l <;> simp only [stepWriter] at h <;> step_split h

theorem stepCloser_inv {s s' : State} {l : Label} (h : stepCloser s l = some s') :
    CloserStep s l s' := by
  cases l <;> simp only [stepCloser] at h <;> step_split h

theorem stepEnv_inv {s s' : State} {l : Label} (h : stepEnv s l = some s') : EnvStep s l s' := by
  cases l <;> simp only [stepEnv] at h <;> step_split h
  -- `sSend` of: a step-fatal error for a non-blank run; any other non-server-fatal error; a signal
  -- or an unknown message
  · subst_vars; exact .stepFatal ‹_› ‹_› ‹_›
  · rename_i r sf hn he hm
    refine .other he hm ?_ (by simp)
    -- not an owed terminal: `hn` says the error is not step-fatal for a non-blank run
    cases sf <;> simp_all [Msg.isOwedTerminal]
  · rename_i m _ hd hf he hm
    refine .other he hm ?_ (fun r sf e => hf r sf true e)
    cases m <;> simp_all [Msg.isOwedTerminal]

theorem Step.inv {s s' : State} {l : Label} (h : Step s l s') :
    RsStep s l s' ∨ CallerStep s l s' ∨ LoopStep s l s' ∨ WriterStep s l s' ∨ CloserStep s l s' ∨
      EnvStep s l s' := by
  unfold Step step? stepG at h
  split at h
  · exact .inl (stepRs_inv h)
  · exact .inr (.inl (stepCaller_inv h))
  · exact .inr (.inr (.inl (stepLoop_inv h)))
  · exact .inr (.inr (.inr (.inl (stepWriter_inv h))))
  · exact .inr (.inr (.inr (.inr (.inl (stepCloser_inv h)))))
  · exact .inr (.inr (.inr (.inr (.inr (stepEnv_inv h)))))

/-! Conversely, every branch is a step of the current code. -/

theorem RsStep.step {s s' : State} {l : Label} (h : RsStep s l s') : Step s l s' := by
  cases h with
  | @readBad it _ _ _ hne =>
    cases it <;> simp [Step, step?, stepG, Label.owner, stepRs, Item.sticky, *]
  | _ => simp [Step, step?, stepG, Label.owner, stepRs, Item.sticky, *]

theorem LoopStep.step {s s' : State} {l : Label} (h : LoopStep s l s') : Step s l s' := by
  cases h with
  | @read _ it _ _ _ hne =>
    rcases it with (⟨_, _ | _⟩ | _ | _ | _) | _ | _ | _ | _ | _ | _ <;>
      simp [Step, step?, stepG, Label.owner, stepLoop, Item.sticky, Item.msg?, *]
    exact (hne _ _ rfl).elim
  | @done _ _ x => cases x <;> simp [Step, step?, stepG, Label.owner, stepLoop, resOf, *]
  | fatal _ ho => rcases ho with rfl | ⟨_, _, rfl⟩ <;> simp [Step, step?, stepG, Label.owner, stepLoop, *]
  | @ignore _ m _ hm =>
    rcases m with _ | _ | ⟨_, _ | _, _ | _⟩ | _ <;>
      simp_all [Step, step?, stepG, Label.owner, stepLoop, Msg.ignored]
  | _ => simp [Step, step?, stepG, Label.owner, stepLoop, Item.sticky, *]

theorem CallerStep.step {s s' : State} {l : Label} (h : CallerStep s l s') : Step s l s' := by
  cases h with
  | @readV1Bad _ _ it _ _ _ _ hne =>
    cases it <;> simp_all [Step, step?, stepG, Label.owner, stepCaller, Item.sticky]
  | registerRefused _ _ _ _ hr =>
    rcases hr with hr | hr <;> simp [Step, step?, stepG, Label.owner, stepCaller, *]
  | take _ hpc => rcases hpc with hpc | hpc <;> simp [Step, step?, stepG, Label.owner, stepCaller, *]
  | _ => simp [Step, step?, stepG, Label.owner, stepCaller, Item.sticky, *]

theorem WriterStep.step {s s' : State} {l : Label} (h : WriterStep s l s') : Step s l s' := by
  cases h <;> simp [Step, step?, stepG, Label.owner, stepWriter, *]

theorem CloserStep.step {s s' : State} {l : Label} (h : CloserStep s l s') : Step s l s' := by
  cases h <;> simp [Step, step?, stepG, Label.owner, stepCloser, *]

theorem EnvStep.step {s s' : State} {l : Label} (h : EnvStep s l s') : Step s l s' := by
  cases h with
  | @recv m => cases m <;> simp [Step, step?, stepG, Label.owner, stepEnv, Srv.recv, *]
  | @other m _ _ ho hf =>
    rcases m with _ | _ | ⟨_, _ | _, _ | _⟩ | _ <;>
      simp_all [Step, step?, stepG, Label.owner, stepEnv, Msg.isOwedTerminal]
  | _ => simp [Step, step?, stepG, Label.owner, stepEnv, *]

/-- a loop that holds a message or a decode error can always deliver it -/
theorem LoopStep.deliver {s : State} {t : Tid} {om : Option Msg}
    (hl : s.loops.lookup t = some (.handle om)) : ∃ s', LoopStep s (.lDeliver t) s' := by
  rcases om with _ | ⟨r, x⟩ | ⟨r, g⟩ | ⟨r, sf, vf⟩ | r
  · exact ⟨_, .fatal hl (.inl rfl)⟩
  · exact ⟨_, .done hl⟩
  · exact ⟨_, .ignore hl rfl⟩
  · cases vf
    · cases sf
      · exact ⟨_, .ignore hl rfl⟩
      · by_cases hr : r = 0
        · subst hr; exact ⟨_, .stepFatalAll hl⟩
        · exact ⟨_, .stepFatal hl hr⟩
    · exact ⟨_, .fatal hl (.inr ⟨_, _, rfl⟩)⟩
  · exact ⟨_, .ignore hl rfl⟩

end Arca.AtpClient
